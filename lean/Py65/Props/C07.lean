/-
C07 -- The assembler emits the documented encoding or refuses; it never mis-assembles.

About the hand model `Py65.Model.Asm` of `py65/assembler.py` on the three device records built from the
GENERATED tables.  The oracle is `Py65.Spec.Asm` (documented encoding
from the tables of `Spec/Isa.lean`).

`assembleVal d m sh x pc` (Proofs/AsmLemmas) is the model's back end -- the ordered template loop,
`list.index`, byte swap, branch computation, top-of-memory check -- applied to the operand text
that `normalize_and_split` produces for the operand shape `sh` and the operand value `x`, after the
range check it applies to `x`.  `m` is ANY mnemonic text (declared by the device or not), `x` and
`pc` are ANY integers.

String level: the whole of `assemble` (`' '.join(split())`, the `Statement` scanner, `number`,
re-formatting, `split(" ", 1)`, blank removal, `strip`, `upper`, then the back end).

Hypotheses of `asm_sound`: the parser has the device's address width and in-range label values (as in
`asm_text`), and NO LABEL NAME CONTAINS `(` (`LabelsNoParen`, decidable).  The last one
is necessary: `asm_sound_label_paren` -- with a label `a(b` the text `LDA a(b` assembles
to `A5 05` although its tokens `LDA a ( b` denote nothing (the scanner's operand class
`[^,\s\)]` lets `(` into the operand word; label names are not restricted by py65).
Two points of the Spec's tokeniser that it rests on (see Spec/Asm.lean): white space is
everything `str.split()` splits at, and a character literal `#'('` is one token
(`asm_sound_newline`, `asm_sound_charlit_paren`); `,` `)` and white space as the quoted character are
refused by the assembler (its scanner ends the operand word there), which soundness permits.
-/
import Py65.Proofs.AsmRound
import Py65.Proofs.AsmSound
import Py65.Props.C15

namespace Py65.Props.C07
open Py65.Model Py65.Model.PyStr Py65.Model.AddrParser Py65.Model.Asm
open Py65.Proofs.Asm
open Py65.Spec (Mode Mn Variant decode)
open Py65.Spec.Asm (opcodeOf Shape Outcome Refusal Stmt encode encodeIn encodeAbs Documented disp isZp fits
  operandBytes mnText)

variable {d : Dev} {v : Variant} {W : Nat}

/-- `asm_core`: for every device, every mnemonic text, every operand shape, every operand value and
every assembly address, the back end on the canonical operand text returns exactly the documented
encoding, or the documented refusal. -/
theorem asm_core (hd : IsDevice d v W) (m : Str) (sh : Shape) (x pc : Int) :
    assembleVal d m sh x pc = toARes (encode v W ⟨m, sh, x⟩ pc) :=
  asm_core_of_devOK hd.ok m sh x pc

-- non-vacuity: declared pair; operand low then high; pair the device lacks; value out of range;
-- code running past the top; 65C02-only mode; 16-bit bytes
example : assembleVal dev6502 "LDA".toList .dirX 0x1234 0 = .ok [0xbd, 0x34, 0x12] := by decide +kernel
example : assembleVal dev6502 "STX".toList .dirY 0x1234 0 = .syntax := by decide +kernel
example : assembleVal dev6502 "LDA".toList .imm 256 0 = .overflow := by decide +kernel
example : assembleVal dev6502 "LDA".toList .dir 0x10000 0 = .overflow := by decide +kernel
example : assembleVal dev6502 "LDA".toList .dir 0x10 0xffff = .overflow := by decide +kernel
example : assembleVal dev6502 "LDA".toList .dir 0x10 0xfffe = .ok [0xa5, 0x10] := by decide +kernel
example : assembleVal dev65c02 "JMP".toList .indX 0x1234 0 = .ok [0x7c, 0x34, 0x12] := by decide +kernel
example : assembleVal dev6502 "JMP".toList .indX 0x1234 0 = .syntax := by decide +kernel
example : assembleVal dev65org16 "LDA".toList .dir 0x12345 0 = .ok [0xad, 0x2345, 0x1] := by decide +kernel
example : assembleVal dev6502 "???".toList .none 0 0 = .syntax := by decide +kernel

/-- Whatever comes back as bytes is a documented encoding of the statement. -/
theorem asm_core_documented (hd : IsDevice d v W) (m : Str) (sh : Shape) (x pc : Int) (bs : List Int)
    (h : assembleVal d m sh x pc = .ok bs) : Documented v W ⟨m, sh, x⟩ pc bs := by
  rw [asm_core hd] at h
  exact Or.inl (toARes_ok h)

/-- The three shapes that have a zero-page and an absolute form. -/
inductive Twin : Shape → Mode → Mode → Prop
  | dir : Twin .dir .zpg .abs
  | dirX : Twin .dirX .zpx .abx
  | dirY : Twin .dirY .zpy .aby

/-- `asm_zp_order`: an operand below one page is assembled in the zero-page form whenever the
device declares that form for the mnemonic (whether or not it also declares the absolute form). -/
theorem asm_zp_order (hd : IsDevice d v W) (m : Str) {sh : Shape} {zp ab : Mode} (ht : Twin sh zp ab)
    (x pc : Int) (hx : 0 ≤ x ∧ x < 2 ^ W) (op : Nat) (hop : opcodeOf v m zp = some op)
    (hpc : pc + 2 ≤ 2 ^ (2 * W)) :
    assembleVal d m sh x pc = .ok [(op : Int), x] := by
  rw [asm_core hd]
  have hx2 := byte_lt_addr hd.ok.hW hx.2
  have hnot : ¬ 2 ^ (2 * W) < pc + 2 := by omega
  cases ht <;>
    simp [encode, Shape.inRange, Shape.modes, encodeIn, hop, fits, isZp, operandBytes, Mode.len, hx, hx2,
      hnot, toARes]

/-- `asm_abs_form`: when the zero-page form does not apply (the device lacks it for the mnemonic, or
the operand is a page or more), the absolute form is assembled: opcode, low byte, high byte. -/
theorem asm_abs_form (hd : IsDevice d v W) (m : Str) {sh : Shape} {zp ab : Mode} (ht : Twin sh zp ab)
    (x pc : Int) (hx : 0 ≤ x ∧ x < 2 ^ (2 * W)) (hzp : opcodeOf v m zp = none ∨ 2 ^ W ≤ x)
    (op : Nat) (hop : opcodeOf v m ab = some op) (hpc : pc + 3 ≤ 2 ^ (2 * W)) :
    assembleVal d m sh x pc = .ok [(op : Int), x % 2 ^ W, x / 2 ^ W] := by
  rw [asm_core hd]
  have hnot : ¬ 2 ^ (2 * W) < pc + 3 := by omega
  have hskip : ∀ rest, encodeIn v W m x pc (zp :: rest) = encodeIn v W m x pc rest := fun rest =>
    encodeIn_skip rest (hzp.imp id fun h => by cases ht <;> simp [fits, isZp] <;> omega)
  cases ht <;>
    simp [encode, Shape.inRange, Shape.modes, hskip, encodeIn, hop, fits, isZp, operandBytes, Mode.len, hx,
      hnot, toARes]

example : opcodeOf .nmos "LDA".toList .zpg = some 0xa5 ∧ opcodeOf .nmos "LDA".toList .abs = some 0xad ∧
    opcodeOf .nmos "JMP".toList .zpg = none ∧ opcodeOf .nmos "JMP".toList .abs = some 0x4c := by
  simp only [ok6502.opcodeOf_table (m := "LDA".toList) (by decide),
    ok6502.opcodeOf_table (m := "JMP".toList) (by decide)]
  decide +kernel

/-- The documented displacement `d = disp W target pc` satisfies `pc + 2 + d ≡ target` modulo the
address space and is the representative in `[-2^(2W-1), 2^(2W-1))`. -/
theorem disp_spec {W : Nat} (hW : W = 8 ∨ W = 16) (target pc : Int) (ht : 0 ≤ target ∧ target < 2 ^ (2 * W)) :
    (pc + 2 + disp W target pc) % 2 ^ (2 * W) = target ∧
    -(2 ^ (2 * W - 1)) ≤ disp W target pc ∧ disp W target pc < 2 ^ (2 * W - 1) := by
  unfold disp
  rcases hW with rfl | rfl
  · norm_num at ht ⊢
    split_ifs <;> omega
  · norm_num at ht ⊢
    split_ifs <;> omega

/-- `asm_branch`: a mnemonic that has only the relative mode assembles to opcode and displacement
byte exactly when the displacement fits the signed byte range `[-2^(W-1), 2^(W-1))` and the two
bytes lie inside the address space; otherwise it is an `OverflowError`.  The displacement wraps
modulo the address space (`BNE $0000` at `$FFFE` has displacement 0). -/
theorem asm_branch (hd : IsDevice d v W) (m : Str) (op : Nat) (hrel : opcodeOf v m .rel = some op)
    (hz : opcodeOf v m .zpg = none) (ha : opcodeOf v m .abs = none) (target pc : Int)
    (ht : 0 ≤ target ∧ target < 2 ^ (2 * W)) :
    assembleVal d m .dir target pc =
      if -(2 ^ (W - 1)) ≤ disp W target pc ∧ disp W target pc < 2 ^ (W - 1) ∧ pc + 2 ≤ 2 ^ (2 * W)
      then .ok [(op : Int), disp W target pc % 2 ^ W] else .overflow := by
  rw [asm_core hd]
  simp only [encode, Shape.inRange, ht, and_self, decide_true, if_true, Shape.modes, encodeIn, hz, ha,
    hrel, fits, isZp, Bool.false_eq_true, if_false, operandBytes]
  have hl : Mode.rel.len = 2 := rfl
  rw [hl]
  split_ifs <;> first | rfl | omega

example : assembleVal dev6502 "BNE".toList .dir 0x0000 0xfffe = .ok [0xd0, 0x00] := by decide +kernel
example : assembleVal dev6502 "BNE".toList .dir 0x0081 0 = .ok [0xd0, 0x7f] := by decide +kernel
example : assembleVal dev6502 "BNE".toList .dir 0x0082 0 = .overflow := by decide +kernel
example : assembleVal dev6502 "BNE".toList .dir 0xff82 0 = .ok [0xd0, 0x80] := by decide +kernel
example : assembleVal dev6502 "BNE".toList .dir 0xff81 0 = .overflow := by decide +kernel
example : assembleVal dev6502 "BNE".toList .dir 0x0000 0xffff = .overflow := by decide +kernel
example : assembleVal dev65org16 "BNE".toList .dir 0xffff8002 0 = .ok [0xd0, 0x8000] := by decide +kernel

/-- a mnemonic with a relative row has no zero-page and no absolute row: of the modes tried before
`rel` a row declares none (`row_facts`) -/
theorem rel_only {v : Variant} {mn : Mn} {n : Nat} (hn : n < 256) (hdec : decode v n = some (mn, .rel)) :
    opcodeOf v (mnText mn) .zpg = none ∧ opcodeOf v (mnText mn) .abs = none :=
  have h := (row_facts v hn hdec).2.2.2
  ⟨(h .zpg (by decide)).resolve_left (by decide), (h .abs (by decide)).resolve_left (by decide)⟩

/-- every branch mnemonic has only the relative mode, on every variant that declares it -/
theorem branch_only_rel : ∀ v : Variant, ∀ mn ∈ [Mn.BCC, .BCS, .BEQ, .BMI, .BNE, .BPL, .BVC, .BVS, .BRA],
    opcodeOf v (mnText mn) .zpg = none ∧ opcodeOf v (mnText mn) .abs = none := by
  intro v mn hmn
  -- the branch opcodes; `BRA` is the one that only the 65C02 has
  have hrow : (v = .nmos ∧ mn = .BRA) ∨
      ∃ n ∈ [0x10, 0x30, 0x50, 0x70, 0x80, 0x90, 0xb0, 0xd0, 0xf0],
        n < 256 ∧ decode v (n : Nat) = some (mn, .rel) := by
    cases v <;> revert mn <;> decide +kernel
  rcases hrow with ⟨rfl, rfl⟩ | ⟨n, _, hn, hdec⟩
  · rw [ok6502.opcodeOf_table (by decide), ok6502.opcodeOf_table (by decide)]
    decide +kernel
  · exact rel_only hn hdec

/-- `asm_backend_sound` ("never mis-assembles", back end): whatever opcode and operand text reach the
back end, bytes come back only if the operand text is exactly the canonical text of some operand
shape and in-range value, and the bytes are the documented encoding of (opcode, shape, value). -/
theorem asm_backend_sound (hd : IsDevice d v W) (opcode operand : Str) (pc : Int) (bs : List Int)
    (h : backend d opcode operand pc = .ok bs) :
    ∃ sh x, Shape.inRange W sh x = true ∧ operand = canonText W sh x ∧
      encode v W ⟨opcode, sh, x⟩ pc = .ok bs :=
  backend_sound hd.ok opcode operand pc bs h

example : backend dev6502 "LDA".toList "($0010),Y".toList 0 = .ok [0xb1, 0x10] := by decide +kernel
example : backend dev6502 "LDA".toList "$0010 GARBAGE".toList 0 = .syntax := by decide +kernel
example : backend dev6502 "LDA".toList "$0010,X,".toList 0 = .syntax := by decide +kernel

/-- `asm_refusals` (value level): the back end on canonical text never ends in any exception other
than the three documented refusals. -/
theorem asm_refusals (hd : IsDevice d v W) (m : Str) (sh : Shape) (x pc : Int) (w : String) :
    assembleVal d m sh x pc ≠ .other w := by
  rw [asm_core hd]
  exact toARes_ne_other _ w

/-- `asm_text` (address operands): blanks `w0`, mnemonic `M` in any letter case, blanks `w1` (at least
one), `(` for the indirect shapes, blanks `b1`, an operand word `T` (number in any spelling, label,
label±offset), then the remaining tokens of the shape in any register-letter case, each preceded by
arbitrary blanks `gs`, and trailing blanks `wEnd`.  With an operand word that `AddressParser.number`
values at `x` it assembles exactly as `assembleVal` does for `(MNEMONIC upper-cased, shape, x)` -- hence
(with `asm_core`) to `Spec.encode`; an operand word without value is the parser's KeyError /
OverflowError. -/
theorem asm_text (hd : IsDevice d v W) (P : Parser) (hPw : P.width = 2 * W) (hwf : P.WF) (sh : Shape)
    (hsh : Shape.isAddr sh = true) (w0 M w1 b1 T wEnd : Str) (gs : List Str) (cs : Str) (pc : Int)
    (hw0 : Blank w0) (hw1 : Blank w1) (hw1ne : w1 ≠ []) (hb1 : Blank b1) (hwEnd : Blank wEnd)
    (hM : IsMnem M) (hT : AddrWord T)
    (hgs : ∀ g ∈ gs, Blank g) (hlen : gs.length = cs.length) (hcs : upperS cs = afterOf sh) :
    assembleL d P (w0 ++ (M ++ (w1 ++ (leadOf sh ++ (b1 ++ (T ++ (decorate gs cs ++ wEnd))))))) pc =
      match numberL P T with
      | .ok x => toARes (encode v W ⟨upperS M, sh, x⟩ pc)
      | .key => .key
      | .overflow => .overflow
      | .other => .other "number" := by
  obtain ⟨a1, a2, a3⟩ := suffix_ok sh gs cs hgs hlen hcs
  rw [asm_text_addr hd.ok P hPw hwf sh hsh w0 M w1 b1 T _ wEnd pc hw0 hw1 hw1ne hb1 hwEnd hM hT a1 a2 a3]
  cases numberL P T <;> simp only [asm_core hd]

/-- "However the operand is spelled", worked out for `$hex`: any number of leading zeros `z`, any
mixture of letter cases `m` (C15 `spelling`), any blanks, any register-letter case.  The other
spellings (`+decimal`, `%binary`, default radix, label, label±offset) plug the corresponding C15
theorem (`num_dec`, `num_bin`, `num_bare`, `num_label`, `num_label_offset`) into `asm_text` in the
same way: each of them is a statement `numberL P T = .ok n`. -/
theorem asm_spelling_hex (hd : IsDevice d v W) (P : Parser) (hPw : P.width = 2 * W) (hwf : P.WF) (sh : Shape)
    (hsh : Shape.isAddr sh = true) (n z : Nat) (m : List Bool) (hn : n < 2 ^ (2 * W))
    (w0 M w1 b1 wEnd : Str) (gs : List Str) (cs : Str) (pc : Int)
    (hw0 : Blank w0) (hw1 : Blank w1) (hw1ne : w1 ≠ []) (hb1 : Blank b1) (hwEnd : Blank wEnd)
    (hM : IsMnem M) (hgs : ∀ g ∈ gs, Blank g) (hlen : gs.length = cs.length) (hcs : upperS cs = afterOf sh) :
    assembleL d P (w0 ++ (M ++ (w1 ++ (leadOf sh ++ (b1 ++ (('$' :: spelling 16 z m n) ++
      (decorate gs cs ++ wEnd))))))) pc = toARes (encode v W ⟨upperS M, sh, (n : Int)⟩ pc) := by
  obtain ⟨hne, hdig, _, _⟩ := Py65.Proofs.Num.spelling_spec (b := 16) (by decide) (by decide) z m n
  have hT : AddrWord ('$' :: spelling 16 z m n) := by
    refine ⟨by simp, ?_, by simp, by simp, ?_, ?_⟩
    · intro c hc
      simp only [List.mem_cons] at hc
      rcases hc with rfl | hc
      · decide
      · have ha := (hdig c hc).alnum
        obtain ⟨k, hk, _⟩ := hdig c hc
        have hr := Py65.Proofs.Num.digitVal_range hk
        have h1 : c ≠ ',' := fun e => by rw [e] at ha; exact absurd ha.notsep (by decide)
        have h2 : c ≠ ')' := Py65.Proofs.Num.ne_of_toNat_ne (by show c.toNat ≠ 41; omega)
        simp [isTargetChar, h1, h2, ha.respace]
    · intro e
      have := congrArg List.length e
      simp at this
      exact hne this
    · intro e
      have := congrArg List.length e
      simp at this
      exact hne this
  have hnum : numberL P ('$' :: spelling 16 z m n) = .ok (n : Int) := by
    have hw : n < 2 ^ P.width := by rw [hPw]; exact hn
    have := Py65.Props.C15.num_hex P n z m hw
    simpa [number, String.toList_append, String.toList_ofList] using this
  rw [asm_text hd P hPw hwf sh hsh w0 M w1 b1 _ wEnd gs cs pc hw0 hw1 hw1ne hb1 hwEnd hM hT hgs hlen hcs, hnum]

/-- `asm_text_imm`: `#` and a number / label / label±offset word. -/
theorem asm_text_imm (hd : IsDevice d v W) (P : Parser) (w0 M w1 w wEnd : Str) (pc : Int)
    (hw0 : Blank w0) (hw1 : Blank w1) (hw1ne : w1 ≠ []) (hwEnd : Blank wEnd)
    (hM : IsMnem M) (hw : w ≠ []) (hwc : ∀ c ∈ w, isTargetChar c = true)
    (hq : w.head? ≠ some '\'' ∧ w.head? ≠ some '"') :
    assembleL d P (w0 ++ (M ++ (w1 ++ ('#' :: w ++ wEnd)))) pc =
      match numberL P w with
      | .ok x => toARes (encode v W ⟨upperS M, .imm, x⟩ pc)
      | .key => .key
      | .overflow => .overflow
      | .other => .other "number" := by
  rw [Py65.Proofs.Asm.asm_text_imm hd.ok P w0 M w1 w wEnd pc hw0 hw1 hw1ne hwEnd hM hw hwc hq]
  cases numberL P w <;> simp only [asm_core hd]

/-- `asm_text_char`: `#'c'`, `#"c"` (and the same without the closing quote) is `#ord(c)`. -/
theorem asm_text_char (hd : IsDevice d v W) (P : Parser) (w0 M w1 wEnd : Str) (q ch : Char) (close : Str)
    (pc : Int) (hw0 : Blank w0) (hw1 : Blank w1) (hw1ne : w1 ≠ []) (hwEnd : Blank wEnd)
    (hM : IsMnem M) (hq : q = '\'' ∨ q = '"') (hch : isTargetChar ch = true)
    (hclose : close = [] ∨ close = [q]) :
    assembleL d P (w0 ++ (M ++ (w1 ++ ('#' :: q :: ch :: close ++ wEnd)))) pc =
      toARes (encode v W ⟨upperS M, .imm, (ch.toNat : Int)⟩ pc) := by
  rw [Py65.Proofs.Asm.asm_text_char hd.ok P w0 M w1 wEnd q ch close pc hw0 hw1 hw1ne hwEnd hM hq hch hclose,
    asm_core hd]

/-- `asm_text_acc`: `ASL A`, `asl a`. -/
theorem asm_text_acc (hd : IsDevice d v W) (P : Parser) (w0 M w1 wEnd : Str) (a : Char) (pc : Int)
    (hw0 : Blank w0) (hw1 : Blank w1) (hw1ne : w1 ≠ []) (hwEnd : Blank wEnd)
    (hM : IsMnem M) (ha : a = 'A' ∨ a = 'a') :
    assembleL d P (w0 ++ (M ++ (w1 ++ (a :: wEnd)))) pc = toARes (encode v W ⟨upperS M, .acc, 0⟩ pc) := by
  rw [Py65.Proofs.Asm.asm_text_acc P w0 M w1 wEnd a pc hw0 hw1 hw1ne hwEnd hM ha, asm_core hd]

/-- `asm_text_none`: `NOP`, `  nop  `. -/
theorem asm_text_none (hd : IsDevice d v W) (P : Parser) (w0 M wEnd : Str) (pc : Int)
    (hw0 : Blank w0) (hwEnd : Blank wEnd) (hM : IsMnem M) :
    assembleL d P (w0 ++ (M ++ wEnd)) pc = toARes (encode v W ⟨upperS M, .none, 0⟩ pc) := by
  rw [Py65.Proofs.Asm.asm_text_none P w0 M wEnd pc hw0 hwEnd hM, asm_core hd]

/-- `asm_ws_case`: two writings of the same statement -- the same operand word, mnemonics equal up
to letter case, register letters in either case, ANY blanks or tabs (any white space `str.split`
knows) between and around the tokens -- assemble to the same result. -/
theorem asm_ws_case (hd : IsDevice d v W) (P : Parser) (hPw : P.width = 2 * W) (hwf : P.WF) (sh : Shape)
    (hsh : Shape.isAddr sh = true) (T : Str) (hT : AddrWord T) (pc : Int)
    (w0 M w1 b1 wEnd : Str) (gs : List Str) (cs : Str)
    (hw0 : Blank w0) (hw1 : Blank w1) (hw1ne : w1 ≠ []) (hb1 : Blank b1) (hwEnd : Blank wEnd)
    (hM : IsMnem M) (hgs : ∀ g ∈ gs, Blank g) (hlen : gs.length = cs.length) (hcs : upperS cs = afterOf sh)
    (w0' M' w1' b1' wEnd' : Str) (gs' : List Str) (cs' : Str)
    (hw0' : Blank w0') (hw1' : Blank w1') (hw1ne' : w1' ≠ []) (hb1' : Blank b1') (hwEnd' : Blank wEnd')
    (hM' : IsMnem M') (hgs' : ∀ g ∈ gs', Blank g) (hlen' : gs'.length = cs'.length)
    (hcs' : upperS cs' = afterOf sh) (hMM : upperS M = upperS M') :
    assembleL d P (w0 ++ (M ++ (w1 ++ (leadOf sh ++ (b1 ++ (T ++ (decorate gs cs ++ wEnd))))))) pc =
    assembleL d P (w0' ++ (M' ++ (w1' ++ (leadOf sh ++ (b1' ++ (T ++ (decorate gs' cs' ++ wEnd'))))))) pc := by
  rw [asm_text hd P hPw hwf sh hsh w0 M w1 b1 T wEnd gs cs pc hw0 hw1 hw1ne hb1 hwEnd hM hT hgs hlen hcs,
    asm_text hd P hPw hwf sh hsh w0' M' w1' b1' T wEnd' gs' cs' pc hw0' hw1' hw1ne' hb1' hwEnd' hM' hT hgs'
      hlen' hcs', hMM]

-- non-vacuity: `lda\t( $10 ) , y ` and `LDA ($10),Y`
example : assembleL dev6502 ⟨16, 16, []⟩ " lda\t( $10 ) , y ".toList 0 = .ok [0xb1, 0x10] ∧
    assembleL dev6502 ⟨16, 16, []⟩ "LDA ($10),Y".toList 0 = .ok [0xb1, 0x10] := by decide +kernel
example : " lda\t( $10 ) , y ".toList =
    [' '] ++ ("lda".toList ++ (['\t'] ++ (leadOf .indY ++ ([' '] ++ ("$10".toList ++
      (decorate [[' '], [' '], [' ']] [')', ',', 'y'] ++ [' '])))))) := by decide
example : IsMnem "lda".toList ∧ AddrWord "$10".toList ∧ upperS [')', ',', 'y'] = afterOf .indY :=
  ⟨isMnemB_sound (by decide), ⟨by decide, by decide, by decide, by decide, by decide⟩, by decide⟩

/-- `asm_total`: for every statement text whatsoever, every label table with in-range values, every
address: bytes, `SyntaxError`, `OverflowError` or `KeyError` -- nothing else escapes. -/
theorem asm_total (hd : IsDevice d v W) (P : Parser) (hwf : P.WF) (s : Str) (pc : Int) (w : String) :
    assembleL d P s pc ≠ .other w :=
  assembleL_ne_other hd.ok P hwf s pc w

/-- `asm_sound_partial` ("never mis-assembles", every text, first half): if bytes come back for ANY text
then `normalize_and_split` handed the back end an (opcode, operand) pair, the operand is the canonical
text of some shape and in-range value, and the bytes are the documented encoding of (opcode, shape,
value) at `pc`. -/
theorem asm_sound_partial (hd : IsDevice d v W) (P : Parser) (s : Str) (pc : Int) (bs : List Int)
    (h : assembleL d P s pc = .ok bs) :
    ∃ opcode operand sh x, normalizeAndSplit d P s = .ok opcode operand ∧
      Shape.inRange W sh x = true ∧ operand = canonText W sh x ∧ encode v W ⟨opcode, sh, x⟩ pc = .ok bs := by
  unfold assembleL at h
  cases hn : normalizeAndSplit d P s with
  | ok oc od =>
    rw [hn] at h
    obtain ⟨sh, x, h1, h2, h3⟩ := asm_backend_sound hd oc od pc bs h
    exact ⟨oc, od, sh, x, rfl, h1, h2, h3⟩
  | «syntax» => rw [hn] at h; cases h
  | overflow => rw [hn] at h; cases h
  | key => rw [hn] at h; cases h
  | other w => rw [hn] at h; cases h

/-- `asm_sound` ("never mis-assembles", every text, FULL): for every device, every parser of the
device's address width whose label values are in range and whose label names contain no `(`, every
text `s` and every address `pc`: if the assembler returns bytes then the token sequence of `s`
denotes a statement `(m, sh, w)` of the documented syntax, the operand word `w` has the value `x`, and
the bytes are exactly the documented encoding of `(m, sh, x)` at `pc`.  `value P sh w` is `numberL P w`, or
`ord c` for a character literal `'c'`; 0 where the shape has no operand.  This is the inversion of the
`Statement` scanner, `before.split(" ", 1)`, the `target` rewriting and the fall-back
`statement.split(" ", 1)` for ARBITRARY text. -/
theorem asm_sound (hd : IsDevice d v W) (P : Parser) (hPw : P.width = 2 * W) (hwf : P.WF)
    (hlab : LabelsNoParen P) (s : Str) (pc : Int) (bs : List Int) (h : assembleL d P s pc = .ok bs) :
    ∃ m sh w x, Py65.Spec.Asm.parse s = some (m, sh, w) ∧ value P sh w = .ok x ∧
      encode v W ⟨m, sh, x⟩ pc = .ok bs :=
  asm_sound_of_devOK hd.ok P hPw hwf hlab s pc bs h

/-- The statement of the header: the bytes are a documented encoding of what the text denotes. -/
theorem asm_sound_documented (hd : IsDevice d v W) (P : Parser) (hPw : P.width = 2 * W) (hwf : P.WF)
    (hlab : LabelsNoParen P) (s : Str) (pc : Int) (bs : List Int) (h : assembleL d P s pc = .ok bs) :
    ∃ m sh w x, Py65.Spec.Asm.parse s = some (m, sh, w) ∧ value P sh w = .ok x ∧
      Documented v W ⟨m, sh, x⟩ pc bs := by
  obtain ⟨m, sh, w, x, h1, h2, h3⟩ := asm_sound hd P hPw hwf hlab s pc bs h
  exact ⟨m, sh, w, x, h1, h2, Or.inl h3⟩

-- non-vacuity: the hypotheses hold for a parser with labels, bytes do come back, and the witnesses are
-- what the text says (`lda ( tbl ) , y` with `tbl = $10`, blanks and tabs anywhere)
example : (⟨16, 16, [("tbl".toList, 0x10), ("io.port".toList, 0xfe)]⟩ : Parser).width = 2 * 8 ∧
    LabelsNoParen ⟨16, 16, [("tbl".toList, 0x10), ("io.port".toList, 0xfe)]⟩ := by decide
example : (⟨16, 16, [("tbl".toList, 0x10), ("io.port".toList, 0xfe)]⟩ : Parser).WF :=
  (Py65.Proofs.Num.init_wf 16 16 [("tbl".toList, 0x10), ("io.port".toList, 0xfe)]
    ⟨16, 16, [("tbl".toList, 0x10), ("io.port".toList, 0xfe)]⟩ (by decide +kernel)).1
example : assembleL dev6502 ⟨16, 16, [("tbl".toList, 0x10), ("io.port".toList, 0xfe)]⟩ " lda\t( tbl ) , y ".toList 7
      = .ok [0xb1, 0x10] ∧
    Py65.Spec.Asm.parse " lda\t( tbl ) , y ".toList = some ("LDA".toList, .indY, "tbl".toList) ∧
    value ⟨16, 16, [("tbl".toList, 0x10), ("io.port".toList, 0xfe)]⟩ .indY "tbl".toList = .ok 0x10 ∧
    encode .nmos 8 ⟨"LDA".toList, .indY, 0x10⟩ 7 = .ok [0xb1, 0x10] := by
  simp only [encode, Shape.modes, encodeIn, ok6502.opcodeOf_table (m := "LDA".toList) (by decide)]
  decide +kernel
-- … and a text that denotes nothing is refused (the contrapositive at work)
example : Py65.Spec.Asm.parse "LDA $10 ,X,".toList = none ∧
    assembleL dev6502 ⟨16, 16, []⟩ "LDA $10 ,X,".toList 0 = .syntax := by decide +kernel

/-- `asm_sound_label_paren`: the hypothesis on the label names cannot be dropped.  With a label named
`a(b` the assembler turns `LDA a(b` into `A5 05`, but the tokens of that text are `LDA`, `a`, `(`, `b`,
which denote no statement.  (Confirmed on the real assembler; py65 does not restrict label names.) -/
theorem asm_sound_label_paren :
    assembleL dev6502 ⟨16, 16, [("a(b".toList, 5)]⟩ "LDA a(b".toList 0 = .ok [0xa5, 0x05] ∧
    Py65.Spec.Asm.parse "LDA a(b".toList = none ∧
    ¬ LabelsNoParen ⟨16, 16, [("a(b".toList, 5)]⟩ := by decide +kernel

/-- `asm_sound_charlit_paren`: a character literal is one token.  `LDA #'('` assembles to `A9 28`; the
tokeniser reads the operand as the single word `#'('`.  `,` `)` and white space as the quoted character
are refused by the assembler (its scanner ends the operand word there), which soundness permits. -/
theorem asm_sound_charlit_paren :
    assembleL dev6502 ⟨16, 16, []⟩ "LDA #'('".toList 0 = .ok [0xa9, 0x28] ∧
    Py65.Spec.Asm.parse "LDA #'('".toList = some ("LDA".toList, .imm, "'('".toList) ∧
    value ⟨16, 16, []⟩ .imm "'('".toList = .ok 0x28 ∧
    assembleL dev6502 ⟨16, 16, []⟩ "LDA #','".toList 0 = .syntax ∧
    assembleL dev6502 ⟨16, 16, []⟩ "LDA #' '".toList 0 = .syntax := by decide +kernel

/-- `asm_sound_newline`: every white-space character of `str.split()` separates tokens. -/
theorem asm_sound_newline :
    assembleL dev6502 ⟨16, 16, []⟩ "LDA\n($10)\x0b,\x1cY\r".toList 0 = .ok [0xb1, 0x10] ∧
    Py65.Spec.Asm.parse "LDA\n($10)\x0b,\x1cY\r".toList = some ("LDA".toList, .indY, "$10".toList) := by
  decide +kernel

end Py65.Props.C07
