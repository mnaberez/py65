/-
C09h -- THE LISTING FOLLOWS THE EXECUTION (composition of C09 with C19, C01-C03, C05h, C12; own namespace
`Py65.Props.C09h`).

C09 / C09g compare ONE disassembled instruction with ONE step of the programming model `Spec.step`;
C19c / C19g say which addresses `disassemble start:end` lists (`Model.Show.Visits`).  Here both are
composed with the generated device
(`Hist.Dev`: `dev6502.step`, `dev65c02.step`, `dev65org16.step` - what the compiled driver runs) and lifted
to whole listings.

Vocabulary (`Proofs/Compose2Follow.lean`): `Listing d P m start end vs` = `Visits` with the generated
`instruction_at` of the device class over the memory `m` (`vs = [(address, length, text), ...]`);
`Straight d op` = `op` is a declared opcode of the device whose mnemonic is not a branch / JMP / JSR / RTS /
RTI / BRK (`C09.isControl`) and not WAI; `Running d s` = `Hist.Inv d s` (well-formed) and not waiting;
`topAddr d = 2 ^ ADDR_WIDTH - 1`.  Only the INITIAL state is assumed well-formed (C05h closure).
What is NOT needed: binary mode (ADC / SBC in decimal mode are covered, `Proofs/Compose2ArithSteps.lean`), any
condition on operands, registers or the stack.  65Org16: a declared opcode is a cell < 256 by definition.
-/
import Py65.Proofs.Compose2Log

namespace Py65.Props.C09h
open Py65 Py65.Gen Py65.Spec Py65.Proofs Py65.Proofs.Hist Py65.Proofs.Compose2
open Py65.Model.PyStr Py65.Model.AddrParser Py65.Model.Show
open Py65.Props.C09 (isControl Runs)
open Py65.Spec.Asm (mnText)
open Py65.Proofs.Asm (shown)

/-- **One step.**  A running, well-formed generated device at a declared opcode that does not transfer
control: the GENERATED `instruction_at(pc)` over the device's memory returns the documented length, and the
GENERATED `step()` leaves PC exactly that many cells further on (modulo the address space) - whatever the
registers, flags (decimal mode included) and operands; unless the instruction is WAI the device is running
and well-formed afterwards. -/
theorem step_follows_listing (d : Dev) (P : Parser) (s : St) (hr : Running d s) (mn : Mn) (mo : Mode)
    (hd : decode d.variant (s.mem s.pc) = some (mn, mo)) (hnc : isControl mn = false) :
    ∃ t, iat d P s.mem s.pc = .ok (mo.len, t) ∧
      (d.step s).pc = (s.pc + mo.len) % 2 ^ (2 * d.W) ∧ (mn ≠ .WAI → Running d (d.step s)) := by
  have hrange := hr.pc_range
  have hb := byteAt_in (isDevice d).ok s.mem s.pc hrange.1
    (by have := hrange.2; simp only [topAddr] at this; omega)
  have hop := decode_lt hd
  obtain ⟨t, ht⟩ := Py65.Props.C09g.dis_len (isDevice d) P s.mem s.pc (by rw [hb]; exact hop) mn mo
    (by rw [hb]; exact hd)
  obtain ⟨h1, h2⟩ := step_straight d s hr.1 hr.2 mn mo hd hnc
  exact ⟨t, ht, h1, fun hn => ⟨apply_inv d .step s hr.1 (fun _ => hop.2), h2 hn⟩⟩

/-- **The listing follows the execution.**  `vs` is what `disassemble start:end` lists over the memory of
`s0` (`0 ≤ start`, `start, end ≤ topAddr`; `start > end` = a range that wraps past the top of memory); the
device is running at `pc = start`; every listed instruction is straight-line; and (hypothesis on the run)
when the device has made `k` steps, the opcode cell of the `k`-th listed instruction still holds what the
listing saw.  Then, with `n` the number of listed instructions:
  * for every `k < n` the PC after `k` steps is the `k`-th listed address - as lists: the PCs of the first
    `n` states are exactly the listed addresses;
  * every one of these steps advances PC by the listed length, modulo the address space (so the PC after
    all `n` steps is the address at which the listing stopped);
  * the device is well-formed and running in each of these states. -/
theorem listing_follows_execution (d : Dev) (P : Parser) (s0 : St) (start end_ : Int)
    (vs : List (Int × Int × Str)) (hr : Running d s0) (hpc : s0.pc = start) (he : end_ ≤ topAddr d)
    (hv : Listing d P s0.mem start end_ vs)
    (hstraight : ∀ v ∈ vs, Straight d (s0.mem v.1))
    (hfixed : ∀ k (hk : k < vs.length), (d.step^[k] s0).mem (vs[k]).1 = s0.mem (vs[k]).1) :
    (List.range vs.length).map (fun k => (d.step^[k] s0).pc) = vs.map (·.1) ∧
    (∀ k (hk : k < vs.length), (d.step^[k] s0).pc = (vs[k]).1 ∧
      (d.step^[k + 1] s0).pc = ((vs[k]).1 + (vs[k]).2.1) % 2 ^ (2 * d.W)) ∧
    (∀ k, k ≤ vs.length → Running d (d.step^[k] s0)) := by
  have core := follow_core d P s0 start end_ vs hr hpc he hv
    (fun k hk _ => hstraight _ (List.getElem_mem _)) (fun k hk _ => hfixed k hk)
  have next : ∀ k (hk : k < vs.length), (d.step^[k + 1] s0).pc = ((vs[k]).1 + (vs[k]).2.1) % 2 ^ (2 * d.W) ∧
      Running d (d.step^[k + 1] s0) := by
    intro k hk
    obtain ⟨c1, c2⟩ := core k hk
    have hi := visits_mem _ _ _ _ vs _ _ hv _ (List.getElem_mem hk)
    obtain ⟨_, _, l3, l4⟩ := at_listed d P s0.mem _ _ _ _ c2 c1 hi (hstraight _ (List.getElem_mem _)) (hfixed k hk)
    rw [Function.iterate_succ_apply']
    rw [topAddr_succ] at l3
    exact ⟨l3, l4⟩
  refine ⟨?_, fun k hk => ⟨(core k hk).1, (next k hk).1⟩, ?_⟩
  · apply List.ext_getElem
    · simp
    · intro k h1 h2
      simp only [List.getElem_map, List.getElem_range]
      exact (core k (by simpa using h2)).1
  · intro k hk
    cases k with
    | zero => exact hr
    | succ k => exact (next k (by omega)).2

/-- **The same, with the hypothesis on the run stated on the access log.**  `Prot` is any set of cells
containing the opcode cells of the listed instructions (e.g. all cells of the range).  If the access log of
the device (the generated model logs every `memory[a] = v`) never shows a write to a protected cell in the
states the run passes through, the conclusions of `listing_follows_execution` hold, and every protected
cell keeps its initial value in these states: the executed code did not overwrite the listed code. -/
theorem listing_follows_execution_log (d : Dev) (P : Parser) (s0 : St) (start end_ : Int)
    (vs : List (Int × Int × Str)) (Prot : Int → Prop) (hr : Running d s0) (hpc : s0.pc = start)
    (he : end_ ≤ topAddr d) (hv : Listing d P s0.mem start end_ vs)
    (hstraight : ∀ v ∈ vs, Straight d (s0.mem v.1))
    (hprot : ∀ v ∈ vs, Prot v.1)
    (hlog : ∀ k, k < vs.length → ∀ c, Prot c → ¬ WritesTo (d.step^[k] s0).log c) :
    (List.range vs.length).map (fun k => (d.step^[k] s0).pc) = vs.map (·.1) ∧
    (∀ k (hk : k < vs.length), (d.step^[k] s0).pc = (vs[k]).1 ∧
      (d.step^[k + 1] s0).pc = ((vs[k]).1 + (vs[k]).2.1) % 2 ^ (2 * d.W)) ∧
    (∀ k, k ≤ vs.length → Running d (d.step^[k] s0)) ∧
    (∀ k, k < vs.length → ∀ c, Prot c → (d.step^[k] s0).mem c = s0.mem c) := by
  have core := follow_log d P s0 start end_ vs Prot hr hpc he hv
    (fun k hk _ => hstraight _ (List.getElem_mem _)) (fun k hk _ => hprot _ (List.getElem_mem _)) hlog
  obtain ⟨h1, h2, h3⟩ := listing_follows_execution d P s0 start end_ vs hr hpc he hv hstraight
    (fun k hk => (core k hk).2.2 _ (hprot _ (List.getElem_mem _)))
  exact ⟨h1, h2, h3, fun k hk => (core k hk).2.2⟩

/-- **... for the range itself**: if the access log never shows a write INTO THE RANGE `start:end`
(`InRange`: the cells `start … end`; for a wrapping range `start … top` and `0 … end`) while the listed
code runs, the listing follows the execution and no cell of the range changes. -/
theorem listing_follows_execution_range (d : Dev) (P : Parser) (s0 : St) (start end_ : Int)
    (vs : List (Int × Int × Str)) (hr : Running d s0) (hpc : s0.pc = start)
    (he : end_ ≤ topAddr d) (hv : Listing d P s0.mem start end_ vs)
    (hstraight : ∀ v ∈ vs, Straight d (s0.mem v.1))
    (hlog : ∀ k, k < vs.length → ∀ c, InRange start end_ c → ¬ WritesTo (d.step^[k] s0).log c) :
    (List.range vs.length).map (fun k => (d.step^[k] s0).pc) = vs.map (·.1) ∧
    (∀ k (hk : k < vs.length), (d.step^[k] s0).pc = (vs[k]).1 ∧
      (d.step^[k + 1] s0).pc = ((vs[k]).1 + (vs[k]).2.1) % 2 ^ (2 * d.W)) ∧
    (∀ k, k ≤ vs.length → Running d (d.step^[k] s0)) ∧
    (∀ k, k < vs.length → ∀ c, InRange start end_ c → (d.step^[k] s0).mem c = s0.mem c) := by
  have hrange := hr.pc_range
  rw [hpc] at hrange
  exact listing_follows_execution_log d P s0 start end_ vs (InRange start end_) hr hpc he hv hstraight
    (listing_in_range d P s0.mem start end_ vs hrange.1 hrange.2 he hv hstraight) hlog

/-- The listing depends on `instruction_at` only through its successful results: a walk (`Visits`, as
`C19g.disasm_walk_shows_bytes` delivers it for the generated `do_disassemble`) with a disassembler `iat'`
whose successful results are those of the generated `instruction_at` over `m` - e.g. `C19g.iatG`, the same
function behind the monitor model's renaming of exception classes - is a `Listing`. -/
theorem listing_of_renamed {ε' : Type} (d : Dev) (P : Parser) (m : Int → Int) (start end_ : Int)
    (vs : List (Int × Int × Str)) (iat' : Int → Except ε' (Int × Str))
    (h : ∀ a r, iat' a = .ok r → iat d P m a = .ok r)
    (hv : Visits iat' (topAddr d) start end_ start (decide (start > end_)) vs) :
    Listing d P m start end_ vs :=
  visits_congr_ok (iat d P m) iat' h _ _ _ vs _ _ hv

/-- **A listing that ends in a control transfer.**  All listed instructions but the last are straight-line
(hypotheses on the run as in `listing_follows_execution`, for those); the last one, at `a`, is `JMP abs`,
`JSR abs` (whose two pushes do not hit its own operand bytes - C01's exclusion: the real JSR pushes before
it reads the target) or a relative branch that is taken in the state the device is in when it gets there;
its (at most three) cells still hold what the listing saw.  Then every listed address is the PC after the
corresponding number of steps, and the text of the last line is the mnemonic followed by - as `$hex` or as
the label bound to it - exactly the PC after the last step: the displayed target is where execution goes. -/
theorem listing_ends_in_transfer (d : Dev) (P : Parser) (s0 : St) (start end_ : Int)
    (pre : List (Int × Int × Str)) (a len : Int) (text : Str) (hr : Running d s0) (hpc : s0.pc = start)
    (he : end_ ≤ topAddr d) (hv : Listing d P s0.mem start end_ (pre ++ [(a, len, text)]))
    (hstraight : ∀ v ∈ pre, Straight d (s0.mem v.1))
    (hfixed : ∀ k (hk : k < pre.length), (d.step^[k] s0).mem (pre[k]).1 = s0.mem (pre[k]).1)
    (hlast : ∀ j, j ∈ [0, 1, 2] → (d.step^[pre.length] s0).mem ((a + j) % 2 ^ (2 * d.W)) =
      s0.mem ((a + j) % 2 ^ (2 * d.W)))
    (mn : Mn) (mo : Mode) (hdec : decode d.variant (s0.mem a) = some (mn, mo))
    (hkind : (mn = .JMP ∧ mo = .abs) ∨
      (mn = .JSR ∧ mo = .abs ∧
        NoSelfOverwriteJSR d.cfg (afterFetch d.cfg d.tbl (d.step^[pre.length] s0))) ∨
      (mo = .rel ∧ branchCond d.W mn (normP (d.step^[pre.length] s0).p) = true)) :
    (∀ k (hk : k < pre.length), (d.step^[k] s0).pc = (pre[k]).1) ∧
    (d.step^[pre.length] s0).pc = a ∧
    text = mnText mn ++ ' ' :: shown P (d.W / 2) (d.step^[pre.length + 1] s0).pc := by
  have hlen : (pre ++ [(a, len, text)]).length = pre.length + 1 := by simp
  have core := follow_core d P s0 start end_ _ hr hpc he hv
    (fun k hk hk1 => by
      have hk' : k < pre.length := by omega
      rw [List.getElem_append_left hk']; exact hstraight _ (List.getElem_mem _))
    (fun k hk hk1 => by
      have hk' : k < pre.length := by omega
      rw [List.getElem_append_left hk']; exact hfixed k hk')
  have hlastc := core pre.length (by omega)
  rw [List.getElem_append_right (Nat.le_refl _)] at hlastc
  simp only [Nat.sub_self, List.getElem_cons_zero] at hlastc
  obtain ⟨hpcl, hrl⟩ := hlastc
  refine ⟨fun k hk => ?_, hpcl, ?_⟩
  · have := (core k (by omega)).1
    rwa [List.getElem_append_left hk] at this
  -- the listed text, read over the memory of the state the device is in when it gets to `a`
  set s := d.step^[pre.length] s0 with hs
  have hW := d.hW
  have hrange := hrl.pc_range
  rw [hpcl] at hrange
  have ha1 : a < 2 ^ (2 * d.W) := by have := hrange.2; simp only [topAddr] at this; omega
  have hmod : a % 2 ^ (2 * d.W) = a := Int.emod_eq_of_lt hrange.1 ha1
  have h0 := hlast 0 (by simp); have h1 := hlast 1 (by simp); have h2 := hlast 2 (by simp)
  simp only [Int.add_zero] at h0
  rw [hmod] at h0
  have hin : (a, len, text) ∈ pre ++ [(a, len, text)] := List.mem_append_right _ List.mem_cons_self
  have hi : iat d P s0.mem a = .ok (len, text) :=
    visits_mem (iat d P s0.mem) (topAddr d) start end_ (pre ++ [(a, len, text)]) start _ hv (a, len, text) hin
  have hcongr : iat d P s.mem a = iat d P s0.mem a :=
    dis_congr (isDevice d) P s.mem s0.mem a (by rw [hmod, h0]; exact decode_lt hdec)
      (by rw [hmod]; exact h0) h1 h2
  have hdec' : decode d.variant ((abs s).mem (abs s).pc) = some (mn, mo) := by
    show decode d.variant (s.mem s.pc) = _
    rw [hpcl, h0]; exact hdec
  have hop := decode_lt hdec'
  have hruns : Runs d.W (abs s) := ⟨hrl.2, by show 0 ≤ s.pc; rw [hpcl]; exact hrange.1,
    by show s.pc < _; rw [hpcl]; exact ha1, hop.1, hop.2⟩
  have hstep : abs (d.step s) = Spec.step d.W d.variant (abs s) := by
    refine step_abs d s hrl.1.1 hrl.2 mn mo hdec' (fun h => ?_) (fun h => ?_)
    · rcases hkind with ⟨rfl, _⟩ | ⟨rfl, _⟩ | ⟨rfl, hb⟩
      · rcases h with h | h <;> cases h
      · rcases h with h | h <;> cases h
      · exfalso; rcases h with rfl | rfl <;> simp [branchCond] at hb
    · rcases hkind with ⟨rfl, _⟩ | ⟨_, _, hj⟩ | ⟨rfl, hb⟩
      · cases h
      · exact hj
      · subst h; simp [branchCond] at hb
  have hpcs : (Spec.step d.W d.variant (abs s)).pc = (d.step^[pre.length + 1] s0).pc := by
    rw [Function.iterate_succ_apply', ← hstep]; rfl
  have htext : iat d P s.mem a = .ok (mo.len, mnText mn ++ ' ' :: shown P (d.W / 2)
      (Spec.step d.W d.variant (abs s)).pc) := by
    have e : a = (abs s).pc := hpcl.symm
    rcases hkind with ⟨rfl, rfl⟩ | ⟨rfl, rfl, _⟩ | ⟨rfl, hb⟩
    · rw [e]; exact Py65.Props.C09g.dis_jmp_jsr (isDevice d) P (abs s) hruns .JMP (Or.inl rfl) hdec'
    · rw [e]; exact Py65.Props.C09g.dis_jmp_jsr (isDevice d) P (abs s) hruns .JSR (Or.inr rfl) hdec'
    · rw [e]
      exact Py65.Props.C09g.dis_branch_taken (isDevice d) P (abs s) hruns mn hdec'
        ((d.inB_iff _).2 (hrl.1.1.mem _)) hb
  rw [hcongr, hi, hpcs] at htext
  simp only [Except.ok.injEq, Prod.mk.injEq] at htext
  exact htext.2

/-- A 6502 program that wraps past the top of memory: `$fffe ADC #$01` (executed in DECIMAL mode: D is set
in the initial status), `$0000 STA $10`, `$0002 LDX #$07`, `$0004 INX`, `$0005 NOP`, `$0006 JMP $1234`. -/
def demoMem : Int → Int := fun k =>
  if k = 0xfffe then 0x69 else if k = 0xffff then 0x01 else if k = 0 then 0x85 else if k = 1 then 0x10
  else if k = 2 then 0xa2 else if k = 3 then 0x07 else if k = 4 then 0xe8 else if k = 5 then 0xea
  else if k = 6 then 0x4c else if k = 7 then 0x34 else if k = 8 then 0x12 else 0xea

def demoState : St := { (default : St) with pc := 0xfffe, a := 0x42, p := 0x38, mem := demoMem }

def demoP : Parser := ⟨16, 16, []⟩

/-- what `disassemble fffe:0005` lists -/
def demoListing : List (Int × Int × Str) :=
  [(0xfffe, 2, "ADC #$01".toList), (0, 2, "STA $10".toList), (2, 2, "LDX #$07".toList),
   (4, 1, "INX".toList), (5, 1, "NOP".toList)]

theorem demo_running : Running .nmos demoState := by
  refine ⟨⟨⟨by decide, by decide, by decide, by decide, by decide, by decide, ?_⟩, fun _ => rfl⟩, rfl⟩
  intro k; simp only [demoState, demoMem]; repeat' apply ite_range
  all_goals decide

/-- the listing is what the GENERATED `instruction_at` gives along the walk of `do_disassemble`
(a wrapping range: `start = $fffe > end = $0005`) -/
theorem demo_listing : Listing .nmos demoP demoState.mem 0xfffe 5 demoListing :=
  listing_of_check 10 (by decide +kernel)

theorem demo_straight : ∀ v ∈ demoListing, Straight .nmos (demoState.mem v.1) := by
  intro v hv
  apply straight_of_check
  revert v
  decide +kernel

/-- hypothesis on the run, direct form: the GENERATED 6502 stepped `k` times still has the listed opcode
in the `k`-th listed cell (`STA $10` stores outside the range) -/
theorem demo_fixed : ∀ k (hk : k < demoListing.length),
    ((Dev.step .nmos)^[k] demoState).mem (demoListing[k]).1 = demoState.mem (demoListing[k]).1 := by
  decide +kernel

/-- all hypotheses of `listing_follows_execution` hold of the example ... -/
example := listing_follows_execution .nmos demoP demoState 0xfffe 5 demoListing demo_running rfl
  (by decide) demo_listing demo_straight demo_fixed

/-- ... and its conclusion, evaluated independently on the generated device: the PCs of the five states are
the five listed addresses, and the sixth is `$0006`; the ADC ran in decimal mode (`$42 + $01 = $43`). -/
example : (List.range 6).map (fun k => ((Dev.step .nmos)^[k] demoState).pc) = [0xfffe, 0, 2, 4, 5, 6] ∧
    ((Dev.step .nmos)^[1] demoState).a = 0x43 ∧ ((Dev.step .nmos)^[4] demoState).x = 8 := by decide +kernel

/-- one step (`step_follows_listing`): ADC #$01 in decimal mode at `$fffe`, PC wraps to `$0000` -/
example : decode .nmos (demoState.mem demoState.pc) = some (.ADC, .imm) ∧ isControl .ADC = false ∧
    flag demoState.p bitD = true ∧ iat .nmos demoP demoState.mem demoState.pc = .ok (2, "ADC #$01".toList) ∧
    (Dev.step .nmos demoState).pc = 0 := by decide +kernel

/-- hypothesis on the run, access-log form: protected = the whole (wrapping) range `$fffe … $0005`; the log
of the generated device never shows a write into it (the only write is `w $10`). -/
def demoProt (c : Int) : Bool := decide (0xfffe ≤ c) || decide (c ≤ 5)

theorem demo_log : ∀ k, k < demoListing.length → ∀ c, demoProt c = true →
    ¬ WritesTo ((Dev.step .nmos)^[k] demoState).log c := by
  intro k hk c hc
  refine noWrite_of_check ?_ c hc
  revert k
  decide +kernel

example := listing_follows_execution_log .nmos demoP demoState 0xfffe 5 demoListing (fun c => demoProt c = true)
  demo_running rfl (by decide) demo_listing demo_straight (by decide) demo_log

/-- the range form: `InRange $fffe 5 c` is the same set of cells -/
example := listing_follows_execution_range .nmos demoP demoState 0xfffe 5 demoListing
  demo_running rfl (by decide) demo_listing demo_straight
  (fun k hk c hc => demo_log k hk c (by
    simp only [InRange, show ((0xfffe : Int) > 5) = True from by decide, if_true] at hc
    simp only [demoProt, Bool.or_eq_true, decide_eq_true_eq]; exact hc))

example : ((Dev.step .nmos)^[5] demoState).log.filter (fun ev => match ev with | .w _ _ => true | _ => false) =
    [MemEv.w 0x10 0x43] := by decide +kernel

/-- `listing_ends_in_transfer`: `disassemble fffe:0006` lists a sixth line, `JMP $1234`; after six steps
the generated device is at `$1234`, the address the line displays. -/
theorem demo_listing_jmp :
    Listing .nmos demoP demoState.mem 0xfffe 6 (demoListing ++ [(6, 3, "JMP $1234".toList)]) :=
  listing_of_check 10 (by decide +kernel)

example := listing_ends_in_transfer .nmos demoP demoState 0xfffe 6 demoListing 6 3 "JMP $1234".toList
  demo_running rfl (by decide) demo_listing_jmp demo_straight demo_fixed (by decide +kernel) .JMP .abs
  (by decide +kernel) (Or.inl ⟨rfl, rfl⟩)

example : ((Dev.step .nmos)^[6] demoState).pc = 0x1234 ∧
    "JMP $1234".toList = mnText .JMP ++ ' ' :: shown demoP (Dev.W .nmos / 2) 0x1234 := by decide +kernel

/-- 65C02: a listing ending in a TAKEN branch, `$0200 INC A`, `$0201 BRA $0210` (`80 0d`). -/
def braMem : Int → Int := fun k =>
  if k = 0x200 then 0x1a else if k = 0x201 then 0x80 else if k = 0x202 then 0x0d else 0xea

def braState : St := { (default : St) with pc := 0x200, mem := braMem }

theorem bra_running : Running .cmos braState := by
  refine ⟨⟨⟨by decide, by decide, by decide, by decide, by decide, by decide, ?_⟩, fun h => absurd rfl h⟩, rfl⟩
  intro k; simp only [braState, braMem]; repeat' apply ite_range
  all_goals decide

example := listing_ends_in_transfer .cmos demoP braState 0x200 0x201 [(0x200, 1, "INC A".toList)] 0x201 2
  "BRA $0210".toList bra_running rfl (by decide) (listing_of_check 10 (by decide +kernel))
  (by intro v hv; apply straight_of_check; revert v; decide +kernel) (by decide +kernel) (by decide +kernel)
  .BRA .rel (by decide +kernel) (Or.inr (Or.inr ⟨rfl, rfl⟩))

example : ((Dev.step .cmos)^[2] braState).pc = 0x210 := by decide +kernel

/-- 65Org16 (16-bit cells, 32-bit addresses): `LDA #$1234`, `TAX` at `$00010000`. -/
def orgMem : Int → Int := fun k =>
  if k = 0x10000 then 0xa9 else if k = 0x10001 then 0x1234 else if k = 0x10002 then 0xaa else 0xea

def orgState : St := { (default : St) with pc := 0x10000, mem := orgMem }

theorem org_running : Running .org16 orgState := by
  refine ⟨⟨⟨by decide, by decide, by decide, by decide, by decide, by decide, ?_⟩, fun _ => rfl⟩, rfl⟩
  intro k; simp only [orgState, orgMem]; repeat' apply ite_range
  all_goals decide

example := listing_follows_execution .org16 ⟨32, 16, []⟩ orgState 0x10000 0x10002
  [(0x10000, 2, "LDA #$1234".toList), (0x10002, 1, "TAX".toList)] org_running rfl (by decide)
  (listing_of_check 10 (by decide +kernel))
  (by intro v hv; apply straight_of_check; revert v; decide +kernel) (by decide +kernel)

example : (List.range 3).map (fun k => ((Dev.step .org16)^[k] orgState).pc) = [0x10000, 0x10002, 0x10003] ∧
    ((Dev.step .org16)^[2] orgState).x = 0x1234 := by decide +kernel

end Py65.Props.C09h
