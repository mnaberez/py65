/-
C18g -- C18's theorems restated for the definitions GENERATED from `py65/monitor.py`.

`Py65.Gen.MonIOGen` is regenerated by `harness/py2lean_monio.py` on every run of the C18 check from
`Monitor.__init__` (the slice that sets `mpu_type / memory / putc_addr / getc_addr`, parses the arguments
and calls `_reset`), `_parse_args` (`-i / -o / -m`, `int(value, 16)`), `_reset` (the
`getc_addr is not None and putc_addr is not None` test; which objects are re-created), `_get_mpu`,
`_install_mpu_observers` with its closures `putc` / `getc` and the two `subscribe_to_*` calls at the
ATTRIBUTES, `do_reset`, `do_mpu`.  `Py65/Proofs/MonIOGenEq.lean` proves each equal to the hand model
`Py65/Model/MonIO.lean`.  Below, `io_trace`, `io_mapping_stable` and `io_session` of `Props/C18.lean` with the
generated definitions in place of the model's.

Reading guide.  `σ : IoSt` is what these methods can touch of a `Monitor` (`Py65/Model/MonIORt.lean`): the
configured addresses `σ.getc_addr / σ.putc_addr`, the device `σ._mpu` with its memory object, the widths,
the pending input bytes `σ.stdin`, the output `σ.stdout` (`written` code points, how many `flushed`), …
`E : Env` is the environment: which code points stdout can encode (`E.enc`), `getopt` (ANY function),
`sys.argv`, the start-up actions.  `replayG E σ evs` replays an access log `evs` of a running program
(the ordered item accesses of C12) on `σ._mpu.memory`, the callbacks being the GENERATED closures
(`MonIOGenEq.accessG`).  `applyCmdsG E σ cmds` runs `reset` / `mpu <name>` commands through the GENERATED
`do_reset` / `do_mpu`.  `Inv σ` is what `_reset` establishes (`MonIOGenEq.Inv`): the memory object is the
observed one exactly when both configured addresses are integers.  `okEv E e`: a stored value is a code
point stdout can encode (every value of an 8- or 16-bit device on a `StringIO` / UTF-8 terminal, apart
from surrogates on the latter: then `putc` prints `?`, `MonIOGenEq.putc_unencodable`).
-/
import Py65.Props.C18
import Py65.Proofs.MonIOGenEq

namespace Py65.Props.C18g
open Py65 Py65.Model.PyStr Py65.Model.ObsMem Py65.Model.MonIO Py65.Model.MonIORt Py65.Gen.MonIOGen
open Py65.Spec.ObsMem Py65.Proofs.MonIO Py65.Proofs.MonIOGenEq
open Py65.Spec.MonIO (SState deliver storesTo loadsFrom)

/-- `io_trace` for the generated code: on a monitor whose observers are installed at `I` and `O`
(`Inv`), replaying ANY access log of printable stores through the GENERATED `putc` / `getc`, from ANY
cells, pending input and output, is the Spec's replay on a memory of `maskOf addrWidth + 1` cells: every
load from an address congruent to `I` returns the next pending byte -- LF as CR -- or 0 and consumes
exactly that byte; every other load returns the cell; every store lands in its cell; the output grows
by exactly the values stored to addresses congruent to `O`, in order, each once, and all of it has
been flushed; the input shrinks by exactly the number of loads from addresses congruent to `I`;
nothing else of the monitor changes and the mapping is still in place. -/
theorem io_trace (E : Env) (σ : IoSt) (I O : Int) (hinv : Inv σ) (hI : σ.getc_addr = some I)
    (hO : σ.putc_addr = some O) (evs : List MemEv) (hev : ∀ e ∈ evs, okEv E e) :
    ∃ cells, σ._mpu.memory = .obs (obsMem σ.addrWidth I O cells) ∧
      let size := maskOf σ.addrWidth + 1
      let r := replayG E σ evs
      let sp := Py65.Spec.MonIO.replay size I O
        { cells := cells, pending := σ.stdin, output := σ.stdout.written } evs
      r.1 = sp.1 ∧
      r.2._mpu.memory = .obs (obsMem σ.addrWidth I O sp.2.cells) ∧
      r.2.stdout.written = σ.stdout.written ++ storesTo size O evs ∧
      r.2.stdin = σ.stdin.drop (loadsFrom size I evs) ∧
      (σ.stdout.flushed = σ.stdout.written.length → r.2.stdout.flushed = r.2.stdout.written.length) ∧
      Frame σ r.2 ∧ Inv r.2 := by
  obtain ⟨cells, g⟩ := hinv.good hI hO
  obtain ⟨r1, r2, r3, r4⟩ := replayG_spec E I O evs σ _ g.ioSim hev
  obtain ⟨c1, c2, c3⟩ := r2.replay_closed r3
  exact ⟨cells, g.hm, r1, c1, c2, c3, r4, r3, hinv.of_frame r3 r2.good⟩

/-- An environment for the examples: stdout encodes everything, `getopt` pairs the arguments up
(`-x value …`), no start-up actions. -/
def pairUp : List Str → List (Str × Str)
  | a :: b :: rest => (a, b) :: pairUp rest
  | _ => []

def exEnv : Env :=
  { enc := fun _ => true, getopt := fun args _ _ => .ok (pairUp args, []), sys_argv := [], usage := [],
    startup := fun _ _ σ => .ok () σ }

/-- A pre-state for the examples (every attribute the constructor must set holds garbage): input "A\nB"
is pending, nothing has been written. -/
def blank : IoSt :=
  { mpu_type := .mpu65c02, memory := none, putc_addr := none, getc_addr := none,
    _mpu := { id := 0, cls := .mpu65c02, memory := .plain fun _ => 7 },
    addrWidth := 0, byteWidth := 0, addrFmt := [], byteFmt := [], addrMask := 0, byteMask := 0,
    _address_parser := { id := 0, maxwidth := 0 }, _disassembler := { id := 0, mpu := 0, parser := 0 },
    _assembler := { id := 0, mpu := 0, parser := 0 },
    stdin := [65, 10, 66], stdout := { written := [], flushed := 0 }, out := [], nextId := 1 }

def argvOf (l : List String) : List Str := l.map String.toList

/-- non-vacuity, running the GENERATED `__init__`, `putc`, `getc`: `py65mon -m 6502 -i e000 -o e001`, input
"A\nB"; the program stores 'H' to O, loads I, stores 'i' to O through the alias $1e001, loads the
neighbour $e002, loads I three more times (the last with nothing pending), stores to the neighbour.
Output "Hi", both characters flushed; the loads return 65, 13 (LF as CR), 66, 0; nothing is left pending. -/
example :
    (match __init__ exEnv (some (argvOf ["py65mon", "-m", "6502", "-i", "e000", "-o", "e001"]))
        .mpu6502 none (some 0xF001) (some 0xF004) blank with
     | .ok _ σ =>
       let r := replayG exEnv σ [.w 0xe001 72, .r 0xe000, .w 0x1e001 105, .r 0xe002, .r 0xe000, .r 0xe000,
                                 .r 0xe000, .w 0xe002 33]
       some (r.1, r.2.stdout.written, r.2.stdout.flushed, r.2.stdin)
     | _ => none) =
    some ([none, some 65, none, some 0, some 13, some 66, some 0, none], [72, 105], 2, []) := by
  decide +kernel

/-- `io_mapping_stable` for the generated code.  A monitor built by the GENERATED `__init__` from a command
line on which `getopt` finds `[-m NAME] [-i X] [-o Y]` (`optsOf`; `cls'` = the class `NAME` names, else the
keyword argument) and keyword arguments `getc_addr = kg`, `putc_addr = kp`, for which the hand model's
`construct` succeeds (`int(X, 16)` does not raise), from ANY pre-state: the configured addresses are the
keyword arguments overridden by `-i` / `-o` parsed as hexadecimal; after ANY sequence of `reset` /
`mpu <name>` commands through the GENERATED `do_reset` / `do_mpu` every command has ended normally, the
configured addresses and the two streams are unchanged, the memory object is an `ObservableMemory`
exactly when both addresses are integers, and then -- whatever device the commands selected -- it is
`ObservableMemory(addrWidth)` with read subscribers exactly `[getc]` at the addresses congruent to `I`
and none elsewhere, write subscribers exactly `[putc]` at those congruent to `O` and none elsewhere. -/
theorem io_mapping_stable (E : Env) (argv rest : List Str) (m i o : Option Str) (cls cls' : MpuCls)
    (mem : Option (Int → Int)) (kp kg : Option Int) (σ0 : IoSt) (s0 : Sess)
    (hget : E.getopt (pySliceFrom argv 1) shortopts longopts = .ok (optsOf m i o, rest))
    (hm : clsOf E cls m = some cls')
    (hc : construct cls'.ADDR_WIDTH kg kp i o = some s0) (cmds : List Cmd) :
    ∃ σ1 σ', __init__ E (some argv) cls mem kp kg σ0 = .ok () σ1 ∧ applyCmdsG E σ1 cmds = .ok () σ' ∧
      σ1.getc_addr = chosen kg i ∧ σ1.putc_addr = chosen kp o ∧ σ1._mpu.cls = cls' ∧
      σ'.getc_addr = σ1.getc_addr ∧ σ'.putc_addr = σ1.putc_addr ∧
      σ'.stdin = σ0.stdin ∧ σ'.stdout = σ0.stdout ∧ Inv σ' ∧
      σ'._mpu.memory.isObs = (σ1.getc_addr.isSome && σ1.putc_addr.isSome) ∧
      ∀ I O, σ1.getc_addr = some I → σ1.putc_addr = some O →
        ∃ cells, σ'._mpu.memory = .obs (obsMem σ'.addrWidth I O cells) ∧ ∀ a : Int,
          let mm := obsMem σ'.addrWidth I O cells
          mm.physMask = maskOf σ'.addrWidth ∧
          mm.rsubs.of (phys mm.physMask a) = (if phys mm.physMask a = phys mm.physMask I then [getcId] else []) ∧
          mm.wsubs.of (phys mm.physMask a) = (if phys mm.physMask a = phys mm.physMask O then [putcId] else []) := by
  have h0 := init_construct E argv rest m i o cls cls' mem kp kg σ0 hget hm
  rw [hc] at h0
  obtain ⟨σ1, e1, i1, s1, c1, m1, in1, out1⟩ := h0
  obtain ⟨σ', e2, i2, s2, k2⟩ := applyCmdsG_eq E cmds σ1 i1
  obtain ⟨k_g, k_p, k_m, k_in, k_out⟩ := k2
  obtain ⟨g1, g2, g3, g4, g5, g6⟩ := C18.io_mapping_stable cls'.ADDR_WIDTH kg kp i o s0 hc cmds
  have hg : σ1.getc_addr = s0.getcAddr := by rw [← s1]; rfl
  have hp : σ1.putc_addr = s0.putcAddr := by rw [← s1]; rfl
  refine ⟨σ1, σ', e1, e2, hg.trans g1, hp.trans g2, c1, k_g, k_p, k_in.trans in1, k_out.trans out1, i2, ?_, ?_⟩
  · have : (sessOf σ').observed = (s0.getcAddr.isSome && s0.putcAddr.isSome) := by rw [s2, s1]; exact g5
    rw [hg, hp]; exact this
  · intro I O hI hO
    have hI' : σ'.getc_addr = some I := k_g.trans hI
    have hO' : σ'.putc_addr = some O := k_p.trans hO
    obtain ⟨cells, g⟩ := i2.good hI' hO'
    refine ⟨cells, g.hm, ?_⟩
    intro a mm
    have hs : sessOf σ' = applyCmds s0 cmds := by rw [s2, s1]
    have h6 := g6 I O (hg ▸ hI) (hp ▸ hO) r0 cells a
    have hmm : memOf (applyCmds s0 cmds) r0 cells = mm := by
      rw [← hs]
      exact memOf_obsMem r0 (sessOf σ') I O cells (by rw [sessOf_good g]) (by rw [sessOf_good g])
        (by rw [sessOf_good g])
    have haw : (applyCmds s0 cmds).addrWidth = σ'.addrWidth := by rw [← hs]; rfl
    dsimp only at h6
    rw [hmm, haw] at h6
    exact h6

/-- non-vacuity, running the GENERATED `__init__`, `do_reset`, `do_mpu`: `-i e000 -o 0` (address 0 is an
address) on the 6502, then `reset`, `mpu 65Org16`, `mpu z80` (unknown: ignored), `reset`: the observers
sit at $e000 and 0 of the 256 K memory of a 65Org16; a store to $40000 (alias of 0) prints, a load from
$4e000 (alias of $e000) reads the input; the commands printed their lines. -/
example :
    let run := fun (k : IoSt → Option (Sess × MpuCls × List String) × Option (List (Option Int) × List Int × List Int)) =>
      match __init__ exEnv (some (argvOf ["py65mon", "-i", "e000", "-o", "0"]))
          .mpu6502 none (some 0xF001) (some 0xF004) blank with
      | .ok _ σ1 =>
        match applyCmdsG exEnv σ1 [.reset, .mpu "65Org16".toList, .mpu "z80".toList, .reset] with
        | .ok _ σ => k σ
        | _ => (none, none)
      | _ => (none, none)
    (run fun σ => (some (sessOf σ, σ._mpu.cls, σ.out.map String.ofList), none)).1 =
      some ({ addrWidth := 32, getcAddr := some 0xe000, putcAddr := some 0, observed := true }, .mpu65org16,
            ["Reset with new MPU 65Org16", "Unknown MPU: z80", "Available MPUs: 6502, 65C02, 65Org16"]) ∧
    (run fun σ =>
        let r := replayG exEnv σ [.w 0x40000 72, .r 0x4e000, .w 1 33]
        (none, some (r.1, r.2.stdout.written, r.2.stdin))).2 =
      some ([none, some 65, none], [72], [10, 66]) := by
  decide +kernel

/-- ... `None` through the keyword arguments means no character I/O, before and after `reset`; and a
`-i` value that is not hexadecimal is the `ValueError` of `int(value, 16)` out of the constructor. -/
example :
    (match __init__ exEnv (some (argvOf ["py65mon"])) .mpu6502 none none none blank with
     | .ok _ σ1 =>
       match applyCmdsG exEnv σ1 [.reset] with
       | .ok _ σ => some (σ1._mpu.memory.isObs, σ._mpu.memory.isObs, (replayG exEnv σ [.w 0xf001 72, .r 0xf004]).2.stdout.written)
       | _ => none
     | _ => none) = some (false, false, []) ∧
    (match __init__ exEnv (some (argvOf ["py65mon", "-i", "xyz"])) .mpu6502 none (some 0xF001) (some 0xF004) blank with
     | .raise .ValueError _ => true
     | _ => false) = true := by
  decide +kernel

/-- `io_session` for the generated code: the two theorems composed.  For a monitor built by the GENERATED
`__init__` with integer addresses `I` and `O` (keyword arguments or `-i` / `-o`), after ANY sequence of
`reset` / `mpu` commands through the GENERATED `do_reset` / `do_mpu`, replaying ANY access log of
printable stores through the GENERATED `putc` / `getc` writes exactly the values stored to addresses
congruent to `O` (mod the physical size of the current device's memory), in order, each once, all
flushed when everything before was, and consumes exactly one pending byte per load from an address
congruent to `I`; the loads return what the Spec says. -/
theorem io_session (E : Env) (argv rest : List Str) (m i o : Option Str) (cls cls' : MpuCls)
    (mem : Option (Int → Int)) (kp kg : Option Int) (σ0 : IoSt) (s0 : Sess)
    (hget : E.getopt (pySliceFrom argv 1) shortopts longopts = .ok (optsOf m i o, rest))
    (hm : clsOf E cls m = some cls')
    (hc : construct cls'.ADDR_WIDTH kg kp i o = some s0) (cmds : List Cmd) (I O : Int)
    (hI : chosen kg i = some I) (hO : chosen kp o = some O)
    (evs : List MemEv) (hev : ∀ e ∈ evs, okEv E e) :
    ∃ σ1 σ' cells, __init__ E (some argv) cls mem kp kg σ0 = .ok () σ1 ∧ applyCmdsG E σ1 cmds = .ok () σ' ∧
      σ'._mpu.memory = .obs (obsMem σ'.addrWidth I O cells) ∧
      let size := maskOf σ'.addrWidth + 1
      let r := replayG E σ' evs
      r.1 = (Py65.Spec.MonIO.replay size I O
              { cells := cells, pending := σ0.stdin, output := σ0.stdout.written } evs).1 ∧
      r.2.stdout.written = σ0.stdout.written ++ storesTo size O evs ∧
      r.2.stdin = σ0.stdin.drop (loadsFrom size I evs) ∧
      (σ0.stdout.flushed = σ0.stdout.written.length → r.2.stdout.flushed = r.2.stdout.written.length) := by
  obtain ⟨σ1, σ', e1, e2, a1, a2, -, a3, a4, a5, a6, a7, -, -⟩ :=
    io_mapping_stable E argv rest m i o cls cls' mem kp kg σ0 s0 hget hm hc cmds
  have hI' : σ'.getc_addr = some I := by rw [a3, a1, hI]
  have hO' : σ'.putc_addr = some O := by rw [a4, a2, hO]
  obtain ⟨cells, hmem, t⟩ := io_trace E σ' I O a7 hI' hO' evs hev
  dsimp only at t
  obtain ⟨t1, -, t3, t4, t5, -, -⟩ := t
  refine ⟨σ1, σ', cells, e1, e2, hmem, ?_⟩
  simp only [a5, a6] at t1 t3 t4 t5
  exact ⟨t1, t3, t4, t5⟩

/-- The default arguments of the GENERATED `__init__` / `_reset`: `$F004` / `$F001`, the NMOS 6502. -/
theorem defaults :
    __init__.default_getc_addr = some 0xF004 ∧ __init__.default_putc_addr = some 0xF001 ∧
    __init__.default_mpu_type = .mpu6502 ∧ __init__.default_memory.isNone = true ∧
    __init__.default_argv = none ∧
    _reset.default_getc_addr = some 0xF004 ∧ _reset.default_putc_addr = some 0xF001 := by
  decide

/-- GENERATED `_reset` re-creates the device, the parser, the disassembler and the assembler: four fresh
identities; the disassembler and the assembler are bound to the NEW device and the NEW parser; the parser
has the NEW device's width; the six width / format / mask attributes are the new device's. -/
theorem reset_recreates (E : Env) (cls : MpuCls) (σ : IoSt) :
    ∃ σ', _reset E cls σ.getc_addr σ.putc_addr σ = .ok () σ' ∧
      σ'._mpu.cls = cls ∧ σ'._mpu.id = σ.nextId ∧ σ'._address_parser.id = σ.nextId + 1 ∧
      σ'._disassembler.id = σ.nextId + 2 ∧ σ'._assembler.id = σ.nextId + 3 ∧ σ'.nextId = σ.nextId + 4 ∧
      σ'._disassembler.mpu = σ'._mpu.id ∧ σ'._disassembler.parser = σ'._address_parser.id ∧
      σ'._assembler.mpu = σ'._mpu.id ∧ σ'._assembler.parser = σ'._address_parser.id ∧
      σ'._address_parser.maxwidth = cls.ADDR_WIDTH ∧
      σ'.addrWidth = cls.ADDR_WIDTH ∧ σ'.byteWidth = cls.BYTE_WIDTH ∧ σ'.addrFmt = cls.ADDR_FORMAT ∧
      σ'.byteFmt = cls.BYTE_FORMAT ∧ σ'.addrMask = cls.addrMask ∧ σ'.byteMask = cls.byteMask ∧
      σ'.getc_addr = σ.getc_addr ∧ σ'.putc_addr = σ.putc_addr ∧ σ'.stdin = σ.stdin ∧ σ'.stdout = σ.stdout := by
  refine ⟨_, reset_eq E cls σ.getc_addr σ.putc_addr σ (by simp), ?_⟩
  simp [resetSt]

/-- The observers are installed iff BOTH parameters of `_reset` are not `None`: address 0 counts. -/
theorem reset_zero_is_an_address (E : Env) (cls : MpuCls) (σ : IoSt) (hI : σ.getc_addr = some 0)
    (O : Int) (hO : σ.putc_addr = some O) :
    ∃ σ', _reset E cls σ.getc_addr σ.putc_addr σ = .ok () σ' ∧
      σ'._mpu.memory = .obs (obsMem cls.ADDR_WIDTH 0 O (cellsOf σ)) := by
  refine ⟨_, reset_eq E cls σ.getc_addr σ.putc_addr σ (by simp), ?_⟩
  simp [resetSt, hI, hO]

end Py65.Props.C18g
