/-
C07g -- the theorems of C07 restated for the GENERATED assembler.

`Py65.Gen.AsmGen` is written by `harness/py2lean_asm.py` from the CURRENT `py65/assembler.py` on every
run of the check (statement-by-statement shallow embedding; library behaviour = the named helpers of
`Py65/Model/AsmRt.lean`).  `Py65/Proofs/AsmGenEq.lean` proves, for ALL arguments,

    assembleG d P s pc = Model.Asm.assembleL d P s pc          (assemble_eq)
    splitG d P s       = Model.Asm.normalizeAndSplit d P s     (normalize_and_split_eq)

where `assembleG` / `splitG` are the generated `assemble` / `normalize_and_split` with their outcome
(bytes / raised exception) written in the hand model's result types.  The statements below are the
property statements of `Props/C07.lean` about those generated functions; each proof is a rewrite with
the two equalities.

The value-level theorems of C07 (`asm_core`, `asm_zp_order`, `asm_abs_form`, `asm_branch`,
`asm_backend_sound`) speak about the back end of `assemble` (template loop, `list.index`, byte swap,
branch arithmetic, top-of-memory check) on the pair (mnemonic text `m`, operand text) that
`normalize_and_split` hands over.  The generated `assemble` is one function, so they are stated here as:
for EVERY statement text `s` that the generated `normalize_and_split` turns into `(m, canonical operand
text of (shape, value))` -- `m` any text, declared mnemonic or not -- the generated `assemble` returns … .
The range refusals of out-of-range values, which C07 packs into `assembleVal`, are those of
`normalize_and_split` and are covered at the text level (`asm_text*`, which hold for every value of the
operand word, in and out of range).
-/
import Py65.Props.C07
import Py65.Proofs.AsmGenEq

namespace Py65.Props.C07g
open Py65.Model Py65.Model.PyStr Py65.Model.AddrParser Py65.Model.Asm
open Py65.Proofs.Asm Py65.Proofs.AsmGenEq
open Py65.Props.C07 (Twin)
open Py65.Spec (Mode Mn Variant decode)
open Py65.Spec.Asm (opcodeOf Shape Outcome Refusal Stmt encode encodeIn encodeAbs Documented disp isZp fits
  operandBytes mnText)

variable {d : Dev} {v : Variant} {W : Nat}

/-- `C07.asm_core` for the generated assembler: whenever the generated `normalize_and_split` reads the
statement text as mnemonic text `m` and the canonical operand text of an in-range `(shape, value)`, the
generated `assemble` returns the documented encoding of `(m, shape, value)` at `pc` or the documented refusal. -/
theorem asm_core (hd : IsDevice d v W) (P : Parser) (s m : Str) (sh : Shape) (x pc : Int)
    (hin : Shape.inRange W sh x = true) (hs : splitG d P s = .ok m (canonText W sh x)) :
    assembleG d P s pc = toARes (encode v W ⟨m, sh, x⟩ pc) := by
  rw [assembleG_val hd.ok P s m sh x pc hin hs, C07.asm_core hd]

-- non-vacuity: the generated functions evaluated by the kernel (declared pair; pair the device lacks;
-- code past the top; 16-bit bytes)
example : splitG dev6502 ⟨16, 16, []⟩ " lda\t$1234 , x".toList = .ok "LDA".toList (canonText 8 .dirX 0x1234) ∧
    assembleG dev6502 ⟨16, 16, []⟩ " lda\t$1234 , x".toList 0 = .ok [0xbd, 0x34, 0x12] := by decide +kernel
example : splitG dev6502 ⟨16, 16, []⟩ "STX $1234,Y".toList = .ok "STX".toList (canonText 8 .dirY 0x1234) ∧
    assembleG dev6502 ⟨16, 16, []⟩ "STX $1234,Y".toList 0 = .syntax := by decide +kernel
example : assembleG dev6502 ⟨16, 16, []⟩ "LDA $10".toList 0xffff = .overflow ∧
    assembleG dev6502 ⟨16, 16, []⟩ "LDA $10".toList 0xfffe = .ok [0xa5, 0x10] := by decide +kernel
example : assembleG dev65org16 ⟨32, 16, []⟩ "LDA $12345".toList 0 = .ok [0xad, 0x2345, 0x1] := by decide +kernel
example : assembleG dev6502 ⟨16, 16, []⟩ "??? ".toList 0 = .syntax ∧
    assembleG dev6502 ⟨16, 16, []⟩ "LDA #256".toList 0 = .overflow := by decide +kernel

/-- `C07.asm_zp_order` for the generated assembler (hypothesis on `normalize_and_split` as in `asm_core`). -/
theorem asm_zp_order (hd : IsDevice d v W) (P : Parser) (s m : Str) {sh : Shape} {zp ab : Mode}
    (ht : Twin sh zp ab) (x pc : Int) (hx : 0 ≤ x ∧ x < 2 ^ W) (op : Nat) (hop : opcodeOf v m zp = some op)
    (hpc : pc + 2 ≤ 2 ^ (2 * W)) (hs : splitG d P s = .ok m (canonText W sh x)) :
    assembleG d P s pc = .ok [(op : Int), x] := by
  have hin : Shape.inRange W sh x = true := by
    cases ht <;> simp [Shape.inRange, hx.1, byte_lt_addr hd.ok.hW hx.2]
  rw [assembleG_val hd.ok P s m sh x pc hin hs]
  exact C07.asm_zp_order hd m ht x pc hx op hop hpc

example : assembleG dev6502 ⟨16, 16, []⟩ "LDA $0010".toList 0x300 = .ok [0xa5, 0x10] := by decide +kernel

/-- `C07.asm_abs_form` for the generated assembler (hypothesis on `normalize_and_split` as in `asm_core`). -/
theorem asm_abs_form (hd : IsDevice d v W) (P : Parser) (s m : Str) {sh : Shape} {zp ab : Mode}
    (ht : Twin sh zp ab) (x pc : Int) (hx : 0 ≤ x ∧ x < 2 ^ (2 * W)) (hzp : opcodeOf v m zp = none ∨ 2 ^ W ≤ x)
    (op : Nat) (hop : opcodeOf v m ab = some op) (hpc : pc + 3 ≤ 2 ^ (2 * W))
    (hs : splitG d P s = .ok m (canonText W sh x)) :
    assembleG d P s pc = .ok [(op : Int), x % 2 ^ W, x / 2 ^ W] := by
  have hin : Shape.inRange W sh x = true := by cases ht <;> simp [Shape.inRange, hx.1, hx.2]
  rw [assembleG_val hd.ok P s m sh x pc hin hs]
  exact C07.asm_abs_form hd m ht x pc hx hzp op hop hpc

example : assembleG dev6502 ⟨16, 16, []⟩ "JMP $0010".toList 0 = .ok [0x4c, 0x10, 0x00] ∧
    assembleG dev6502 ⟨16, 16, []⟩ "LDA $1234".toList 0 = .ok [0xad, 0x34, 0x12] := by decide +kernel

/-- `C07.asm_branch` for the generated assembler (hypothesis on `normalize_and_split` as in `asm_core`). -/
theorem asm_branch (hd : IsDevice d v W) (P : Parser) (s m : Str) (op : Nat) (hrel : opcodeOf v m .rel = some op)
    (hz : opcodeOf v m .zpg = none) (ha : opcodeOf v m .abs = none) (target pc : Int)
    (ht : 0 ≤ target ∧ target < 2 ^ (2 * W)) (hs : splitG d P s = .ok m (canonText W .dir target)) :
    assembleG d P s pc =
      if -(2 ^ (W - 1)) ≤ disp W target pc ∧ disp W target pc < 2 ^ (W - 1) ∧ pc + 2 ≤ 2 ^ (2 * W)
      then .ok [(op : Int), disp W target pc % 2 ^ W] else .overflow := by
  have hin : Shape.inRange W .dir target = true := by simp [Shape.inRange, ht.1, ht.2]
  rw [assembleG_val hd.ok P s m .dir target pc hin hs]
  exact C07.asm_branch hd m op hrel hz ha target pc ht

example : assembleG dev6502 ⟨16, 16, []⟩ "BNE $0000".toList 0xfffe = .ok [0xd0, 0x00] ∧
    assembleG dev6502 ⟨16, 16, []⟩ "BNE $0081".toList 0 = .ok [0xd0, 0x7f] ∧
    assembleG dev6502 ⟨16, 16, []⟩ "BNE $0082".toList 0 = .overflow ∧
    assembleG dev6502 ⟨16, 16, []⟩ "bne $ff82".toList 0 = .ok [0xd0, 0x80] ∧
    assembleG dev6502 ⟨16, 16, []⟩ "BNE $0000".toList 0xffff = .overflow := by decide +kernel

/-- `C07.asm_backend_sound` for the generated assembler: whatever opcode and operand text the generated
`normalize_and_split` hands over. -/
theorem asm_backend_sound (hd : IsDevice d v W) (P : Parser) (s opcode operand : Str) (pc : Int) (bs : List Int)
    (hs : splitG d P s = .ok opcode operand) (h : assembleG d P s pc = .ok bs) :
    ∃ sh x, Shape.inRange W sh x = true ∧ operand = canonText W sh x ∧
      encode v W ⟨opcode, sh, x⟩ pc = .ok bs := by
  rw [assembleG_of_split d P s opcode operand pc hs] at h
  exact C07.asm_backend_sound hd opcode operand pc bs h

example : splitG dev6502 ⟨16, 16, []⟩ "LDA $0010 GARBAGE".toList = .ok "LDA".toList "$0010 GARBAGE".toList ∧
    assembleG dev6502 ⟨16, 16, []⟩ "LDA $0010 GARBAGE".toList 0 = .syntax := by decide +kernel

/-- `asm_text` for the generated assembler (address operands; see `C07.asm_text` for the form of the
text). -/
theorem asm_text (hd : IsDevice d v W) (P : Parser) (hPw : P.width = 2 * W) (hwf : P.WF) (sh : Shape)
    (hsh : Shape.isAddr sh = true) (w0 M w1 b1 T wEnd : Str) (gs : List Str) (cs : Str) (pc : Int)
    (hw0 : Blank w0) (hw1 : Blank w1) (hw1ne : w1 ≠ []) (hb1 : Blank b1) (hwEnd : Blank wEnd)
    (hM : IsMnem M) (hT : AddrWord T)
    (hgs : ∀ g ∈ gs, Blank g) (hlen : gs.length = cs.length) (hcs : upperS cs = afterOf sh) :
    assembleG d P (w0 ++ (M ++ (w1 ++ (leadOf sh ++ (b1 ++ (T ++ (decorate gs cs ++ wEnd))))))) pc =
      match numberL P T with
      | .ok x => toARes (encode v W ⟨upperS M, sh, x⟩ pc)
      | .key => .key
      | .overflow => .overflow
      | .other => .other "number" := by
  rw [assembleG_eq]
  exact C07.asm_text hd P hPw hwf sh hsh w0 M w1 b1 T wEnd gs cs pc hw0 hw1 hw1ne hb1 hwEnd hM hT hgs hlen hcs

/-- `asm_spelling_hex` for the generated assembler. -/
theorem asm_spelling_hex (hd : IsDevice d v W) (P : Parser) (hPw : P.width = 2 * W) (hwf : P.WF) (sh : Shape)
    (hsh : Shape.isAddr sh = true) (n z : Nat) (m : List Bool) (hn : n < 2 ^ (2 * W))
    (w0 M w1 b1 wEnd : Str) (gs : List Str) (cs : Str) (pc : Int)
    (hw0 : Blank w0) (hw1 : Blank w1) (hw1ne : w1 ≠ []) (hb1 : Blank b1) (hwEnd : Blank wEnd)
    (hM : IsMnem M) (hgs : ∀ g ∈ gs, Blank g) (hlen : gs.length = cs.length) (hcs : upperS cs = afterOf sh) :
    assembleG d P (w0 ++ (M ++ (w1 ++ (leadOf sh ++ (b1 ++ (('$' :: spelling 16 z m n) ++
      (decorate gs cs ++ wEnd))))))) pc = toARes (encode v W ⟨upperS M, sh, (n : Int)⟩ pc) := by
  rw [assembleG_eq]
  exact C07.asm_spelling_hex hd P hPw hwf sh hsh n z m hn w0 M w1 b1 wEnd gs cs pc hw0 hw1 hw1ne hb1 hwEnd hM
    hgs hlen hcs

/-- `asm_text_imm` for the generated assembler. -/
theorem asm_text_imm (hd : IsDevice d v W) (P : Parser) (w0 M w1 w wEnd : Str) (pc : Int)
    (hw0 : Blank w0) (hw1 : Blank w1) (hw1ne : w1 ≠ []) (hwEnd : Blank wEnd)
    (hM : IsMnem M) (hw : w ≠ []) (hwc : ∀ c ∈ w, isTargetChar c = true)
    (hq : w.head? ≠ some '\'' ∧ w.head? ≠ some '"') :
    assembleG d P (w0 ++ (M ++ (w1 ++ ('#' :: w ++ wEnd)))) pc =
      match numberL P w with
      | .ok x => toARes (encode v W ⟨upperS M, .imm, x⟩ pc)
      | .key => .key
      | .overflow => .overflow
      | .other => .other "number" := by
  rw [assembleG_eq]
  exact C07.asm_text_imm hd P w0 M w1 w wEnd pc hw0 hw1 hw1ne hwEnd hM hw hwc hq

/-- `asm_text_char` for the generated assembler. -/
theorem asm_text_char (hd : IsDevice d v W) (P : Parser) (w0 M w1 wEnd : Str) (q ch : Char) (close : Str)
    (pc : Int) (hw0 : Blank w0) (hw1 : Blank w1) (hw1ne : w1 ≠ []) (hwEnd : Blank wEnd)
    (hM : IsMnem M) (hq : q = '\'' ∨ q = '"') (hch : isTargetChar ch = true)
    (hclose : close = [] ∨ close = [q]) :
    assembleG d P (w0 ++ (M ++ (w1 ++ ('#' :: q :: ch :: close ++ wEnd)))) pc =
      toARes (encode v W ⟨upperS M, .imm, (ch.toNat : Int)⟩ pc) := by
  rw [assembleG_eq]
  exact C07.asm_text_char hd P w0 M w1 wEnd q ch close pc hw0 hw1 hw1ne hwEnd hM hq hch hclose

/-- `asm_text_acc` for the generated assembler. -/
theorem asm_text_acc (hd : IsDevice d v W) (P : Parser) (w0 M w1 wEnd : Str) (a : Char) (pc : Int)
    (hw0 : Blank w0) (hw1 : Blank w1) (hw1ne : w1 ≠ []) (hwEnd : Blank wEnd)
    (hM : IsMnem M) (ha : a = 'A' ∨ a = 'a') :
    assembleG d P (w0 ++ (M ++ (w1 ++ (a :: wEnd)))) pc = toARes (encode v W ⟨upperS M, .acc, 0⟩ pc) := by
  rw [assembleG_eq]
  exact C07.asm_text_acc hd P w0 M w1 wEnd a pc hw0 hw1 hw1ne hwEnd hM ha

/-- `asm_text_none` for the generated assembler. -/
theorem asm_text_none (hd : IsDevice d v W) (P : Parser) (w0 M wEnd : Str) (pc : Int)
    (hw0 : Blank w0) (hwEnd : Blank wEnd) (hM : IsMnem M) :
    assembleG d P (w0 ++ (M ++ wEnd)) pc = toARes (encode v W ⟨upperS M, .none, 0⟩ pc) := by
  rw [assembleG_eq]
  exact C07.asm_text_none hd P w0 M wEnd pc hw0 hwEnd hM

/-- `asm_ws_case` for the generated assembler: invariance under blanks/tabs and letter case. -/
theorem asm_ws_case (hd : IsDevice d v W) (P : Parser) (hPw : P.width = 2 * W) (hwf : P.WF) (sh : Shape)
    (hsh : Shape.isAddr sh = true) (T : Str) (hT : AddrWord T) (pc : Int)
    (w0 M w1 b1 wEnd : Str) (gs : List Str) (cs : Str)
    (hw0 : Blank w0) (hw1 : Blank w1) (hw1ne : w1 ≠ []) (hb1 : Blank b1) (hwEnd : Blank wEnd)
    (hM : IsMnem M) (hgs : ∀ g ∈ gs, Blank g) (hlen : gs.length = cs.length) (hcs : upperS cs = afterOf sh)
    (w0' M' w1' b1' wEnd' : Str) (gs' : List Str) (cs' : Str)
    (hw0' : Blank w0') (hw1' : Blank w1') (hw1ne' : w1' ≠ []) (hb1' : Blank b1') (hwEnd' : Blank wEnd')
    (hM' : IsMnem M') (hgs' : ∀ g ∈ gs', Blank g) (hlen' : gs'.length = cs'.length)
    (hcs' : upperS cs' = afterOf sh) (hMM : upperS M = upperS M') :
    assembleG d P (w0 ++ (M ++ (w1 ++ (leadOf sh ++ (b1 ++ (T ++ (decorate gs cs ++ wEnd))))))) pc =
    assembleG d P (w0' ++ (M' ++ (w1' ++ (leadOf sh ++ (b1' ++ (T ++ (decorate gs' cs' ++ wEnd'))))))) pc := by
  rw [assembleG_eq, assembleG_eq]
  exact C07.asm_ws_case hd P hPw hwf sh hsh T hT pc w0 M w1 b1 wEnd gs cs hw0 hw1 hw1ne hb1 hwEnd hM hgs hlen hcs
    w0' M' w1' b1' wEnd' gs' cs' hw0' hw1' hw1ne' hb1' hwEnd' hM' hgs' hlen' hcs' hMM

-- non-vacuity: `lda\t( $10 ) , y ` and `LDA ($10),Y` through the generated assembler
example : assembleG dev6502 ⟨16, 16, []⟩ " lda\t( $10 ) , y ".toList 0 = .ok [0xb1, 0x10] ∧
    assembleG dev6502 ⟨16, 16, []⟩ "LDA ($10),Y".toList 0 = .ok [0xb1, 0x10] ∧
    assembleG dev6502 ⟨16, 16, []⟩ "lda #'A'".toList 0 = .ok [0xa9, 0x41] ∧
    assembleG dev6502 ⟨16, 16, []⟩ "asl a".toList 0 = .ok [0x0a] ∧
    assembleG dev6502 ⟨16, 16, []⟩ " nop ".toList 0 = .ok [0xea] := by decide +kernel

/-- `asm_total` for the generated assembler: for every statement text whatsoever, every label table with
in-range values, every address: bytes, `SyntaxError`, `OverflowError` or `KeyError` -- no other exception
(`ValueError`, `IndexError`, `TypeError`, anything outside the modelled library subset) escapes. -/
theorem asm_total (hd : IsDevice d v W) (P : Parser) (hwf : P.WF) (s : Str) (pc : Int) (w : String) :
    assembleG d P s pc ≠ .other w := by
  rw [assembleG_eq]
  exact C07.asm_total hd P hwf s pc w

example : assembleG dev6502 ⟨16, 16, []⟩ "LDA #'".toList 0 = .syntax ∧
    assembleG dev6502 ⟨16, 16, []⟩ "LDA nolabel".toList 0 = .key ∧
    assembleG dev6502 ⟨16, 16, []⟩ "".toList 0 = .syntax := by decide +kernel

/-- `C07.asm_sound_partial` for the generated `assemble` and `normalize_and_split`.  (That the triple is the
one the ORIGINAL text denotes under the token syntax is `asm_sound` below.) -/
theorem asm_sound_partial (hd : IsDevice d v W) (P : Parser) (s : Str) (pc : Int) (bs : List Int)
    (h : assembleG d P s pc = .ok bs) :
    ∃ opcode operand sh x, splitG d P s = .ok opcode operand ∧
      Shape.inRange W sh x = true ∧ operand = canonText W sh x ∧ encode v W ⟨opcode, sh, x⟩ pc = .ok bs := by
  rw [assembleG_eq] at h
  obtain ⟨oc, od, sh, x, h1, h2, h3, h4⟩ := C07.asm_sound_partial hd P s pc bs h
  exact ⟨oc, od, sh, x, by rw [splitG_eq]; exact h1, h2, h3, h4⟩

/-- `C07.asm_sound` ("never mis-assembles", every text, FULL) for the GENERATED `assemble`, through the
unconditional `AsmGenEq.assemble_eq`. -/
theorem asm_sound (hd : IsDevice d v W) (P : Parser) (hPw : P.width = 2 * W) (hwf : P.WF)
    (hlab : LabelsNoParen P) (s : Str) (pc : Int) (bs : List Int) (h : assembleG d P s pc = .ok bs) :
    ∃ m sh w x, Py65.Spec.Asm.parse s = some (m, sh, w) ∧ value P sh w = .ok x ∧
      encode v W ⟨m, sh, x⟩ pc = .ok bs := by
  rw [assembleG_eq] at h
  exact C07.asm_sound hd P hPw hwf hlab s pc bs h

/-- ... and in the header's wording: the bytes are a documented encoding of what the text denotes. -/
theorem asm_sound_documented (hd : IsDevice d v W) (P : Parser) (hPw : P.width = 2 * W) (hwf : P.WF)
    (hlab : LabelsNoParen P) (s : Str) (pc : Int) (bs : List Int) (h : assembleG d P s pc = .ok bs) :
    ∃ m sh w x, Py65.Spec.Asm.parse s = some (m, sh, w) ∧ value P sh w = .ok x ∧
      Documented v W ⟨m, sh, x⟩ pc bs := by
  rw [assembleG_eq] at h
  exact C07.asm_sound_documented hd P hPw hwf hlab s pc bs h

/-- non-vacuity of `asm_sound`: the hypotheses hold of a parser with labels, and the GENERATED assembler does
return bytes for a text with a label, blanks and an index (so the conclusion is about something). -/
example :
    (⟨16, 16, [("tbl".toList, 0x10), ("io.port".toList, 0xfe)]⟩ : Parser).width = 2 * 8 ∧
    (⟨16, 16, [("tbl".toList, 0x10), ("io.port".toList, 0xfe)]⟩ : Parser).WF ∧
    LabelsNoParen ⟨16, 16, [("tbl".toList, 0x10), ("io.port".toList, 0xfe)]⟩ ∧
    assembleG dev6502 ⟨16, 16, [("tbl".toList, 0x10), ("io.port".toList, 0xfe)]⟩ " lda\t( tbl ) , y ".toList 7
      = .ok [0xb1, 0x10] ∧
    assembleG dev6502 ⟨16, 16, [("tbl".toList, 0x10), ("io.port".toList, 0xfe)]⟩ "STA io.port".toList 0
      = .ok [0x85, 0xfe] :=
  ⟨by decide,
   (Py65.Proofs.Num.init_wf 16 16 [("tbl".toList, 0x10), ("io.port".toList, 0xfe)]
     ⟨16, 16, [("tbl".toList, 0x10), ("io.port".toList, 0xfe)]⟩ (by decide +kernel)).1,
   by decide, by decide +kernel, by decide +kernel⟩

end Py65.Props.C07g
