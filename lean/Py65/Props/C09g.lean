/-
C09g -- the main theorems of C09 ("the disassembler is total and agrees with what the device actually
executes") restated for the GENERATED `Disassembler.instruction_at` (`Py65/Gen/DisasmGen.lean`,
translated from `py65/disassembler.py` by `harness/py2lean_dis.py` on every run).

`disOf d P mem` is `Disassembler(mpu, address_parser)` built by the
generated `__init__` from the `mpu` object `mpuOf d mem` of a device record (for the three devices
that object is the generated device: `mpuOf_dev6502` ...) -- both in `Py65/Proofs/DisasmGenEq.lean`,
which also proves `Gen.instruction_at = Model.Disasm.instructionAt` (`instruction_at_eq`); every
theorem here is the C09 theorem rewritten with that equality.  A successful call returns the Python
tuple `(length, disasm)`.
-/
import Py65.Props.C09
import Py65.Proofs.DisasmGenEq

namespace Py65.Props.C09g
open Py65.Model Py65.Model.PyStr Py65.Model.AddrParser Py65.Model.Asm Py65.Model.Disasm
open Py65.Proofs.Asm Py65.Proofs.DisasmGenEq Py65.Gen.DisasmGen
open Py65.Spec (Mode Mn Variant decode AState)
open Py65.Spec.Asm (mnText)
open Py65.Props.C09 (Runs isControl)

/-- `C09.dis_total` for the generated `instruction_at`. -/
theorem dis_total {d : Dev} {v : Variant} {W : Nat} (hd : IsDevice d v W) (P : Parser) (mem : Int → Int)
    (pc : Int) (hop : 0 ≤ byteAt d mem pc ∧ byteAt d mem pc < 256) :
    ∃ n t, (disOf d P mem).instruction_at pc = .ok (n, t) ∧ 1 ≤ n ∧ n ≤ 3 := by
  obtain ⟨n, t, h, h1, h3⟩ := C09.dis_total hd P mem pc hop
  exact ⟨n, t, gen_of_model (.of_devOK hd.ok) h, by omega, by omega⟩

example : ∃ n t, (disOf dev6502 ⟨16, 16, []⟩ (fun a => if a = 0xffff then 0xad else 0x12)).instruction_at 0xffff
    = .ok (n, t) ∧ 1 ≤ n ∧ n ≤ 3 :=
  dis_total .d6502 _ _ _ (by decide +kernel)
example : (disOf dev6502 ⟨16, 16, []⟩ (fun a => if a = 0xffff then 0xad else 0x12)).instruction_at 0xffff
    = .ok (3, "LDA $1212".toList) := by decide +kernel   -- the generated code itself, evaluated by the kernel

/-- `C09.dis_len` for the generated `instruction_at`. -/
theorem dis_len {d : Dev} {v : Variant} {W : Nat} (hd : IsDevice d v W) (P : Parser) (mem : Int → Int)
    (pc : Int) (hop : 0 ≤ byteAt d mem pc ∧ byteAt d mem pc < 256) (mn : Mn) (mo : Mode)
    (hdec : decode v (byteAt d mem pc) = some (mn, mo)) :
    ∃ t, (disOf d P mem).instruction_at pc = .ok (mo.len, t) := by
  obtain ⟨t, h⟩ := C09.dis_len hd P mem pc hop mn mo hdec
  exact ⟨t, gen_of_model_len (.of_devOK hd.ok) h⟩

example : decode .cmos 0x7c = some (.JMP, .iax) := by decide +kernel

/-- `C09.dis_undeclared` for the generated `instruction_at`. -/
theorem dis_undeclared {d : Dev} {v : Variant} {W : Nat} (hd : IsDevice d v W) (P : Parser)
    (mem : Int → Int) (pc : Int) (hop : 0 ≤ byteAt d mem pc ∧ byteAt d mem pc < 256)
    (hdec : decode v (byteAt d mem pc) = none) :
    (disOf d P mem).instruction_at pc = .ok (1, ['?', '?', '?']) :=
  gen_of_model (.of_devOK hd.ok) (n := 1) (C09.dis_undeclared hd P mem pc hop hdec)

example : decode .nmos 0x02 = none := by decide +kernel

/-- `C09.dis_len_eq_exec` for the generated `instruction_at`. -/
theorem dis_len_eq_exec {d : Dev} {v : Variant} {W : Nat} (hd : IsDevice d v W) (P : Parser) (s : AState)
    (hs : Runs W s) (mn : Mn) (mo : Mode) (hdec : decode v (s.mem s.pc) = some (mn, mo))
    (hnc : isControl mn = false) :
    ∃ n t, (disOf d P s.mem).instruction_at s.pc = .ok (n, t) ∧
      (Py65.Spec.step W v s).pc = (s.pc + n) % 2 ^ (2 * W) := by
  obtain ⟨n, t, h, hpc⟩ := C09.dis_len_eq_exec hd P s hs mn mo hdec hnc
  exact ⟨n, t, gen_of_model (.of_devOK hd.ok) h, hpc⟩

example : Runs 8 { a := 0, x := 0, y := 0, sp := 0xff, p := 0x30, pc := 0xffff, mem := fun _ => 0xa9,
                   waiting := false } := ⟨rfl, by decide, by decide, by decide, by decide⟩
example : decode .nmos 0xa9 = some (.LDA, .imm) ∧ isControl .LDA = false := by decide +kernel

/-- `dis_branch_target`: for every relative branch at any address, the generated function reports
length 2 and shows (as `$hex` or as the label bound to it) the address
`(address + 2 + signed displacement) mod 2^AW`: the arithmetic of the `rel` branch
(`opv & (1 << (byteWidth - 1))`, `^ byteMask`, `& addrMask`) is the signed displacement. -/
theorem dis_branch_target {d : Dev} {v : Variant} {W : Nat} (hd : IsDevice d v W) (P : Parser)
    (mem : Int → Int) (pc : Int) (hop : 0 ≤ byteAt d mem pc ∧ byteAt d mem pc < 256) (mn : Mn)
    (hdec : decode v (byteAt d mem pc) = some (mn, .rel))
    (hb : 0 ≤ byteAt d mem (pc + 1) ∧ byteAt d mem (pc + 1) < 2 ^ W) :
    (disOf d P mem).instruction_at pc =
      .ok (2, mnText mn ++ ' ' :: shown P (W / 2)
        ((pc + 2 + Py65.Spec.signed W (byteAt d mem (pc + 1))) % 2 ^ (2 * W))) := by
  have h := dis_spec hd.ok P mem pc hop
  rw [hdec] at h
  simp only [disText, C09.dis_branch_target hd pc _ hb] at h
  exact gen_of_model (.of_devOK hd.ok) (n := 2) h

example : decode .nmos 0xd0 = some (.BNE, .rel) := by decide +kernel
example : (disOf dev6502 ⟨16, 16, []⟩ (fun a => if a = 0 then 0xd0 else 0xee)).instruction_at 0
    = .ok (2, "BNE $fff0".toList) := by decide +kernel

/-- `dis_branch_taken`: ... and that address is exactly the PC reached when the branch is taken. -/
theorem dis_branch_taken {d : Dev} {v : Variant} {W : Nat} (hd : IsDevice d v W) (P : Parser) (s : AState)
    (hs : Runs W s) (mn : Mn) (hdec : decode v (s.mem s.pc) = some (mn, .rel))
    (hb : 0 ≤ s.mem ((s.pc + 1) % 2 ^ (2 * W)) ∧ s.mem ((s.pc + 1) % 2 ^ (2 * W)) < 2 ^ W)
    (htaken : Py65.Spec.branchCond W mn s.p = true) :
    (disOf d P s.mem).instruction_at s.pc =
      .ok (2, mnText mn ++ ' ' :: shown P (W / 2) (Py65.Spec.step W v s).pc) :=
  gen_of_model (.of_devOK hd.ok) (n := 2) (C09.dis_branch_taken hd P s hs mn hdec hb htaken)

example : decode .nmos 0xd0 = some (.BNE, .rel) ∧ Py65.Spec.branchCond 8 .BNE 0x30 = true := by decide +kernel

/-- `C09.dis_jmp_jsr` for the generated `instruction_at`. -/
theorem dis_jmp_jsr {d : Dev} {v : Variant} {W : Nat} (hd : IsDevice d v W) (P : Parser) (s : AState)
    (hs : Runs W s) (mn : Mn) (hmn : mn = .JMP ∨ mn = .JSR)
    (hdec : decode v (s.mem s.pc) = some (mn, .abs)) :
    (disOf d P s.mem).instruction_at s.pc =
      .ok (3, mnText mn ++ ' ' :: shown P (W / 2) (Py65.Spec.step W v s).pc) :=
  gen_of_model (.of_devOK hd.ok) (n := 3) (C09.dis_jmp_jsr hd P s hs mn hmn hdec)

example : decode .nmos 0x4c = some (.JMP, .abs) ∧ decode .cmos 0x20 = some (.JSR, .abs) := by decide +kernel

/-- The generated function on the 65Org16 with an opcode cell above 255 (outside C09's quantifier):
`IndexError` from `mpu.disassemble[instruction]`. -/
theorem dis_opcode_cell_above_255 :
    (disOf dev65org16 ⟨32, 16, []⟩ (fun _ => 0x1234)).instruction_at 0 = .error .IndexError := by
  rfl

end Py65.Props.C09g
