/-
C11 for the REGENERATED model: the property theorems of `Py65/Props/C11.lean`, restated for the
definitions that `harness/py2lean_mem.py` translates from the current `py65/memory.py`
(`Py65/Gen/ObsMemGen.lean`).  Each follows from its hand-model
counterpart by rewriting with the equalities of `Py65/Proofs/ObsMemGenEq.lean`.

`ObsMemGenEq.replayObs` replays a device's item accesses with the generated
`__getitem__`/`__setitem__` (int index); `ObsMemGenEq.run`/`initOf` build memories with the
generated `__init__` and `subscribe_to_*`.
-/
import Py65.Props.C11
import Py65.Proofs.ObsMemGenEq

namespace Py65.Props.C11g
open Py65 Py65.Gen Py65.Proofs Py65.Spec.ObsMem
open Py65.Model.ObsMem (Reply OM Op Ev)
open Py65.Proofs.ObsMemGenEq (init_eq run_eq getitem_int_eq setitem_int_eq replayObs_eq)

/-- `obs_transparent_get` for the generated `__getitem__`. -/
theorem obs_transparent_get (reply : Reply) (m : OM) (hm : WF m) (hq : Quiet reply m) (a : Int)
    (h0 : 0 ≤ a) (h1 : a ≤ m.physMask) :
    (ObsMemGen.getitem_int reply m a).1 = m.subject a ∧
    (ObsMemGen.getitem_int reply m a).2 =
      { m with log := m.log ++ (m.rsubs.of a).map (fun cb => { cb := cb, addr := a, val := none }) } := by
  rw [getitem_int_eq]
  exact C11.obs_transparent_get reply m hm hq a h0 h1

/-- `obs_transparent_set` for the generated `__setitem__`. -/
theorem obs_transparent_set (reply : Reply) (m : OM) (hm : WF m) (hq : Quiet reply m) (a v : Int)
    (h0 : 0 ≤ a) (h1 : a ≤ m.physMask) :
    ObsMemGen.setitem_int reply m a v =
      { m with subject := upd m.subject a v, log := (ObsMemGen.setitem_int reply m a v).log } ∧
    (ObsMemGen.setitem_int reply m a v).log =
      m.log ++ (m.wsubs.of a).map (fun cb => { cb := cb, addr := a, val := some v }) := by
  rw [setitem_int_eq]
  exact C11.obs_transparent_set reply m hm hq a v h0 h1

/-- non-vacuity: a 64 K memory built by the generated methods, with a read subscriber on `$F004`
and a write subscriber on `$F001` that answer `None`, is `WF` and `Quiet`; the read returns the
cell, the write stores the value, and both callbacks were called. -/
example :
    let reply : Reply := fun _ _ _ _ => none
    let m := ObsMemGenEq.run reply (ObsMemGenEq.initOf 16 fun a => a % 256) [.subR [0xf004] 1, .subW [0xf001] 2]
    WF m ∧ Quiet reply m ∧
    (ObsMemGen.getitem_int reply m 0xf004).1 = 4 ∧
    (ObsMemGen.getitem_int reply m 0xf004).2.log = [⟨1, 0xf004, none⟩] ∧
    (ObsMemGen.setitem_int reply m 0xf001 65).subject 0xf001 = 65 ∧
    (ObsMemGen.setitem_int reply m 0xf001 65).log = [⟨2, 0xf001, some 65⟩] := by
  refine ⟨?_, fun _ _ _ _ _ _ => rfl, ?_⟩
  · rw [run_eq, init_eq]; exact Model.ObsMem.run_WF _ _ _ (Model.ObsMem.init_WF _ _)
  · decide +kernel

/-- `replay_equiv` for the generated item access: replaying ANY list of in-range accesses on a
plain memory and on a generated `ObservableMemory` whose subscribers all answer `None` gives the
same values and the same cells; subscriptions, mask and length are untouched. -/
theorem replay_equiv (reply : Reply) (evs : List MemEv) (mem : Int → Int) (m : OM)
    (hm : WF m) (hq : Quiet reply m)
    (hin : ∀ e ∈ evs, InRange m.physMask e)
    (hsame : ∀ k, 0 ≤ k → k ≤ m.physMask → mem k = m.subject k) :
    (ObsMemGenEq.replayObs reply m evs).1 = (replayPlain mem evs).1 ∧
    (∀ k, 0 ≤ k → k ≤ m.physMask →
        (replayPlain mem evs).2 k = (ObsMemGenEq.replayObs reply m evs).2.subject k) ∧
    (ObsMemGenEq.replayObs reply m evs).2.rsubs = m.rsubs ∧
    (ObsMemGenEq.replayObs reply m evs).2.wsubs = m.wsubs ∧
    (ObsMemGenEq.replayObs reply m evs).2.physMask = m.physMask ∧
    (ObsMemGenEq.replayObs reply m evs).2.subjLen = m.subjLen := by
  rw [replayObs_eq]
  exact C11.replay_equiv reply evs mem m hm hq hin hsame

/-- non-vacuity: read, write, read of observed cells and of an unobserved one, replayed on both
memories: same values, same cells, while the observers were called three times. -/
example :
    let reply : Reply := fun _ _ _ _ => none
    let cells : Int → Int := fun a => a % 256
    let m := ObsMemGenEq.run reply (ObsMemGenEq.initOf 16 cells) [.subR [0xf004, 0xf001] 1, .subW [0xf001] 2]
    let evs : List MemEv := [.r 0xf001, .w 0xf001 2, .r 0xf004, .r 0x10, .w 0xffff 9, .r 0xffff]
    (ObsMemGenEq.replayObs reply m evs).1 = [some 1, none, some 4, some 16, none, some 9] ∧
    (replayPlain cells evs).1 = [some 1, none, some 4, some 16, none, some 9] ∧
    (ObsMemGenEq.replayObs reply m evs).2.subject 0xf001 = 2 ∧ (replayPlain cells evs).2 0xf001 = 2 ∧
    (ObsMemGenEq.replayObs reply m evs).2.log =
      [⟨1, 0xf001, none⟩, ⟨2, 0xf001, some 2⟩, ⟨1, 0xf004, none⟩] ∧
    (∀ e ∈ evs, InRange m.physMask e) := by
  decide +kernel

end Py65.Props.C11g
