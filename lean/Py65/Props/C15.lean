/-
C15 -- Address parsing is exact, bounded and fails only with KeyError/OverflowError.

About the hand model `Py65.Model.AddrParser` of `py65/utils/addressing.py`, for EVERY width (in particular 16, 24, 32),
every `n` (digit-list induction, not enumeration), every number of leading zeros and every mixture
of letter cases.  `spelling b z m n` = `z` zeros followed by the base-`b` digits of `n` with the
letter cases chosen by the mask `m`.  Beside each theorem a non-vacuity `example`.

One thing the code does NOT do, stated as a theorem of its own so that the exclusion is not wider
than the deviation:
  * `num_dec_digit_limit` -- a decimal spelling with more than 4300 digits is a `KeyError`
    (CPython's `int` digit limit, `sys.get_int_max_str_digits()`), so `num_dec` and the radix-10
    case of `num_bare` carry the bound `z + digits ≤ 4300` on the length of the digit string;
    bases 16, 8 and 2 have no bound.  (Trusted base: the limit is CPython's default.)
-/
import Py65.Proofs.NumLemmas

namespace Py65.Props.C15
open Py65.Model Py65.Model.PyStr Py65.Model.AddrParser Py65.Proofs.Num

/-- `$hex`: any number of leading zeros, any letter case, any width. -/
theorem num_hex (P : Parser) (n z : Nat) (m : List Bool) (hn : n < 2 ^ P.width) :
    number P ("$" ++ String.ofList (spelling 16 z m n)) = .ok n := by
  rw [(number_prefix P _).1, String.toList_ofList, pyIntL_spelling (by decide) (by decide) z m n (.inl rfl)]
  exact (constrain_natCast P n).trans (if_pos hn)

example : number P16 "$00fF" = .ok 255 := by
  have h : spelling 16 2 [false, true] 255 = "00fF".toList := by
    simp [spelling, toDigits, mixCase, digitChar, upper]
  have := num_hex P16 255 2 [false, true] (by decide)
  rwa [h, String.ofList_toList] at this
example : number P24 "$fffFFF" = .ok 16777215 := by decide +kernel
example : number P32 "$0000ffffffff" = .ok 4294967295 := by decide +kernel

/-- `+decimal`; CPython refuses more than 4300 decimal digits (`num_dec_digit_limit`). -/
theorem num_dec (P : Parser) (n z : Nat) (hn : n < 2 ^ P.width)
    (hlim : z + (toDigits 10 n).length ≤ 4300) :
    number P ("+" ++ String.ofList (spelling 10 z [] n)) = .ok n := by
  rw [(number_prefix P _).2.1, String.toList_ofList, pyIntL_spelling (by decide) (by decide) z [] n (.inr hlim)]
  exact (constrain_natCast P n).trans (if_pos hn)

/-- For every address of a parser up to 64 bits the digit bound of `num_dec` holds with up to 4000
leading zeros. -/
theorem num_dec_limit_ok (n z w : Nat) (hw : w ≤ 64) (hn : n < 2 ^ w) (hz : z ≤ 4000) :
    z + (toDigits 10 n).length ≤ 4300 := by
  have h1 : n < 10 ^ (19 + 1) := by
    have : 2 ^ w ≤ 2 ^ 64 := Nat.pow_le_pow_right (by decide) hw
    have : (2 : Nat) ^ 64 < 10 ^ (19 + 1) := by decide
    omega
  have := toDigits_length_le (b := 10) (by decide) 19 n h1
  omega

example : number P16 "+0065535" = .ok 65535 := by decide +kernel
example : number P24 "+16777215" = .ok 16777215 := by decide +kernel
example : ∃ n z, n < 2 ^ P32.width ∧ z + (toDigits 10 n).length ≤ 4300 :=
  ⟨4294967295, 4000, by decide, num_dec_limit_ok _ _ 32 (by decide) (by decide) (by decide)⟩

/-- A decimal spelling with more than 4300 digits is a `KeyError` (CPython's digit limit). -/
theorem num_dec_digit_limit (P : Parser) (n z : Nat) (hlim : 4300 < z + (toDigits 10 n).length) :
    number P ("+" ++ String.ofList (spelling 10 z [] n)) = .key := by
  obtain ⟨h1, h2, _, h4⟩ := spelling_spec (b := 10) (by decide) (by decide) z [] n
  rw [(number_prefix P _).2.1, String.toList_ofList,
    pyIntL_digits_limit (b := 10) (by decide) (by decide) h1 h2 rfl (by rw [h4]; exact hlim)]
  rfl

example : 4300 < 4300 + (toDigits 10 7).length := by
  have := toDigits_ne_nil 10 7
  have : 0 < (toDigits 10 7).length := List.length_pos_iff.mpr this
  omega

/-- `%binary` -/
theorem num_bin (P : Parser) (n z : Nat) (hn : n < 2 ^ P.width) :
    number P ("%" ++ String.ofList (spelling 2 z [] n)) = .ok n := by
  rw [(number_prefix P _).2.2, String.toList_ofList, pyIntL_spelling (by decide) (by decide) z [] n (.inl rfl)]
  exact (constrain_natCast P n).trans (if_pos hn)

example : number P16 "%0001111111111111111" = .ok 65535 := by decide +kernel
example : number P32 "%101" = .ok 5 := by decide +kernel

/-- Bare digits in the default radix 16 / 10 / 8 / 2, when that digit string is not a label. -/
theorem num_bare (P : Parser) (n z : Nat) (m : List Bool)
    (hr : P.radix = 16 ∨ P.radix = 10 ∨ P.radix = 8 ∨ P.radix = 2) (hn : n < 2 ^ P.width)
    (hlim : P.radix = 10 → z + (toDigits 10 n).length ≤ 4300)
    (hnl : lookup P.labels (spelling P.radix z m n) = none) :
    number P (String.ofList (spelling P.radix z m n)) = .ok n := by
  have hb2 : 2 ≤ P.radix := by omega
  have hb36 : P.radix ≤ 36 := by omega
  obtain ⟨h1, h2, _, _⟩ := spelling_spec hb2 hb36 z m n
  have hlim' : isPow2Base P.radix = true ∨ z + (toDigits P.radix n).length ≤ maxStrDigits := by
    rcases hr with h | h | h | h
    · left; rw [h]; rfl
    · right; rw [h]; exact hlim h
    · left; rw [h]; rfl
    · left; rw [h]; rfl
  have hnp : NoPrefix (spelling P.radix z m n) := by
    apply noPrefix_of_head
    intro c hc
    have : c ∈ spelling P.radix z m n := List.mem_of_mem_head? hc
    exact (h2 c this).alnum.notpre
  have hmo : matchOffset (spelling P.radix z m n) = none :=
    matchOffset_none_of_label (fun c hc => (h2 c hc).alnum.label)
  simp only [number, String.toList_ofList]
  rw [numberL_bare P hnp hnl hmo, pyIntL_spelling hb2 hb36 z m n hlim']
  exact (constrain_natCast P n).trans (if_pos hn)

example : number P16 "00Ff" = .ok 255 := by decide +kernel
example : number P24 "0016777215" = .ok 16777215 := by decide +kernel
example : number P32 "37777777777" = .ok 4294967295 := by decide +kernel
example : number { P16 with radix := 2 } "0101" = .ok 5 := by decide +kernel
example : lookup P16.labels "00Ff".toList = none := by decide +kernel

/-- A defined label (whose name is not taken by a number prefix) parses to its address. -/
theorem num_label (P : Parser) (l : String) (a : Int) (hp : NoPrefix l.toList)
    (hl : lookup P.labels l.toList = some a) : number P l = .ok a :=
  numberL_label P hp hl

example : number P16 "foo" = .ok 0xc000 := by decide +kernel
example : NoPrefix "foo".toList ∧ lookup P16.labels "foo".toList = some 0xc000 := by decide +kernel

/-- `label+offset` / `label-offset` (blanks allowed around the sign) is the arithmetic result put
through `_constrain`, for every offset `sp` the pattern accepts with `number sp = ok m`.
`b1`, `b2` are runs of blanks; the whole string must not itself be a label. -/
theorem num_label_offset (P : Parser) (l b1 b2 sp : String) (sign : Char) (a m : Int)
    (hl : l.toList ≠ []) (hlc : ∀ c ∈ l.toList, isLabelChar c = true) (hlp : NoPrefix l.toList)
    (hb1 : ∀ c ∈ b1.toList, isReSpace c = true) (hb2 : ∀ c ∈ b2.toList, isReSpace c = true)
    (hs : sign = '+' ∨ sign = '-') (hsp : OffsetPat sp.toList)
    (hwhole : lookup P.labels (l ++ b1 ++ String.singleton sign ++ b2 ++ sp).toList = none)
    (ha : lookup P.labels l.toList = some a) (hm : number P sp = .ok m) :
    number P (l ++ b1 ++ String.singleton sign ++ b2 ++ sp)
      = constrain P (if sign = '+' then a + m else a - m) := by
  rw [number_offset P l b1 b2 sp sign hl hlc hlp hb1 hb2 hs hsp hwhole, ha]
  simp only [hm]

example : number P16 "foo+$10" = .ok 0xc010 := by decide +kernel
example : number P16 "foo  -\t+16" = .ok 0xbff0 := by decide +kernel
example : number P16 "ten-11" = .overflow := by decide +kernel    -- 10 - 17 < 0
example : OffsetPat "$10".toList :=
  ⟨['$'], ['1', '0'], by decide +kernel, Or.inr ⟨'$', rfl, by decide +kernel⟩, by decide +kernel, by decide +kernel⟩

/-- The inner failure of the offset, and an unknown label, propagate. -/
theorem num_label_offset_err (P : Parser) (l b1 b2 sp : String) (sign : Char)
    (hl : l.toList ≠ []) (hlc : ∀ c ∈ l.toList, isLabelChar c = true) (hlp : NoPrefix l.toList)
    (hb1 : ∀ c ∈ b1.toList, isReSpace c = true) (hb2 : ∀ c ∈ b2.toList, isReSpace c = true)
    (hs : sign = '+' ∨ sign = '-') (hsp : OffsetPat sp.toList)
    (hwhole : lookup P.labels (l ++ b1 ++ String.singleton sign ++ b2 ++ sp).toList = none) :
    (lookup P.labels l.toList = none →
      number P (l ++ b1 ++ String.singleton sign ++ b2 ++ sp) = .key) ∧
    (∀ a, lookup P.labels l.toList = some a → number P sp = .key →
      number P (l ++ b1 ++ String.singleton sign ++ b2 ++ sp) = .key) ∧
    (∀ a, lookup P.labels l.toList = some a → number P sp = .overflow →
      number P (l ++ b1 ++ String.singleton sign ++ b2 ++ sp) = .overflow) := by
  rw [number_offset P l b1 b2 sp sign hl hlc hlp hb1 hb2 hs hsp hwhole]
  exact ⟨fun h => by simp only [h], fun a h h2 => by simp only [h, h2], fun a h h2 => by simp only [h, h2]⟩

example : number P16 "bar+1" = .key := by decide +kernel
example : number P16 "foo+$10000" = .overflow := by decide +kernel
example : number P16 "foo+%2" = .key := by decide +kernel

/-- Every supported spelling is accepted by the offset group `[$+%]?[0-9a-fA-F]+` of the pattern:
an optional prefix and the digits of any base up to 16, with leading zeros, in any letter case. -/
theorem offset_spellings (b z : Nat) (m : List Bool) (n : Nat) (pre : Str)
    (hb : 2 ≤ b) (hb16 : b ≤ 16)
    (hpre : pre = [] ∨ pre = ['$'] ∨ pre = ['+'] ∨ pre = ['%']) :
    OffsetPat (pre ++ spelling b z m n) := by
  obtain ⟨h1, h2, _, _⟩ := spelling_spec hb (by omega) z m n
  refine ⟨pre, spelling b z m n, rfl, ?_, h1, ?_⟩
  · rcases hpre with h | h | h | h
    · exact Or.inl h
    · exact Or.inr ⟨'$', h, by decide⟩
    · exact Or.inr ⟨'+', h, by decide⟩
    · exact Or.inr ⟨'%', h, by decide⟩
  · intro c hc
    obtain ⟨d, hd, hlt⟩ := h2 c hc
    exact isDig16_offsetClass ⟨d, hd, by omega⟩

example : OffsetPat (['$'] ++ spelling 16 1 [true] 26) :=
  offset_spellings 16 1 [true] 26 ['$'] (by decide) (by decide) (by simp)
example : (['$'] ++ spelling 16 1 [false, true] 26) = "$01A".toList := by
  simp [spelling, toDigits, mixCase, digitChar, upper]

/-- Full strength of "label±offset for every offset spelling that is itself a valid number":
with `label = a` and `m < 2^width`, `label ± <any supported spelling of m>` (blanks allowed around
the sign) is `_constrain(a ± m)`.  The four conjuncts are `$hex`, `+decimal`, `%binary` and bare
digits in the default radix; each needs the whole string not to be a label itself, the bare form
also that the digit string is not a label (then the label's address would be the offset). -/
theorem num_label_offset_spellings (P : Parser) (l b1 b2 : String) (sign : Char) (a : Int)
    (m z : Nat) (mask : List Bool)
    (hl : l.toList ≠ []) (hlc : ∀ c ∈ l.toList, isLabelChar c = true) (hlp : NoPrefix l.toList)
    (hb1 : ∀ c ∈ b1.toList, isReSpace c = true) (hb2 : ∀ c ∈ b2.toList, isReSpace c = true)
    (hs : sign = '+' ∨ sign = '-') (ha : lookup P.labels l.toList = some a) (hm : m < 2 ^ P.width) :
    let whole := fun (sp : String) => l ++ b1 ++ String.singleton sign ++ b2 ++ sp
    let r := constrain P (if sign = '+' then a + m else a - m)
    (∀ sp, sp = "$" ++ String.ofList (spelling 16 z mask m) →
      lookup P.labels (whole sp).toList = none → number P (whole sp) = r) ∧
    (∀ sp, sp = "+" ++ String.ofList (spelling 10 z [] m) → z + (toDigits 10 m).length ≤ 4300 →
      lookup P.labels (whole sp).toList = none → number P (whole sp) = r) ∧
    (∀ sp, sp = "%" ++ String.ofList (spelling 2 z [] m) →
      lookup P.labels (whole sp).toList = none → number P (whole sp) = r) ∧
    (∀ sp, sp = String.ofList (spelling P.radix z mask m) →
      (P.radix = 16 ∨ P.radix = 10 ∨ P.radix = 8 ∨ P.radix = 2) →
      (P.radix = 10 → z + (toDigits 10 m).length ≤ 4300) →
      lookup P.labels (spelling P.radix z mask m) = none →
      lookup P.labels (whole sp).toList = none → number P (whole sp) = r) := by
  intro whole r
  have key : ∀ sp : String, OffsetPat sp.toList → number P sp = .ok m →
      lookup P.labels (whole sp).toList = none → number P (whole sp) = r :=
    fun sp hsp hnum hw => num_label_offset P l b1 b2 sp sign a m hl hlc hlp hb1 hb2 hs hsp hw ha hnum
  refine ⟨?_, ?_, ?_, ?_⟩
  · rintro sp rfl hw
    refine key _ ?_ (num_hex P m z mask hm) hw
    simpa [String.toList_append] using
      offset_spellings 16 z mask m ['$'] (by decide) (by decide) (by simp)
  · rintro sp rfl hlim hw
    refine key _ ?_ (num_dec P m z hm hlim) hw
    simpa [String.toList_append] using
      offset_spellings 10 z [] m ['+'] (by decide) (by decide) (by simp)
  · rintro sp rfl hw
    refine key _ ?_ (num_bin P m z hm) hw
    simpa [String.toList_append] using
      offset_spellings 2 z [] m ['%'] (by decide) (by decide) (by simp)
  · rintro sp rfl hr hlim hnl hw
    refine key _ ?_ (num_bare P m z mask hr hm hlim hnl) hw
    have := offset_spellings P.radix z mask m [] (by omega) (by omega) (by simp)
    simpa using this

example : number P16 "foo+$1a" = .ok 0xc01a ∧ number P16 "foo - FF" = .ok 0xbf01 ∧
    number P16 "foo++26" = .ok 0xc01a ∧ number P16 "foo-%11010" = .ok 0xbfe6 := by decide +kernel
example : lookup P16.labels "foo+$1a".toList = none ∧ lookup P16.labels "1a".toList = none := by decide +kernel

/-- What the wider offset class also lets through (it is what `self.number(offset)` does): an
offset made of hex letters that is a label name is taken as that label, and in a radix where it
is not a number it is a `KeyError`. -/
example : number { P16 with labels := [("foo".toList, 0xc000), ("bad".toList, 2)] } "foo+bad" = .ok 0xc002 ∧
    number P24 "foo+ff" = .key ∧ number P16 "foo+bar" = .key := by decide +kernel

/-- Any result lies in `[0, 2^width - 1]` (for a parser whose label table was filled through
`_constrain`, i.e. by `__init__` or by the monitor). -/
theorem num_bounded (P : Parser) (hwf : P.WF) (s : String) (n : Int) (h : number P s = .ok n) :
    0 ≤ n ∧ n < 2 ^ P.width := by
  have := numberL_bounded hwf h
  unfold Parser.maxaddr at this
  omega

example : P16.WF ∧ number P16 "foo-1" = .ok 0xbfff := ⟨exWF 16 16 (by decide), by decide +kernel⟩
example : P32.WF := exWF 32 8 (by decide)

/-- No input string makes the model raise anything but `KeyError` / `OverflowError`
(in particular the bound on the recursion depth is never hit). -/
theorem num_errors (P : Parser) (s : String) : number P s ≠ .other :=
  numberL_ne_other P s.toList

/-- The recursion of `number` on the offset never goes deeper than one level. -/
theorem num_fuel (P : Parser) (k : Nat) (s : String) : numberF P (k + 2) s.toList = number P s :=
  numberF_fuel P k s.toList

example : number P16 "a+b-1" = .key ∧ number P16 "+" = .key ∧ number P16 "" = .key := by decide +kernel

/-- Values outside the address width raise `OverflowError`: every spelling of an `n ≥ 2^width`,
and every negative value `int()` accepts. -/
theorem num_overflow (P : Parser) (n z : Nat) (m : List Bool) (hn : 2 ^ P.width ≤ n) :
    number P ("$" ++ String.ofList (spelling 16 z m n)) = .overflow ∧
    (z + (toDigits 10 n).length ≤ 4300 →
      number P ("+" ++ String.ofList (spelling 10 z [] n)) = .overflow) ∧
    number P ("%" ++ String.ofList (spelling 2 z [] n)) = .overflow ∧
    number P ("$-" ++ String.ofList (spelling 16 z m (n + 1))) = .overflow := by
  have ho : constrain P n = .overflow := (constrain_natCast P n).trans (if_neg (Nat.not_lt.mpr hn))
  refine ⟨?_, fun hlim => ?_, ?_, ?_⟩
  · rw [(number_prefix P _).1, String.toList_ofList, pyIntL_spelling (by decide) (by decide) z m n (.inl rfl)]
    exact ho
  · rw [(number_prefix P _).2.1, String.toList_ofList, pyIntL_spelling (by decide) (by decide) z [] n (.inr hlim)]
    exact ho
  · rw [(number_prefix P _).2.2, String.toList_ofList, pyIntL_spelling (by decide) (by decide) z [] n (.inl rfl)]
    exact ho
  · obtain ⟨h1, h2, h3, _⟩ := spelling_spec (b := 16) (by decide) (by decide) z m (n + 1)
    rw [show "$-" = "$" ++ "-" from rfl, String.append_assoc, (number_prefix P _).1, String.toList_append,
      String.toList_ofList, String.toList_ofList, List.singleton_append,
      pyIntL_neg_digits (by decide) (by decide) h1 h2 (.inl rfl), h3]
    exact constrain_out (.inl (by omega))

example : number P16 "$10000" = .overflow ∧ number P16 "+65536" = .overflow ∧
    number P16 "$-1" = .overflow := by decide +kernel

/-- Unknown labels and malformed text raise `KeyError`: after a prefix, whatever `int()` refuses;
without a prefix, any string of label characters (no blank, no sign) that is neither a label nor
a number in the default radix. -/
theorem num_malformed (P : Parser) (s : String) :
    (pyInt s 16 = none → number P ("$" ++ s) = .key) ∧
    (pyInt s 10 = none → number P ("+" ++ s) = .key) ∧
    (pyInt s 2 = none → number P ("%" ++ s) = .key) ∧
    (NoPrefix s.toList → (∀ c ∈ s.toList, isLabelChar c = true) → lookup P.labels s.toList = none →
      pyInt s P.radix = none → number P s = .key) := by
  obtain ⟨h16, h10, h2⟩ := number_prefix P s
  refine ⟨fun h => h16.trans (congrArg _ h), fun h => h10.trans (congrArg _ h), fun h => h2.trans (congrArg _ h), ?_⟩
  · intro hnp hlc hl h
    simp only [number]
    rw [numberL_bare P hnp hl (matchOffset_none_of_label hlc),
      show pyIntL s.toList P.radix = none from h]
    rfl

example : number P16 "$xyz" = .key ∧ number P16 "nosuch" = .key ∧ number P16 "+1f" = .key ∧
    number P16 "%102" = .key := by decide +kernel

/-- `range()` returns an ordered pair of in-range addresses, whatever the input form. -/
theorem range_ordered (P : Parser) (hwf : P.WF) (s : String) (a b : Int) (h : range P s = .ok a b) :
    a ≤ b ∧ 0 ≤ a ∧ b < 2 ^ P.width := by
  have := rangeL_ordered hwf h
  unfold Parser.maxaddr at this
  omega

/-- and raises nothing but `KeyError` / `OverflowError`. -/
theorem range_errors (P : Parser) (s : String) : range P s ≠ .other :=
  rangeL_ne_other P s.toList

example : range P16 "$ffff:foo" = .ok 0xc000 0xffff := by decide +kernel

/-- The forms `a:b` and `a,b` (any run of separators, blanks after it): both ends are parsed by
`number` -- `a` first -- and the pair is ordered. -/
theorem range_pair (P : Parser) (x seps ws y : String)
    (hx : x.toList ≠ []) (hxc : ∀ c ∈ x.toList, isSep c = false)
    (hs : seps.toList ≠ []) (hsc : ∀ c ∈ seps.toList, isSep c = true)
    (hw : ∀ c ∈ ws.toList, isReSpace c = true)
    (hy : y.toList ≠ []) (hyc : ∀ c ∈ y.toList, isSep c = false)
    (hy0 : ∀ c, y.toList.head? = some c → isReSpace c = false) :
    range P (x ++ seps ++ ws ++ y) =
      match number P x with
      | .ok a =>
        match number P y with
        | .ok b => .ok (min a b) (max a b)
        | .key => .key
        | .overflow => .overflow
        | .other => .other
      | .key => .key
      | .overflow => .overflow
      | .other => .other := by
  have hm := matchRange_compose hx hxc hs hsc hw hy hyc hy0
  have hstr : (x ++ seps ++ ws ++ y).toList = x.toList ++ (seps.toList ++ (ws.toList ++ y.toList)) := by
    simp [String.toList_append]
  simp only [range, number, rangeL, hstr, hm]
  cases numberL P x.toList with
  | ok a =>
    cases numberL P y.toList with
    | ok b =>
      simp only [ordered]
      split
      · rw [Int.min_eq_right (by omega), Int.max_eq_left (by omega)]
      · rw [Int.min_eq_left (by omega), Int.max_eq_right (by omega)]
    | key => rfl
    | overflow => rfl
    | other => rfl
  | key => rfl
  | overflow => rfl
  | other => rfl

example : range P16 "$10:$20" = .ok 16 32 ∧ range P16 "$20,$10" = .ok 16 32 ∧
    range P16 "foo:: +5" = .ok 5 0xc000 := by decide +kernel

/-- The single-address form: a string without `:` and `,`. -/
theorem range_single (P : Parser) (s : String) (hs : ∀ c ∈ s.toList, isSep c = false) :
    range P s =
      match number P s with
      | .ok a => .ok a a
      | .key => .key
      | .overflow => .overflow
      | .other => .other := by
  have hm := matchRange_none_of_nosep hs
  simp only [range, number, rangeL, hm]
  cases numberL P s.toList with
  | ok a => simp [ordered]
  | key => rfl
  | overflow => rfl
  | other => rfl

example : range P16 "foo+1" = .ok 0xc001 0xc001 := by decide +kernel

/-- The hypothesis `P.WF` of `num_bounded` / `range_ordered` is what the code maintains: the
constructor puts every label value through `_constrain` (or raises `OverflowError`), and the
monitor's `labels[name] = number(...)` stores a value that `number` returned. -/
theorem parser_wf (w r : Nat) (ls : List (Str × Int)) (P : Parser) (h : Parser.init w r ls = some P) :
    P.WF ∧ P.width = w ∧ P.radix = r ∧
    ∀ (k s : String) (v : Int), number P s = .ok v →
      ({ P with labels := AddrParser.insert P.labels k.toList v } : Parser).WF := by
  obtain ⟨h1, h2, h3⟩ := init_wf w r ls P h
  refine ⟨h1, h2, h3, ?_⟩
  intro k s v hv
  have := numberL_bounded h1 hv
  exact wf_insert h1 _ _ this.1 this.2

example : Parser.init 16 16 exLabels = some P16 := by decide +kernel
example : Parser.init 16 16 [("big".toList, 65536)] = none := by decide +kernel

/-- `label_for` returns a label bound to that address. -/
theorem label_for_spec (P : Parser) (a : Int) (l : Str) (h : labelFor P a = some l) :
    (l, a) ∈ P.labels := by
  unfold labelFor at h
  split at h
  · rename_i kv hkv
    cases h
    have h1 := List.mem_of_find?_eq_some hkv
    have h2 := List.find?_some hkv
    simp only [beq_iff_eq] at h2
    rw [← h2]
    exact h1
  · cases h

example : labelFor P16 10 = some "ten".toList := by decide +kernel

end Py65.Props.C15
