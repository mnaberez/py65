/-
C20h -- C20 ("no input line crashes the monitor; rejected commands change nothing") for the GENERATED
`Monitor.onecmd` WITH THE GENERATED COMMANDS PLUGGED IN.

`Props/C20g.lean` states `rejected_unchanged` for the generated dispatcher under two hypotheses about the
commands `MonCmdGen` does not translate: `OthModels oth ext` (they do what the model's `runCommand ext` says)
and `ext.Honest` (those that fill / load / run / assemble honour "refused ⇒ unchanged" themselves).  Here
both are DISCHARGED for the commands the other units regenerate.  Reading guide:

* `P : Params` (`Proofs/MonCompose.lean`) collects the parameters of the generated units (the OS `P.w`, the
  device step `P.step`, uninterpreted printers, the fuels `P.fuelFill / fuelRun / fuelDis` of the three
  fuel-bounded loops), the glue `P.G` of `Model/MonComposeRt.lean` (the memory OBJECT around the session's cells,
  the two I/O addresses) and the five methods that are NOT PLUGGED IN here: `P.unt` (`do_help`, `do_version`,
  `do_assemble` with `_interactive_assemble`, `do_cd`, `do_pwd`) with `P.asm` = what the model says `assemble`
  does.  (They ARE translated -- `Gen/MonAsmGen.lean`, `Proofs/MonAsmGenEq.lean`, property
  theorems `Props/C20a.lean`, e.g. `assemble_rejected_unchanged`, `display_commands_pure` -- but on that unit's own
  state type `AsmSt`; the adapter `AsmSt <-> CmdSt` that would instantiate `P.unt` / `P.asm` with the generated
  methods and so discharge `UntModels` / `AsmHonest` is written in `Model/MonCompose2Rt.lean`: `Props/C20i.lean` instantiates and
  PROVES both hypotheses for the generated commands; in THIS file they stay hypotheses.)
* `othG P` is the parameter `oth` of the generated dispatcher built from the GENERATED `do_fill do_load do_save
  do_mem` (MonMemGen, calling the generated `_fill`), `do_step do_goto do_return do_add_breakpoint
  do_delete_breakpoint do_show_breakpoints` (MonRunGen), `do_cycles do_tilde do_disassemble` (MonShowGen),
  `do_reset do_mpu` (MonIOGen) through the state adapters; `extG P` is the model's `Ext` READ OFF the same
  generated commands: registers and cells afterwards, and the verdict.
* What REJECTED means (`refusals_composed` below): the model's verdict of the command the line is dispatched to;
  for `fill` / `load`: the generated method raised, or the last line it printed is not `Wrote +…`; for `goto`: it
  raised (the address parser's exception) or the argument was empty (usage text); `step` / `return`: never; for
  the breakpoint commands, `mpu`, `registers`, `radix`, `width`, the label commands: the hand model's verdict, whose
  session core the generated methods are proved to produce for ALL arguments; unknown words, `!…`: always.
* Remaining hypotheses: `UntModels P` + `AsmHonest P` (the five commands not plugged in, spelled out at their
  definition), `GlueOK P.G` (the memory object is an object around the session's cells), the fuel bounds
  (`FillFuel`, `LoadFuel`, the dispatcher's `fuel`), `¬ Loops`, a well-formed label table, and the library helpers
  of the units' run-time files.
-/
import Py65.Props.C16g
import Py65.Props.C20g
import Py65.Proofs.MonCompose

namespace Py65.Props.C20h
open Py65 Py65.Model Py65.Model.PyStr Py65.Model.AddrParser Py65.Model.MonCmd Py65.Model.MonGenRt
open Py65.Model.MonCmdRt Py65.Model.MonComposeRt Py65.Gen Py65.Proofs.MonCmd Py65.Proofs.MonCmdGenEq
open Py65.Proofs.MonCompose Py65.Proofs.MonPreGenEq

variable (P : Params) (tb : Exc → Str) (mr : Core → Str)

/-- `rejected_unchanged` for the generated `Monitor.onecmd` with the GENERATED commands plugged in: for ANY
line in ANY state with a well-formed label table, if the line is refused (see the reading guide and
`refusals_composed`), the generated `onecmd` returns and device, registers, memory cells, labels, breakpoints,
radix and width are exactly what they were.  No hypothesis about `fill load save mem step goto return
add_breakpoint delete_breakpoint show_breakpoints cycles tilde disassemble reset mpu` is left; what remains is
`UntModels` / `AsmHonest` (`help version assemble cd pwd`), the glue, the fuels and `¬ Loops`. -/
theorem rejected_unchanged_composed (hG : GlueOK P.G) (hu : UntModels P) (ha : AsmHonest P) (hload : LoadFuel P)
    (fuel : Nat) (line : Str) (σ : CmdSt) (hwf : σ.core.parser.WF) (hfill : FillFuel P σ.core)
    (hf : fuel > (MonPreGen._preprocess_line line).length + (MonPreGen._preprocess_line σ.lastcmd).length + 6)
    (hnl : ¬ Loops σ line)
    (h : (onecmdL (extG P) { core := σ.core, lastcmd := σ.lastcmd } line).1.verdict.isRejected = true) :
    ∃ v σ', MonCmdGen.onecmd (othG P) tb mr fuel line σ = .ok v σ' ∧ σ'.core = σ.core := by
  rw [preprocess_eq] at hf
  exact onecmd_rejected_composed P tb mr hG ha hload fuel line σ hwf hfill hf hnl h
    fun cmd a _ hc σ1 _ => models_unt P cmd hc a σ1 (hu cmd hc a σ1)

/-- `dispatch_total`, first half, composed: NO input line makes the generated `Monitor.onecmd` raise, whatever
the generated commands (and the untranslated ones, ANY `P.unt`) raise: it is absorbed by the generated catch-all.
No hypothesis at all. -/
theorem never_raises_composed (fuel : Nat) (line : Str) (σ : CmdSt) (e : Exc) (s : CmdSt) :
    MonCmdGen.onecmd (othG P) tb mr fuel line σ ≠ .raise e s :=
  Py65.Proofs.MonCmdGenEq.onecmd_never_raises (othG P) tb mr fuel line σ e s

/-- What `never_raises_composed` leaves open, spelled out: `≠ .raise` is also true of `.nofuel` (the artefact of
the fuel-bounded model of the `while` loops).  So, with NO hypothesis, the generated `onecmd` either RETURNS
(a value and a state) or ran out of fuel; `returns_composed` below excludes the second case. -/
theorem returns_or_nofuel_composed (fuel : Nat) (line : Str) (σ : CmdSt) :
    (∃ v σ', MonCmdGen.onecmd (othG P) tb mr fuel line σ = .ok v σ') ∨
    MonCmdGen.onecmd (othG P) tb mr fuel line σ = .nofuel := by
  cases h : MonCmdGen.onecmd (othG P) tb mr fuel line σ with
  | ok v s => exact Or.inl ⟨v, s, rfl⟩
  | raise e s => exact absurd h (never_raises_composed P tb mr fuel line σ e s)
  | nofuel => exact Or.inr rfl

/-- `dispatch_total`, second half, composed -- and more: for ANY line (refused or not), with enough fuel, outside
`Loops`, and `CallOK` for the one command the line is dispatched to (its fuel-bounded loop ended; `mem`:
`self._width ≥ 0`; `tilde`: `itoa` prints base 2), the generated `onecmd` with the generated commands RETURNS,
its session core and `lastcmd` are those of the model `onecmdL (extG P)`, and its value is true exactly when the
line is dispatched on `quit`. -/
theorem onecmd_agrees_composed (hG : GlueOK P.G) (hu : UntModels P) (fuel : Nat) (line : Str) (σ : CmdSt)
    (hf : fuel > (MonPreGen._preprocess_line line).length + (MonPreGen._preprocess_line σ.lastcmd).length + 6)
    (hnl : ¬ Loops σ line)
    (hok : ∀ cmd a, dispatched { core := σ.core, lastcmd := σ.lastcmd } line = some (cmd, a) → CallOK P cmd a σ.core) :
    ∃ v σ', MonCmdGen.onecmd (othG P) tb mr fuel line σ = .ok v σ' ∧
      σ'.core = (onecmdL (extG P) { core := σ.core, lastcmd := σ.lastcmd } line).2.core ∧
      σ'.lastcmd = (onecmdL (extG P) { core := σ.core, lastcmd := σ.lastcmd } line).2.lastcmd ∧
      (v.truthy = true ↔ dispatchWord { core := σ.core, lastcmd := σ.lastcmd } line = some quit) := by
  rw [preprocess_eq] at hf
  obtain ⟨v, s', e1, e2, e3, e4⟩ := onecmd_sim_composed P tb mr hG fuel line σ hf hnl hok
    fun cmd a _ hc σ1 _ => models_unt P cmd hc a σ1 (hu cmd hc a σ1)
  exact ⟨v, s', e1, e2, e3, by rw [e4]; exact C20.dispatch_total (extG P) _ line⟩

/-- `dispatch_total` as the property words it ("returns without raising"), composed: with fuel above the stated
bound (`fuel > |preprocessed line| + |preprocessed lastcmd| + 6`), outside `Loops` (the empty line repeating an
empty-expanding `lastcmd` for ever, a defect recorded in C20), with the glue and `UntModels`, and `CallOK` for the
one command the line is dispatched to (its own fuel-bounded loop ended), the generated `onecmd` with the generated
commands RETURNS: the result is `.ok v σ'` -- neither `.raise` nor `.nofuel`.  (Corollary of
`onecmd_agrees_composed`.) -/
theorem returns_composed (hG : GlueOK P.G) (hu : UntModels P) (fuel : Nat) (line : Str) (σ : CmdSt)
    (hf : fuel > (MonPreGen._preprocess_line line).length + (MonPreGen._preprocess_line σ.lastcmd).length + 6)
    (hnl : ¬ Loops σ line)
    (hok : ∀ cmd a, dispatched { core := σ.core, lastcmd := σ.lastcmd } line = some (cmd, a) → CallOK P cmd a σ.core) :
    (∃ v σ', MonCmdGen.onecmd (othG P) tb mr fuel line σ = .ok v σ') ∧
    MonCmdGen.onecmd (othG P) tb mr fuel line σ ≠ .nofuel ∧
    ∀ e s, MonCmdGen.onecmd (othG P) tb mr fuel line σ ≠ .raise e s := by
  obtain ⟨v, σ', h, -⟩ := onecmd_agrees_composed P tb mr hG hu fuel line σ hf hnl hok
  refine ⟨⟨v, σ', h⟩, ?_, fun e s => never_raises_composed P tb mr fuel line σ e s⟩
  rw [h]
  intro h'
  cases h'

/-- The hypothesis `OthModels oth ext` of `C20g.rejected_unchanged`, DISCHARGED call by call for the composed
`oth`: every command that `MonCmdGen` does not translate ends, does to the session core what the model's
`runCommand (extG P)` says, leaves `lastcmd` alone and returns no true value -- proved from the units' GenEq
theorems for the fifteen regenerated commands, from `UntModels` for the other five. -/
theorem oth_models_composed (hG : GlueOK P.G) (hu : UntModels P) (cmd : Command) (arg : Str) (σ : CmdSt)
    (ht : translated cmd = false) (hok : CallOK P cmd arg σ.core) : ModelsAt (othG P) (extG P) cmd arg σ :=
  models_at P hG cmd arg σ ht hok fun hc => models_unt P cmd hc arg σ (hu cmd hc arg σ)

/-- The hypothesis `ext.Honest` of `C20g.rejected_unchanged`, DISCHARGED for the `Ext` read off the generated
commands, at every core with a well-formed label table: a refused `fill` (C16g `fill_rejects`), `load`
(`do_load_eq`), `goto` (`do_goto_eq`) leaves registers and cells as they were; `step` and `return` are never
refused; `assemble` is the hypothesis `AsmHonest`. -/
theorem ext_honest_composed (hG : GlueOK P.G) (ha : AsmHonest P) (hload : LoadFuel P) (c : Core) (hwf : c.parser.WF)
    (hfill : FillFuel P c) (k : ExtCmd) (arg : Str) (h : ((extG P).run k c arg).1.isRejected = true) :
    ((extG P).run k c arg).2.1 = c.regs ∧ ((extG P).run k c arg).2.2 = c.mem :=
  extG_honest_at P hG ha hload c hwf hfill k arg h

/-- What REJECTED means, command by command (companion of `rejected_unchanged_composed`): the verdict of a line
is the verdict of the command it is dispatched to (`dispatched`: after the generated `_preprocess_line` and
`parseline`, or for an empty line the repeated `lastcmd`); and for the commands behind `Ext` that verdict is
computed from what the GENERATED method did: `fill` / `load` accepted ⇔ ended normally and the last line printed
starts with `Wrote +`; `goto` refused ⇔ it raised or the argument is empty; `step` / `return` refused ⇔ raised. -/
theorem refusals_composed (s : State) (line : Str) (cmd : Command) (a : Str) (hd : dispatched s line = some (cmd, a)) :
    (onecmdL (extG P) s line).1 = runCommand (extG P) s.core cmd a ∧
    (∀ c arg, (runCommand (extG P) c .fill arg).verdict = fillVerdict (fillC P arg c)) ∧
    (∀ c arg, (runCommand (extG P) c .load arg).verdict = fillVerdict (loadC P arg c)) ∧
    (∀ c arg, (runCommand (extG P) c .goto arg).verdict = gotoVerdict arg (gotoC P arg c)) ∧
    (∀ c arg, (runCommand (extG P) c .step arg).verdict = .ok) ∧
    (∀ c arg, (runCommand (extG P) c .ret arg).verdict.isRejected = false) ∧
    (∀ r, (fillVerdict r).isRejected = true ↔
      ((∃ e s', r = .raise e s') ∨ ∃ s', r = .ok () s' ∧ endsWrote s'.out = false)) := by
  refine ⟨(onecmdL_dispatched (extG P) s line).1 cmd a hd, fun _ _ => rfl, fun _ _ => rfl, fun _ _ => rfl, fun _ _ => rfl, fun c arg => ret_never_rejected P c arg, ?_⟩
  intro r
  cases r with
  | nofuel => simp [fillVerdict, Verdict.isRejected]
  | raise e s' => simp [fillVerdict, Verdict.isRejected]
  | ok v s' =>
    cases hw : endsWrote s'.out <;> simp [fillVerdict, Verdict.isRejected, hw]

/-! ## non-vacuity: the generated code, composed, RUN by `decide +kernel` -/

/-- Parameters for the examples: the monitor's own memory object (putc $F001, getc $F004), the world of C16g
(one readable file `f.bin`), a device step that only advances the PC (every run stops at the next BRK), silent
printers, and untranslated commands that do nothing. -/
def exP : Params :=
  { G := { reply := Spec.MonMem.monReply, omOf := fun c => Spec.MonMem.monMem c.dev.addrWidth c.mem,
           getc := some 0xF004, putc := some 0xF001 },
    w := C16g.w0,
    step := fun _ s => { s with pc := s.pc + 1 },
    dis := fun _ _ _ => [],
    itoa := fun _ _ => .ok [],
    mpurepr := fun _ _ => .ok [],
    iat := fun _ _ _ => .ok (1, []),
    fmtdis := fun _ _ _ _ _ => .ok [],
    E := { enc := fun _ => true, getopt := fun _ _ _ => .ok ([], []), sys_argv := [], usage := [],
           startup := fun _ _ σ => .ok () σ },
    fuelFill := 70000, fuelRun := 10, fuelDis := 10,
    unt := fun _ _ σ => .ok none σ,
    asm := fun c _ => (.ok, c.regs, c.mem) }

theorem exP_loadFuel : LoadFuel exP := by
  intro name file h
  have hlen : file.length ≤ 5 := by
    unfold Proofs.MonMemGenEq.loadSource at h
    simp only [exP, C16g.w0, MonMemRt.pyUrlopen, MonMemRt.pyOpenR] at h
    split_ifs at h <;> cases h <;> decide
  show file.length < 70000
  omega

/-- The hypotheses of `rejected_unchanged_composed` hold of the example parameters and `C20g.exCore`. -/
example : GlueOK exP.G ∧ UntModels exP ∧ AsmHonest exP ∧ LoadFuel exP ∧ FillFuel exP C20g.exCore ∧
    C20g.exCore.parser.WF := by
  refine ⟨fun _ => rfl, ?_, (fun _ _ h => by cases h), exP_loadFuel, (by unfold FillFuel; decide +kernel), C20g.exCore_wf⟩
  intro cmd hc arg σ
  cases cmd <;> first | exact ⟨by simp [exP], rfl, rfl, rfl⟩ | (simp [untranslated] at hc)

/-- Run the GENERATED `onecmd` with the GENERATED commands on a line in `C20g.exCore` and test the result. -/
def exRunG (line : String) (p : PyRet → CmdSt → Bool) : Bool :=
  match MonCmdGen.onecmd (othG exP) (fun _ => "TB".toList) (fun _ => "MPU".toList) 60 line.toList
      { core := C20g.exCore, lastcmd := [], out := [] } with
  | .ok v s => p v s
  | _ => false

/-- The session core is `C20g.exCore` as far as it can be compared (cells: the ones the examples touch). -/
def sameCore (s : CmdSt) : Bool :=
  decide (s.core.dev = C20g.exCore.dev ∧ s.core.regs = C20g.exCore.regs ∧ s.core.labels = C20g.exCore.labels ∧
    s.core.breakpoints = C20g.exCore.breakpoints ∧ s.core.radix = 16 ∧ s.core.width = 78 ∧
    [0x10, 0x11, 0x12, 0x13, 0xc000].map s.core.mem = [0, 0, 0, 0, 0])

/-- The model's verdict of a line (with `extG exP`: computed by running the generated commands). -/
def exVerdict (line : String) : Verdict :=
  (onecmdL (extG exP) { core := C20g.exCore, lastcmd := [] } line.toList).1.verdict

/-- non-vacuity of `rejected_unchanged_composed`: refused lines of every regenerated family -- the premise holds
(the verdict is computed from the generated code) and the GENERATED dispatcher with the GENERATED command returns
`None` with the core untouched, having printed the refusal (or the traceback) and the status line. -/
example :
    let refused := fun (l : String) => (exVerdict l).isRejected &&
      exRunG l (fun v s => v = none && sameCore s && decide (s.out.length ≥ 2))
    (refused "fill 10000:10003 aa" && refused "fill 0:3 100" && refused "fill 10" && refused "f nosuch 1" &&
     refused "load nosuch.bin 10" && refused "load f.bin 10000" && refused "load f.bin 1 2" && refused "load \"x" &&
     refused "goto" && refused "goto nosuch" && refused "g 10000" &&
     refused "ab nosuch" && refused "ab 1 2" && refused "db 1" && refused "db -1" && refused "db x" &&
     refused "mpu z80") = true := by
  decide +kernel

/-- ... and the accepted ones DO change the core (so "unchanged" is not an artefact of the adapters): `fill`
stores, `load` stores the file, `goto` runs to the next BRK, `ab` appends, `db 0` tombstones, `reset` / `mpu`
recreate the device (labels gone), `step` steps; the display commands leave the core alone. -/
example :
    exVerdict "fill 10:13 1 2" = .ok ∧
    exRunG "fill 10:13 1 2" (fun _ s => [0x10, 0x11, 0x12, 0x13, 0x14].map s.core.mem = [1, 2, 1, 2, 0] &&
      s.out.head? = some "Wrote +4 bytes from $0010 to $0013".toList) = true ∧
    exRunG "l f.bin 11" (fun _ s => [0x10, 0x11, 0x12, 0x15, 0x16].map s.core.mem = [0, 1, 2, 5, 0]) = true ∧
    exRunG "g c000" (fun _ s => s.core.regs.pc = 0xc001) = true ∧
    exRunG "z" (fun _ s => s.core.regs.pc = 1) = true ∧
    exRunG "ab foo" (fun _ s => s.core.breakpoints = [some 7, some 0xc000]) = true ∧
    exRunG "db 0" (fun _ s => s.core.breakpoints = [none]) = true ∧
    exRunG "mpu 65org16" (fun _ s => decide (s.core.dev = .d65org16 ∧ s.core.labels = [] ∧ s.core.regs.sp = 0xffff ∧
      s.core.breakpoints = [some 7])) = true ∧
    exRunG "reset" (fun _ s => decide (s.core.dev = .d6502 ∧ s.core.labels = [] ∧ s.core.regs = resetRegs .d6502)) = true ∧
    (let shown := fun (l : String) => exRunG l (fun v s => v = none && sameCore s)
     (shown "mem 10:13" && shown "save out.bin 10 13" && shown "shb" && shown "cycles" && shown "~ 12" &&
      shown "d 10:12" && shown "mpu" && shown "help" && shown "a 10 nop")) = true := by
  decide +kernel

/-- non-vacuity of `never_raises_composed`: a generated command that raises (`db 1`: `IndexError`; `goto nosuch`:
`KeyError`; `load "x`: `ValueError`) is absorbed: the traceback text is printed, `None` returned. -/
example :
    let absorbed := fun (l : String) => exRunG l (fun v s => v = none && s.out.contains "TB".toList)
    (absorbed "db 1" && absorbed "goto nosuch" && absorbed "load \"x") = true := by
  decide +kernel

/-- non-vacuity of `returns_or_nofuel_composed` / `returns_composed`: BOTH alternatives occur -- with too little
fuel the generated `onecmd` answers `.nofuel` (which `never_raises_composed` alone would have accepted), with
the fuel of the examples it returns `.ok`. -/
example :
    (match MonCmdGen.onecmd (othG exP) (fun _ => "TB".toList) (fun _ => "MPU".toList) 0 "mem 10:13".toList
        { core := C20g.exCore, lastcmd := [], out := [] } with | .nofuel => true | _ => false) = true ∧
    (match MonCmdGen.onecmd (othG exP) (fun _ => "TB".toList) (fun _ => "MPU".toList) 3 "mem 10:13".toList
        { core := C20g.exCore, lastcmd := [], out := [] } with | .nofuel => true | _ => false) = true ∧
    exRunG "mem 10:13" (fun _ _ => true) = true ∧ exRunG "db 1" (fun _ _ => true) = true := by
  decide +kernel

end Py65.Props.C20h
