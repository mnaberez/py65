/-
C04 (second file, same namespace) -- the lifting: with the decimal flag set, for EVERY addressing
mode of ADC and SBC and EVERY well-formed machine state, one `step()` of the regenerated model
leaves A and the C, Z, V, N flags exactly as Bruce Clark's NMOS sequences (`Spec.Decimal.adcNmos`
/ `sbcNmos`) prescribe for (A, operand, carry), leaves X, Y, SP, the other flags and every memory
cell unchanged and moves PC to the next instruction (`decExec`).  Combines
  * `adc_decimal_handler` / `sbc_decimal_handler` (Proofs/DecimalLift.lean): the decimal branch of the
    generated helper depends only on (A, M, C) - it computes what the same helper computes on the
    minimal state of the kernel theorems - and touches nothing else;
  * `nmos_adc` / `nmos_sbc` (Props/C04.lean): the kernel on all 2 x 2^17 triples;
  * `adcsbc_handler` (Proofs/HistArithSteps.lean): the handler a device's table holds for an ADC / SBC
    row is that helper over the row's addressing-mode helper, then the PC increment.
The 65C02 runs the same helpers (`cmos_acv` gives A, C, V on valid BCD; N/Z is the known finding).
-/
import Py65.Props.C04
import Py65.Proofs.DecimalLift
import Py65.Proofs.HistArithSteps

namespace Py65.Props.C04
open Py65 Py65.Gen Py65.Spec Py65.Proofs Py65.Proofs.Dec Py65.Spec.Decimal Py

/-- `decExec f` uses `f` on the accumulator and a memory cell of the state only: bytes, when the state
is well-formed. -/
theorem decExec_congr {f g : Int → Int → Bool → Res}
    (h : ∀ a m : Nat, a < 256 → m < 256 → ∀ c, f (Int.ofNat a) (Int.ofNat m) c = g (Int.ofNat a) (Int.ofNat m) c)
    (mo : Mode) {s : St} (hs : WF dev6502.cfg s) : decExec f mo (abs s) = decExec g mo (abs s) := by
  have e : ∀ a m : Int, 0 ≤ a ∧ a ≤ 255 → 0 ≤ m ∧ m ≤ 255 → ∀ c, f a m c = g a m c := by
    intro a m ha hm c
    obtain ⟨n, rfl⟩ := Int.eq_ofNat_of_zero_le ha.1
    obtain ⟨k, rfl⟩ := Int.eq_ofNat_of_zero_le hm.1
    exact h n k (by omega) (by omega) c
  simp only [decExec]
  rw [e (abs s).a ((abs s).mem (ea 8 mo (abs s))) hs.a (hs.mem _)]

/-- Decimal ADC through any addressing-mode helper, any state: Clark's result and nothing else. -/
theorem adc_decimal_any_mode (x : St → Int × St) (mo : Mode) (hx : ModeSem dev6502.cfg x mo)
    (s : St) (hs : WF dev6502.cfg s) (hD : flag s.p bitD = true) :
    absH dev6502.cfg (bump (mo.len - 1) (Mpu6502.opADC dev6502.cfg x s)) = decExec adcNmos mo (abs s) :=
  (adc_decimal_handler x mo hx s hs hD).trans (decExec_congr nmos_adc mo hs)
theorem sbc_decimal_any_mode (x : St → Int × St) (mo : Mode) (hx : ModeSem dev6502.cfg x mo)
    (s : St) (hs : WF dev6502.cfg s) (hD : flag s.p bitD = true) :
    absH dev6502.cfg (bump (mo.len - 1) (Mpu6502.opSBC dev6502.cfg x s)) = decExec sbcNmos mo (abs s) :=
  (sbc_decimal_handler x mo hx s hs hD).trans (decExec_congr nmos_sbc mo hs)

/-- The function Clark's sequences define for a mnemonic. -/
def clark (mn : Mn) : Int → Int → Bool → Res := if mn = .SBC then sbcNmos else adcNmos

/-- `step()` of either 8-bit device at an ADC / SBC row whose handler is the generated helper over a
mode helper that meets its contract. -/
theorem decimal_step (t : Tbl) (s : St) (hs : WF dev6502.cfg s) {mn : Mn} {mo : Mode} {x : St → Int × St}
    (hmn : mn = .ADC ∨ mn = .SBC) (hx : ModeSem dev6502.cfg x mo)
    (hi : t.instruct (s.mem s.pc) = fun s => bump (mo.len - 1) (arithOp mn dev6502.cfg x s))
    (hD : flag s.p bitD = true) :
    abs (Mpu6502.step dev6502.cfg t s) = decExec (clark mn) mo { abs s with pc := (s.pc + 1) % AM 8 } := by
  have hc : IsDev dev6502.cfg := Or.inl rfl
  have hf := afterFetch_WF _ hc t s hs
  have e : abs (afterFetch dev6502.cfg t s) = { abs s with pc := (s.pc + 1) % AM 8 } := afterFetch_abs _ hc t s
  rw [step_absH _ hc, hi, ← e]
  rcases hmn with rfl | rfl
  · exact adc_decimal_any_mode x mo hx _ hf hD
  · exact sbc_decimal_any_mode x mo hx _ hf hD

/-- 6502, `step()` level: every ADC/SBC opcode (all 8 + 8 addressing modes), every well-formed state
with D set. -/
theorem decimal_step_6502 (s : St) (hs : WF dev6502.cfg s) (hw : s.waiting = false)
    (mn : Mn) (mo : Mode) (hd : decode .nmos (s.mem s.pc) = some (mn, mo))
    (hmn : mn = .ADC ∨ mn = .SBC) (hD : flag s.p bitD = true) :
    abs (dev6502.step s) = decExec (clark mn) mo { abs s with pc := (s.pc + 1) % AM 8 } := by
  obtain ⟨x, hx, hi⟩ := adcsbc_handler .nmos hd hmn
  exact decimal_step dev6502.tbl s hs hmn hx hi hD

/-- 65C02, `step()` level: the device runs the same helpers, so the same statement holds with the
NMOS sequences (A, C, V then agree with the 65C02 sequences on valid BCD by `cmos_acv`; N and Z
follow the NMOS rule - the recorded known finding). -/
theorem decimal_step_65c02 (s : St) (hs : WF dev65c02.cfg s) (hw : s.waiting = false)
    (mn : Mn) (mo : Mode) (hd : decode .cmos (s.mem s.pc) = some (mn, mo))
    (hmn : mn = .ADC ∨ mn = .SBC) (hD : flag s.p bitD = true) :
    abs (dev65c02.step s) = decExec (clark mn) mo { abs s with pc := (s.pc + 1) % AM 8 } := by
  have hstep : dev65c02.step s = Mpu6502.step dev6502.cfg dev65c02.tbl s := by
    simp only [dev65c02.step, Mpu65c02.step, hw]; rfl
  obtain ⟨x, hx, hi⟩ := adcsbc_handler .cmos hd hmn
  rw [hstep]
  exact decimal_step dev65c02.tbl s hs hmn hx hi hD

/-- Non-vacuity: ADC #$46 with A=$58, C=1, D=1 on the 6502 gives A=$05, C=1 (58 + 46 + 1 = 105). -/
example : ∃ s : St, WF dev6502.cfg s ∧ s.waiting = false ∧ decode .nmos (s.mem s.pc) = some (.ADC, .imm) ∧
    flag s.p bitD = true ∧ (adcNmos 0x58 0x46 true).a = 0x05 ∧ (adcNmos 0x58 0x46 true).c = true := by
  refine ⟨{ (default : St) with a := 0x58, p := 0x39, mem := fun k => if k = 0 then 0x69 else 0x46 }, ?_, rfl,
    by decide, by decide, by decide +kernel, by decide +kernel⟩
  refine ⟨by decide, by decide, by decide, by decide, by decide, by decide, ?_⟩
  intro k; dsimp only; split <;> decide

end Py65.Props.C04
