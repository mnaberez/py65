/-
C06h -- subroutine / interrupt pairing at ANY NESTING DEPTH, over histories of the generated devices
(second C06 file, own namespace `Py65.Props.C06h`).

C06 proves the one-level pairing on the programming model (`rts_after_jsr`, `rti_after_interrupt`,
`rti_after_brk`).  Here it is lifted to lists of calls `step() / irq() / nmi() / reset()` on the three
generated devices (`Hist.run`) and to frames nested to arbitrary depth.

A frame is opened by (`Hist.Entry`) a step at JSR `$20`, a step at BRK `$00`, a taken `irq()` (I clear),
or an `nmi()`; it is closed by (`Hist.Exit`) a step at RTS `$60` (JSR) resp. RTI `$40` (the others).
`Balanced d P s ops` - "the history `ops`, started in `s`, is balanced and respects the cells `P`" - is
defined inductively:
    nil     the empty history;
    block   a block of calls that is ASSUMED to have a neutral NET effect on the stack: after the block
            SP is what it was before it and no cell of `P` has another value (`Quiet`; inside the block
            SP may move, e.g. PHA ... PLA, PHP ... PLP, TSX/TXS games - only the net effect counts; this
            is the only assumption about the inner code), then a balanced rest; `Balanced.plain` is the
            special case of a single call that leaves SP and `P` alone;
    frame   entry · body · matching exit · rest, where the entry's frame cells do not collide with `P`
            (the stack has not wrapped into an enclosing frame), the body is balanced AND respects the
            new frame's cells in addition to `P`, and the rest is balanced.
The body of a frame may itself contain frames, to any depth, of all four kinds, interleaved.

  * `balanced_restores`  a balanced history ends with the SP it started with and with every cell of `P`
                         unchanged (and in a well-formed state);
  * `frame_resumes`      entry · balanced body · exit: execution resumes right after the JSR (PC + 3), two
                         bytes after the BRK opcode, resp. at the interrupted PC; SP is the caller's; for
                         BRK / irq / nmi the status register is the interrupted one (bits 4/5, which are
                         not architectural, aside); all modulo the address space / stack page, i.e. for
                         EVERY stack pointer including wrap-around, both widths, all three devices;
  * `frame_resumes_anywhere`  the same for a frame anywhere inside a longer history;
  * `plain_step`         a checkable sufficient condition for the assumption on inner code: a step at any
                         declared opcode that is not a stack/SP instruction (and not ADC/SBC) and whose
                         effective address is not a protected cell is `Plain`.
No hypothesis about where the stack lies relative to the code: JSR is covered also when its pushes
overwrite its own operand bytes (`Hist.jsr_step`), which C01-C03 exclude.
-/
import Py65.Proofs.HistPairing

namespace Py65.Props.C06h
open Py65 Py65.Gen Py65.Spec Py65.Proofs Py65.Proofs.Hist

/-- What is ASSUMED of a block of calls of the inner code that neither opens nor closes a frame: its calls
are inside the quantifiers of C05 (`OpOK`), and its NET effect leaves the stack pointer as it was and the
cells `P` with the values they had. -/
def Quiet (d : Dev) (P : List Int) (ops : List Op) (s : St) : Prop :=
  Along d (OpOK d) ops s ∧ (run d ops s).sp = s.sp ∧ ∀ c ∈ P, (run d ops s).mem c = s.mem c

/-- The single-call case: the call leaves SP as it was and writes none of the cells `P`. -/
def Plain (d : Dev) (P : List Int) (o : Op) (s : St) : Prop :=
  OpOK d o s ∧ (apply d o s).sp = s.sp ∧ ∀ c ∈ P, (apply d o s).mem c = s.mem c

/-- Balanced histories (see the file header).  `P`: the protected cells (those of the enclosing frames
and whatever else the caller wants kept). -/
inductive Balanced (d : Dev) : List Int → St → List Op → Prop
  | nil (P : List Int) (s : St) : Balanced d P s []
  | block (P : List Int) (s : St) (ops rest : List Op) :
      Quiet d P ops s → Balanced d P (run d ops s) rest → Balanced d P s (ops ++ rest)
  | frame (P : List Int) (s : St) (k : Kind) (e : Op) (body : List Op) (x : Op) (rest : List Op) :
      Entry k e s →
      (∀ c ∈ cells d.W k s.sp, c ∉ P) →
      Balanced d (cells d.W k s.sp ++ P) (apply d e s) body →
      Exit k x (run d body (apply d e s)) →
      Balanced d P (apply d x (run d body (apply d e s))) rest →
      Balanced d P s (e :: (body ++ x :: rest))

theorem Balanced.plain {d : Dev} {P : List Int} {s : St} {o : Op} {ops : List Op}
    (h : Plain d P o s) (hb : Balanced d P (apply d o s) ops) : Balanced d P s (o :: ops) :=
  Balanced.block P s [o] ops ⟨⟨h.1, trivial⟩, h.2.1, h.2.2⟩ hb

/-- A sufficient condition for `Plain` that can be read off the program: a (non-waiting) step at a declared
opcode whose instruction neither moves SP nor uses the stack (`keepsStack`: everything except
PHA/PHP/PHX/PHY, PLA/PLP/PLX/PLY, TXS, JSR, RTS, RTI, BRK) and whose effective address is none of the
protected cells.  ADC / SBC are excluded (`hna`) because the proof goes through C01-C03, which describe
them in binary mode only; they leave SP and memory alone in either mode as well (`adcsbc_step`,
`Proofs/HistArithSteps.lean`). -/
theorem plain_step (d : Dev) (P : List Int) (s : St) (hi : Inv d s) (hw : s.waiting = false)
    (mn : Mn) (mo : Mode) (hd : decode d.variant (s.mem s.pc) = some (mn, mo))
    (hk : keepsStack mn = true) (hna : mn ≠ .ADC ∧ mn ≠ .SBC)
    (hea : ea d.W mo { abs s with pc := (s.pc + 1) % AM d.W } ∉ P) : Plain d P .step s := by
  have hnar : ¬ isArith mn = true := by
    intro h
    cases mn <;> simp [isArith] at h
    · exact hna.1 rfl
    · revert hk; decide
    · exact hna.2 rfl
  have h := step_spec d s hi.1 hw mn mo hd hnar
  obtain ⟨k1, k2⟩ := exec_keepsStack d.W d.variant mn mo { abs s with pc := (s.pc + 1) % AM d.W } hk
  exact ⟨fun _ => (decode_lt hd).2, (congrArg AState.sp h).trans k1,
    fun c hc => (congrFun (congrArg AState.mem h) c).trans (k2 c (fun e => hea (e ▸ hc)))⟩

/-- One level, in terms of states: if the state `s₂` in which the exit is executed has the stack pointer
and the frame cells the entry (made in `s`) left, the exit resumes where the entry happened. -/
theorem frame_core (d : Dev) (k : Kind) (e x : Op) (s s₂ : St) (hi : Inv d s) (he : Entry k e s)
    (hi₂ : Inv d s₂) (hsp : s₂.sp = (apply d e s).sp)
    (hcells : ∀ c ∈ cells d.W k s.sp, s₂.mem c = (apply d e s).mem c) (hx : Exit k x s₂) :
    (apply d x s₂).pc = resumePc d.W k s.pc ∧ (apply d x s₂).sp = s.sp ∧
    (k ≠ .jsr → normP (apply d x s₂).p = normP s.p) ∧ (apply d x s₂).mem = s₂.mem := by
  obtain ⟨e1, e2⟩ := entry_abs d k e s hi he
  have hx' := exit_abs d k x s₂ hi₂ hx
  have hf : SameFrame (cells d.W k (abs s).sp) (entryA d.W d.variant k (abs s))
      { abs s₂ with pc := (s₂.pc + 1) % AM d.W } :=
    ⟨hsp.trans e1, fun c hc => (hcells c hc).trans (congrFun e2 c)⟩
  obtain ⟨p1, p2, p3⟩ := pairing d.W d.hW d.variant k (abs s) _ (AWF_abs d hi.1) hf
  rw [← hx'] at p1 p2 p3
  refine ⟨p1, p2, p3, ?_⟩
  have := congrArg AState.mem hx'
  rw [exit_mem] at this
  exact this

/-- **A balanced history restores SP and leaves the protected cells alone** (and ends well-formed),
whatever frames it contains and however deeply they are nested. -/
theorem balanced_restores (d : Dev) (P : List Int) (s : St) (ops : List Op) (hb : Balanced d P s ops)
    (hi : Inv d s) :
    Inv d (run d ops s) ∧ (run d ops s).sp = s.sp ∧ ∀ c ∈ P, (run d ops s).mem c = s.mem c := by
  induction hb with
  | nil P s => exact ⟨hi, rfl, fun _ _ => rfl⟩
  | block P s ops rest hq _ ih =>
    obtain ⟨hok, hsp, hmem⟩ := hq
    obtain ⟨g1, g2, g3⟩ := ih (run_inv d ops s hi hok).2
    rw [run_append]
    exact ⟨g1, g2.trans hsp, fun c hc => (g3 c hc).trans (hmem c hc)⟩
  | frame P s k e body x rest he hcol _ hx _ ihb ihr =>
    have hi1 := apply_inv d e s hi he.opOK
    obtain ⟨b1, b2, b3⟩ := ihb hi1
    obtain ⟨f1, f2, _, f4⟩ := frame_core d k e x s _ hi he b1 b2
      (fun c hc => b3 c (List.mem_append_left _ hc)) hx
    have hir := apply_inv d x _ b1 hx.opOK
    obtain ⟨r1, r2, r3⟩ := ihr hir
    have erun : run d (e :: (body ++ x :: rest)) s =
        run d rest (apply d x (run d body (apply d e s))) := by
      rw [run_cons, run_append, run_cons]
    rw [erun]
    refine ⟨r1, r2.trans f2, fun c hc => ?_⟩
    obtain ⟨_, e2⟩ := entry_abs d k e s hi he
    have hnc : c ∉ cells d.W k (abs s).sp := fun h => hcol c h hc
    calc (run d rest (apply d x (run d body (apply d e s)))).mem c
        = (apply d x (run d body (apply d e s))).mem c := r3 c hc
      _ = (run d body (apply d e s)).mem c := congrFun f4 c
      _ = (apply d e s).mem c := b3 c (List.mem_append_right _ hc)
      _ = (entryA d.W d.variant k (abs s)).mem c := congrFun e2 c
      _ = s.mem c := entryA_mem_other d.W d.variant k (abs s) c hnc

/-- **Pairing at any nesting depth.**  A frame entry, a balanced body that respects the frame's cells
(and may contain further frames of all kinds, to any depth), and the matching exit: execution resumes
after the JSR / two bytes after the BRK opcode / at the interrupted PC, with the caller's stack pointer
and - for BRK, irq(), nmi() - the interrupted status register.  Every device, both widths, every SP. -/
theorem frame_resumes (d : Dev) (P : List Int) (s : St) (k : Kind) (e : Op) (body : List Op) (x : Op)
    (hi : Inv d s) (he : Entry k e s)
    (hb : Balanced d (cells d.W k s.sp ++ P) (apply d e s) body)
    (hx : Exit k x (run d body (apply d e s))) :
    (run d (e :: (body ++ [x])) s).pc = resumePc d.W k s.pc ∧
    (run d (e :: (body ++ [x])) s).sp = s.sp ∧
    (k ≠ .jsr → normP (run d (e :: (body ++ [x])) s).p = normP s.p) := by
  have hi1 := apply_inv d e s hi he.opOK
  obtain ⟨b1, b2, b3⟩ := balanced_restores d _ _ _ hb hi1
  obtain ⟨f1, f2, f3, _⟩ := frame_core d k e x s _ hi he b1 b2
    (fun c hc => b3 c (List.mem_append_left _ hc)) hx
  have erun : run d (e :: (body ++ [x])) s = apply d x (run d body (apply d e s)) := by
    rw [run_cons, run_append, run_cons, run_nil]
  rw [erun]
  exact ⟨f1, f2, f3⟩

/-- The same for a frame anywhere in a longer history: whatever calls `pre` were made before (inside the
quantifiers of C05), the frame that starts in the state they lead to resumes where it was entered. -/
theorem frame_resumes_anywhere (d : Dev) (P : List Int) (s : St) (pre : List Op) (k : Kind) (e : Op)
    (body : List Op) (x : Op) (hi : Inv d s) (hpre : Along d (OpOK d) pre s)
    (he : Entry k e (run d pre s))
    (hb : Balanced d (cells d.W k (run d pre s).sp ++ P) (apply d e (run d pre s)) body)
    (hx : Exit k x (run d body (apply d e (run d pre s)))) :
    (run d (pre ++ e :: (body ++ [x])) s).pc = resumePc d.W k (run d pre s).pc ∧
    (run d (pre ++ e :: (body ++ [x])) s).sp = (run d pre s).sp ∧
    (k ≠ .jsr → normP (run d (pre ++ e :: (body ++ [x])) s).p = normP (run d pre s).p) := by
  rw [run_append]
  exact frame_resumes d P _ k e body x (run_inv d pre s hi hpre).2 he hb hx

/-- Depth: a frame inside a frame inside a frame ... - `frame_resumes` needs no separate statement for it,
because the body's only hypothesis is `Balanced`, whose `frame` constructor nests.  As an explicit
corollary: directly nested frames `e₁ e₂ … eₙ xₙ … x₂ x₁` of ANY kinds resume level by level. -/
inductive Nest (d : Dev) : List Int → St → List Op → Prop
  | leaf (P : List Int) (s : St) : Nest d P s []
  | wrap (P : List Int) (s : St) (k : Kind) (e : Op) (inner : List Op) (x : Op) :
      Entry k e s → (∀ c ∈ cells d.W k s.sp, c ∉ P) →
      Nest d (cells d.W k s.sp ++ P) (apply d e s) inner →
      Exit k x (run d inner (apply d e s)) →
      Nest d P s (e :: (inner ++ [x]))

theorem Nest.balanced {d : Dev} {P : List Int} {s : St} {ops : List Op} (h : Nest d P s ops) :
    Balanced d P s ops := by
  induction h with
  | leaf P s => exact Balanced.nil P s
  | wrap P s k e inner x he hc _ hx ih =>
    exact Balanced.frame P s k e inner x [] he hc ih hx (Balanced.nil _ _)

/-- n-fold direct nesting: the outermost frame resumes where it was entered. -/
theorem nest_resumes (d : Dev) (P : List Int) (s : St) (k : Kind) (e : Op) (inner : List Op) (x : Op)
    (hi : Inv d s) (he : Entry k e s)
    (hn : Nest d (cells d.W k s.sp ++ P) (apply d e s) inner)
    (hx : Exit k x (run d inner (apply d e s))) :
    (run d (e :: (inner ++ [x])) s).pc = resumePc d.W k s.pc ∧
    (run d (e :: (inner ++ [x])) s).sp = s.sp :=
  let h := frame_resumes d P s k e inner x hi he hn.balanced hx
  ⟨h.1, h.2.1⟩

/-- Three levels, two kinds, stack wrap-around.  `JSR $0010` at 0; at `$0010` an irq() arrives (vector `$0020`); the handler does `JSR $0030`, whose
`RTS` returns to `$0023: RTI`, which returns to `$0010: RTS`, which returns to `$0003`.  SP starts at
`$01`: the JSR pushes to `$0101/$0100`, the interrupt to `$01FF/$01FE/$01FD` (wrapped), the inner JSR
to `$01FC/$01FB`. -/
def demoState : St :=
  { (default : St) with sp := 1, p := 0x30, mem := fun k => if k = 0 then 0x20 else if k = 1 then 0x10 else if k = 0x10 then 0x60 else if k = 0x20 then 0x20 else if k = 0x21 then 0x30 else if k = 0x23 then 0x40 else if k = 0x30 then 0x60 else if k = 0xfffe then 0x20 else 0x00 }

def demoOps : List Op := [.step, .irq, .step, .step, .step, .step]

theorem demo_inv : Inv .nmos demoState := by
  refine ⟨⟨by decide, by decide, by decide, by decide, by decide, by decide, ?_⟩, fun _ => rfl⟩
  intro k; simp only [demoState]; repeat' apply ite_range
  all_goals decide

/-- the inner part: irq ( jsr ( ) rts ) rti, respecting the outer JSR's frame -/
theorem demo_inner :
    Nest .nmos (cells 8 .jsr demoState.sp ++ []) (apply .nmos .step demoState) [.irq, .step, .step, .step] :=
  Nest.wrap _ _ .irq .irq [.step, .step] .step (by decide +kernel) (by decide +kernel)
    (Nest.wrap _ _ .jsr .step [] .step (by decide +kernel) (by decide +kernel)
      (Nest.leaf _ _) (by decide +kernel))
    (by decide +kernel)

/-- the history is balanced: jsr ( irq ( jsr ( ) rts ) rti ) rts -/
theorem demo_nest : Nest .nmos [] demoState demoOps :=
  Nest.wrap [] demoState .jsr .step [.irq, .step, .step, .step] .step (by decide +kernel) (by decide +kernel)
    demo_inner (by decide +kernel)

/-- The theorem applied to it: the outermost JSR resumes at `$0003` with SP = `$01` ... -/
example : (run .nmos demoOps demoState).pc = resumePc 8 .jsr demoState.pc ∧
    (run .nmos demoOps demoState).sp = demoState.sp :=
  nest_resumes .nmos [] demoState .jsr .step [.irq, .step, .step, .step] .step demo_inv
    (by decide +kernel) demo_inner (by decide +kernel)

/-- ... and that is what the generated 6502 computes (kernel evaluation of the generated code), level
by level: after the inner RTS at `$0023` with SP = `$FC`, after the RTI at `$0010`, at the end at `$0003`. -/
example : (run .nmos demoOps demoState).pc = 3 ∧ (run .nmos demoOps demoState).sp = 1 ∧
    (run .nmos [.step, .irq, .step, .step] demoState).pc = 0x23 ∧
    (run .nmos [.step, .irq, .step, .step] demoState).sp = 0xfc ∧
    (run .nmos [.step, .irq, .step, .step, .step] demoState).pc = 0x10 :=
  ⟨by decide +kernel, by decide +kernel, by decide +kernel, by decide +kernel, by decide +kernel⟩

end Py65.Props.C06h
