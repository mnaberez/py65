/-
C17h -- RUN CONTROL, CYCLES AND CLOSURE (composition of C17g with C13h and C05h; own namespace
`Py65.Props.C17h`).

C17 / C17g say that `goto a` / `return` / `step` of the monitor (the generated `Monitor._run`, `do_goto`,
`do_return`, `do_step`, `Gen/MonRunGen.lean`) are iterations `step^[n]` of the device step up to the first
stop code or breakpoint, for ANY step function.  C13h and C05h are about histories of calls of the
generated devices.
Here `step` is a generated device (`Hist.Dev.step`: `dev6502.step`, `dev65c02.step`, `dev65org16.step`),
and the three are composed: when the command returns after `n` instructions, the device's cycle counter has
advanced by exactly the DOCUMENTED cycles of those `n` steps (`C13h.docCycles`), it never decreased on the
way, and the state at the stop - and every state on the way - is well-formed.

Hypotheses: those of C13h / C05h and nothing else - the start state is well-formed (`Hist.Inv`; for `goto a`
the parsed address is an address of the device); on the 65Org16 the opcode cells executed hold bytes
(`CellsOK`; above 255 the real `step()` raises IndexError); for the documented count on the 65C02 no BRA is
executed (`NoBra`; `run_cycles_65c02_exact` needs nothing).  Well-formedness along the run is proved (C05h),
not assumed.  `n` is the number C17g characterises: the least `n ≥ 1` at which the stop condition holds
(`Stopped`, the conclusion of `C17g.run_is_iterate`).
-/
import Py65.Props.C17g
import Py65.Proofs.Compose2Run

namespace Py65.Props.C17h
open Py65 Py65.Gen Py65.Spec Py65.Proofs Py65.Proofs.Hist Py65.Proofs.Compose2
open Py65.Model.PyStr Py65.Model.AddrParser Py65.Model.MonRun Py65.Model.MonGenRt
open Py65.Props.C13h (docCycles braCount CycOK)

/-- What C17g (`run_is_iterate`) says of a `_run(codes)` that took the monitor from `σ` to `σ'` in `n`
instructions: `n ≥ 1`, the device is `step^[n]` of where it started, the breakpoint list is untouched, the
stop condition holds there and held after no earlier `0 < m < n` steps. -/
def Stopped (dev : Dev) (codes : List Int) (σ σ' : RunSt) (n : Nat) : Prop :=
  1 ≤ n ∧ σ'.mpu = dev.step^[n] σ.mpu ∧ σ'.breakpoints = σ.breakpoints ∧
  (atStopcode codes σ'.mpu = true ∨ atBreakpoint σ.breakpoints σ'.mpu = true) ∧
  ∀ m, 0 < m → m < n →
    atStopcode codes (dev.step^[m] σ.mpu) = false ∧ atBreakpoint σ.breakpoints (dev.step^[m] σ.mpu) = false

theorem run_stops (dev : Dev) (dis : Str → St → List Str) (dm : Py65.Model.MonMem.Dev) (P : Parser)
    (fuel : Nat) (codes : List Int) (σ σ' : RunSt)
    (h : MonRunGen._run dev.step dis dm P fuel codes σ = .ok () σ') :
    ∃ n, n ≤ fuel ∧ Stopped dev codes σ σ' n := by
  obtain ⟨n, h1, h2, h3, h4, h5, h6, _⟩ := (Py65.Props.C17g.run_is_iterate dev.step dis dm P fuel codes σ).2 σ' h
  exact ⟨n, h2, h1, h3, h4, h5, h6⟩

/-- When the generated `_run` (the body of `goto` / `return`) returns, after `n`
instructions, then - if the 65Org16 opcode cells executed hold bytes and the 65C02 executed no BRA - the
cycle counter of the device is its value at the start plus the documented cycles of those `n` steps, each
taken at the state the device was in; and it never decreased: for every `m ≤ n` the counter after `m`
steps lies between the start value and the final value. -/
theorem run_cycles (dev : Dev) (dis : Str → St → List Str) (dm : Py65.Model.MonMem.Dev) (P : Parser)
    (fuel : Nat) (codes : List Int) (σ σ' : RunSt) (hi : Inv dev σ.mpu)
    (h : MonRunGen._run dev.step dis dm P fuel codes σ = .ok () σ') :
    ∃ n, n ≤ fuel ∧ Stopped dev codes σ σ' n ∧
      (CellsOK dev n σ.mpu → NoBra dev n σ.mpu →
        σ'.mpu.cycles = σ.mpu.cycles + docCycles dev (List.replicate n Op.step) σ.mpu ∧
        ∀ m, m ≤ n → σ.mpu.cycles ≤ (dev.step^[m] σ.mpu).cycles ∧
          (dev.step^[m] σ.mpu).cycles ≤ σ'.mpu.cycles) := by
  obtain ⟨n, hn, hs⟩ := run_stops dev dis dm P fuel codes σ σ' h
  refine ⟨n, hn, hs, fun h1 h2 => ?_⟩
  rw [hs.2.1]
  exact ⟨iter_cycles dev n σ.mpu hi h1 h2, fun m hm => iter_cycles_mono dev n σ.mpu hi h1 h2 m hm⟩

/-- The 6502: any well-formed start state, any program (declared and undeclared opcodes, binary and decimal
mode) - no side condition. -/
theorem run_cycles_6502 (dis : Str → St → List Str) (dm : Py65.Model.MonMem.Dev) (P : Parser)
    (fuel : Nat) (codes : List Int) (σ σ' : RunSt) (hs : WF dev6502.cfg σ.mpu) (hw : σ.mpu.waiting = false)
    (h : MonRunGen._run (Dev.step .nmos) dis dm P fuel codes σ = .ok () σ') :
    ∃ n, n ≤ fuel ∧ Stopped .nmos codes σ σ' n ∧
      σ'.mpu.cycles = σ.mpu.cycles + docCycles .nmos (List.replicate n Op.step) σ.mpu ∧
      ∀ m, m ≤ n → σ.mpu.cycles ≤ ((Dev.step .nmos)^[m] σ.mpu).cycles ∧
        ((Dev.step .nmos)^[m] σ.mpu).cycles ≤ σ'.mpu.cycles := by
  obtain ⟨n, hn, hst, hc⟩ := run_cycles .nmos dis dm P fuel codes σ σ' ⟨hs, fun _ => hw⟩ h
  exact ⟨n, hn, hst, hc (fun hd => by cases hd) (fun hd => by cases hd)⟩

/-- The 65C02, EVERY program (BRA included, a device that went to sleep in WAI included): the counter is the
start value plus the documented cycles minus one for every BRA executed (py65 charges a taken BRA one cycle
less than the data sheet: the recorded finding), and it never decreased. -/
theorem run_cycles_65c02_exact (dis : Str → St → List Str) (dm : Py65.Model.MonMem.Dev) (P : Parser)
    (fuel : Nat) (codes : List Int) (σ σ' : RunSt) (hs : WF dev65c02.cfg σ.mpu)
    (h : MonRunGen._run (Dev.step .cmos) dis dm P fuel codes σ = .ok () σ') :
    ∃ n, n ≤ fuel ∧ Stopped .cmos codes σ σ' n ∧
      σ'.mpu.cycles = σ.mpu.cycles + docCycles .cmos (List.replicate n Op.step) σ.mpu -
        braCount (List.replicate n Op.step) σ.mpu ∧
      ∀ m, m ≤ n → σ.mpu.cycles ≤ ((Dev.step .cmos)^[m] σ.mpu).cycles ∧
        ((Dev.step .cmos)^[m] σ.mpu).cycles ≤ σ'.mpu.cycles := by
  obtain ⟨n, hn, hst⟩ := run_stops .cmos dis dm P fuel codes σ σ' h
  refine ⟨n, hn, hst, ?_, fun m hm => ?_⟩
  · rw [hst.2.1]; exact iter_cycles_65c02 n σ.mpu hs
  · rw [hst.2.1]; exact iter_cycles_mono_65c02 n σ.mpu hs m hm

/-- The 65Org16: every opcode cell the run executes holds a byte 0..255. -/
theorem run_cycles_65org16 (dis : Str → St → List Str) (dm : Py65.Model.MonMem.Dev) (P : Parser)
    (fuel : Nat) (codes : List Int) (σ σ' : RunSt) (hs : WF dev65org16.cfg σ.mpu) (hw : σ.mpu.waiting = false)
    (h : MonRunGen._run (Dev.step .org16) dis dm P fuel codes σ = .ok () σ') :
    ∃ n, n ≤ fuel ∧ Stopped .org16 codes σ σ' n ∧
      ((∀ m, m < n → ((Dev.step .org16)^[m] σ.mpu).mem ((Dev.step .org16)^[m] σ.mpu).pc < 256) →
        σ'.mpu.cycles = σ.mpu.cycles + docCycles .org16 (List.replicate n Op.step) σ.mpu ∧
        ∀ m, m ≤ n → σ.mpu.cycles ≤ ((Dev.step .org16)^[m] σ.mpu).cycles ∧
          ((Dev.step .org16)^[m] σ.mpu).cycles ≤ σ'.mpu.cycles) := by
  obtain ⟨n, hn, hst, hc⟩ := run_cycles .org16 dis dm P fuel codes σ σ' ⟨hs, fun _ => hw⟩ h
  exact ⟨n, hn, hst, fun hcells => hc (fun _ => hcells) (fun hd => by cases hd)⟩

/-- When the generated `_run` returns, the device state at the stop is well-formed (`Hist.Inv`: registers
inside the byte, PC inside the address space, cells inside the byte), and so was every state on the way
(65Org16: the opcode cells executed hold bytes). -/
theorem run_closed (dev : Dev) (dis : Str → St → List Str) (dm : Py65.Model.MonMem.Dev) (P : Parser)
    (fuel : Nat) (codes : List Int) (σ σ' : RunSt) (hi : Inv dev σ.mpu)
    (h : MonRunGen._run dev.step dis dm P fuel codes σ = .ok () σ') :
    ∃ n, n ≤ fuel ∧ Stopped dev codes σ σ' n ∧
      (CellsOK dev n σ.mpu → Inv dev σ'.mpu ∧ ∀ m, m ≤ n → Inv dev (dev.step^[m] σ.mpu)) := by
  obtain ⟨n, hn, hs⟩ := run_stops dev dis dm P fuel codes σ σ' h
  refine ⟨n, hn, hs, fun h1 => ?_⟩
  rw [hs.2.1]
  exact ⟨iter_inv dev n σ.mpu hi h1 n (Nat.le_refl _), iter_inv dev n σ.mpu hi h1⟩

/-- 6502 and 65C02: unconditionally. -/
theorem run_closed_8bit (dev : Dev) (hd : dev ≠ .org16) (dis : Str → St → List Str)
    (dm : Py65.Model.MonMem.Dev) (P : Parser) (fuel : Nat) (codes : List Int) (σ σ' : RunSt)
    (hi : Inv dev σ.mpu) (h : MonRunGen._run dev.step dis dm P fuel codes σ = .ok () σ') :
    WF dev.cfg σ'.mpu := by
  obtain ⟨n, _, _, hc⟩ := run_closed dev dis dm P fuel codes σ σ' hi h
  exact (hc (fun h => absurd h hd)).1.1

/-- `run_cycles` and `run_closed` in the form the commands state them. -/
theorem run_cycles_closed (dev : Dev) (dis : Str → St → List Str) (dm : Py65.Model.MonMem.Dev) (P : Parser)
    (fuel : Nat) (codes : List Int) (σ σ' : RunSt) (hi : Inv dev σ.mpu)
    (h : MonRunGen._run dev.step dis dm P fuel codes σ = .ok () σ') :
    ∃ n, n ≤ fuel ∧ Stopped dev codes σ σ' n ∧
      (CellsOK dev n σ.mpu → Inv dev σ'.mpu) ∧
      (CellsOK dev n σ.mpu → NoBra dev n σ.mpu →
        σ'.mpu.cycles = σ.mpu.cycles + docCycles dev (List.replicate n Op.step) σ.mpu ∧
        σ.mpu.cycles ≤ σ'.mpu.cycles) := by
  obtain ⟨n, hn, hs, hc⟩ := run_cycles dev dis dm P fuel codes σ σ' hi h
  refine ⟨n, hn, hs, fun h1 => ?_, fun h1 h2 => ⟨(hc h1 h2).1, ?_⟩⟩
  · rw [hs.2.1]; exact iter_inv dev n σ.mpu hi h1 n (Nat.le_refl _)
  · have := ((hc h1 h2).2 n (Nat.le_refl _)).1
    rwa [← hs.2.1] at this

/-- `goto <a>` (an argument the address parser reads as an address `a` of the device): the run starts from
the same state with PC set to `a`; cycles and closure as for `_run([BRK])`. -/
theorem goto_cycles_closed (dev : Dev) (dis : Str → St → List Str) (dm : Py65.Model.MonMem.Dev) (P : Parser)
    (fuel : Nat) (args : Str) (a : Int) (σ σ' : RunSt) (hi : Inv dev σ.mpu) (hargs : args ≠ [])
    (hp : numberL P args = .ok a) (ha : 0 ≤ a ∧ a ≤ dev.cfg.addrMask)
    (h : MonRunGen.do_goto dev.step dis dm P fuel args σ = .ok () σ') :
    let s0 : St := { σ.mpu with pc := a }
    ∃ n, n ≤ fuel ∧ Stopped dev [0x00] { mpu := s0, breakpoints := σ.breakpoints, out := σ.out } σ' n ∧
      (CellsOK dev n s0 → Inv dev σ'.mpu) ∧
      (CellsOK dev n s0 → NoBra dev n s0 →
        σ'.mpu.cycles = σ.mpu.cycles + docCycles dev (List.replicate n Op.step) s0 ∧
        σ.mpu.cycles ≤ σ'.mpu.cycles) := by
  intro s0
  rw [(Py65.Props.C17g.commands_are_runs dev.step dis dm P fuel args σ).1 a hargs hp] at h
  exact run_cycles_closed dev dis dm P fuel [0x00] _ σ'
    ⟨⟨hi.1.a, hi.1.x, hi.1.y, hi.1.sp, hi.1.p, ha, hi.1.mem⟩, hi.2⟩ h

/-- `return`: `_run([RTS, RTI])` from the current state. -/
theorem return_cycles_closed (dev : Dev) (dis : Str → St → List Str) (dm : Py65.Model.MonMem.Dev) (P : Parser)
    (fuel : Nat) (args : Str) (σ σ' : RunSt) (hi : Inv dev σ.mpu)
    (h : MonRunGen.do_return dev.step dis dm P fuel args σ = .ok () σ') :
    ∃ n, n ≤ fuel ∧ Stopped dev [0x60, 0x40] σ σ' n ∧
      (CellsOK dev n σ.mpu → Inv dev σ'.mpu) ∧
      (CellsOK dev n σ.mpu → NoBra dev n σ.mpu →
        σ'.mpu.cycles = σ.mpu.cycles + docCycles dev (List.replicate n Op.step) σ.mpu ∧
        σ.mpu.cycles ≤ σ'.mpu.cycles) := by
  rw [(Py65.Props.C17g.commands_are_runs dev.step dis dm P fuel args σ).2.2.2.1] at h
  exact run_cycles_closed dev dis dm P fuel [0x60, 0x40] σ σ' hi h

/-- `step`: exactly one `mpu.step()`; the counter advances by the documented cycles of that instruction
(`Spec.stepCycles`), the state stays well-formed. -/
theorem step_cycles_closed (dev : Dev) (dis : Str → St → List Str) (dm : Py65.Model.MonMem.Dev) (P : Parser)
    (args : Str) (σ : RunSt) (hi : Inv dev σ.mpu) :
    ∃ σ', MonRunGen.do_step dev.step dis dm P args σ = .ok () σ' ∧ σ'.mpu = dev.step σ.mpu ∧
      σ'.breakpoints = σ.breakpoints ∧
      (OpOK dev .step σ.mpu → Inv dev σ'.mpu) ∧
      (CycOK dev .step σ.mpu →
        σ'.mpu.cycles = σ.mpu.cycles + stepCycles dev.W dev.variant (core σ.mpu) ∧
        σ.mpu.cycles ≤ σ'.mpu.cycles) := by
  obtain ⟨σ', h1, h2, h3, _⟩ := (Py65.Props.C17g.commands_are_runs dev.step dis dm P 0 args σ).2.2.2.2
  have h2' : σ'.mpu = dev.step σ.mpu := h2
  refine ⟨σ', h1, h2', h3, fun ho => ?_, fun hc => ?_⟩
  · rw [h2']; exact Py65.Props.C05h.closed_step dev σ.mpu hi ho
  · rw [h2']
    have := Py65.Props.C13h.step_cycles_dev dev σ.mpu hi hc
    refine ⟨this, ?_⟩
    have := Py65.Props.C13h.stepCycles_nonneg dev.W dev.variant (core σ.mpu)
    omega

/-- 6502: `$0000 LDA $12FF,X` with X = 1 (page crossing: 5 cycles), `$0003 NOP` (2), `$0004 BRK` (stop code). -/
def demoMem : Int → Int := fun k =>
  if k = 0 then 0xbd else if k = 1 then 0xff else if k = 2 then 0x12 else if k = 3 then 0xea
  else if k = 4 then 0x00 else 0xea

def demoState : St := { (default : St) with x := 1, cycles := 100, mem := demoMem }

def demoP : Parser := ⟨16, 16, []⟩

def obs (r : Flow RunSt Unit) : Option (Int × Int × Nat) :=
  match r with
  | .ok _ σ => some (σ.mpu.pc, σ.mpu.cycles, σ.out.length)
  | _ => none

theorem demo_wf : WF dev6502.cfg demoState ∧ demoState.waiting = false := by
  refine ⟨⟨by decide, by decide, by decide, by decide, by decide, by decide, ?_⟩, rfl⟩
  intro k; simp only [demoState, demoMem]; repeat' apply ite_range
  all_goals decide

/-- the generated `_run([BRK])` stops after two instructions at `$0004`, counter 100 → 107; the documented
cycles of the two steps are 5 + 2 -/
example : obs (MonRunGen._run (Dev.step .nmos) (fun _ _ => []) Py65.Model.MonMem.dev8 demoP 50 [0x00]
      { mpu := demoState, breakpoints := [], out := [] }) = some (4, 107, 0) ∧
    docCycles .nmos (List.replicate 2 Op.step) demoState = 7 := by decide +kernel

/-- the hypotheses of `run_cycles_6502` hold of it -/
example : ∃ σ', MonRunGen._run (Dev.step .nmos) (fun _ _ => []) Py65.Model.MonMem.dev8 demoP 50 [0x00]
      { mpu := demoState, breakpoints := [], out := [] } = .ok () σ' ∧ WF dev6502.cfg demoState :=
  ⟨_, (C17g.run_complete (Dev.step .nmos) (fun _ _ => []) Py65.Model.MonMem.dev8 demoP 50 [0x00]
      { mpu := demoState, breakpoints := [], out := [] } 2 (by decide) (by decide) (by decide +kernel)
      (by intro m h0 h2; obtain rfl : m = 1 := by omega
          decide +kernel)).choose_spec.1, demo_wf.1⟩

/-- `goto 0` with a breakpoint at `$0003` (number 1; number 0 deleted): one instruction, 5 cycles, one line -/
example : obs (MonRunGen.do_goto (Dev.step .nmos) (fun _ _ => []) Py65.Model.MonMem.dev8 demoP 50 "0".toList
      { mpu := { demoState with pc := 0x300 }, breakpoints := [none, some 3], out := [] }) = some (3, 105, 1) ∧
    numberL demoP "0".toList = .ok 0 := by decide +kernel

/-- `step`: one instruction -/
example : obs (MonRunGen.do_step (Dev.step .nmos) (fun _ _ => []) Py65.Model.MonMem.dev8 demoP []
      { mpu := demoState, breakpoints := [], out := [] }) = some (3, 105, 0) ∧
    stepCycles 8 .nmos (core demoState) = 5 := by decide +kernel

/-- 65C02, the exact form: `BRA +0` then BRK - one instruction, documented 3, counted 2 (`braCount = 1`). -/
def braState : St := { (default : St) with mem := fun k => if k = 0 then 0x80 else 0x00 }

example : obs (MonRunGen._run (Dev.step .cmos) (fun _ _ => []) Py65.Model.MonMem.dev8 demoP 50 [0x00]
      { mpu := braState, breakpoints := [], out := [] }) = some (2, 2, 0) ∧
    docCycles .cmos (List.replicate 1 Op.step) braState = 3 ∧
    braCount (List.replicate 1 Op.step) braState = 1 := by decide +kernel

/-- 65Org16: `LDA #$1234`, `NOP`, BRK; every opcode cell executed is a byte (`CellsOK`). -/
def orgMem : Int → Int := fun k =>
  if k = 0 then 0xa9 else if k = 1 then 0x1234 else if k = 2 then 0xea else if k = 3 then 0x00 else 0xea

def orgState : St := { (default : St) with mem := orgMem }

example : obs (MonRunGen._run (Dev.step .org16) (fun _ _ => []) Py65.Model.MonMem.dev16 ⟨32, 16, []⟩ 50 [0x00]
      { mpu := orgState, breakpoints := [], out := [] }) = some (3, 4, 0) ∧
    docCycles .org16 (List.replicate 2 Op.step) orgState = 4 ∧
    (∀ m, m < 2 → ((Dev.step .org16)^[m] orgState).mem ((Dev.step .org16)^[m] orgState).pc < 256) := by
  decide +kernel

end Py65.Props.C17h
