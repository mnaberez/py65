/-
C06r -- `reset()` of the 65C02 itself.

`C06.reset_spec` is stated for the base-class `reset` (`Mpu6502.reset_at / reset_vec`: what the 6502 and the
65Org16 run) and needs `s.waiting = false`, because that code does not touch `waiting` while the documented
reset ends a wait.  The 65C02 overrides `reset` (`mpu65c02.MPU.reset`: base reset, then `self.waiting =
False`), which `C06.wai_resumes` covers for the `waiting` flag only.  Here the documented power-on
state is stated for the GENERATED 65C02 `reset` (`dev65c02.reset`, what the driver runs for
`reset(start)` / `reset()`), for EVERY state -- waiting or not, no hypothesis at all.
-/
import Py65.Proofs.Interrupts

namespace Py65.Props.C06r
open Py65 Py65.Gen Py65.Spec Py65.Proofs

/-- The 65C02 class's `reset`, any device configuration, ANY state (no `waiting` hypothesis). -/
theorem reset_spec_65c02_cfg (c : Cfg) (hc : IsDev c) (s : St) (a : Int) :
    abs (Mpu65c02.reset_at c a s) = Spec.reset c.BYTE_WIDTH (some a) (abs s) ∧
    abs (Mpu65c02.reset_vec c s) = Spec.reset c.BYTE_WIDTH none (abs s) ∧
    (Mpu65c02.reset_at c a s).cycles = 0 ∧ (Mpu65c02.reset_vec c s).cycles = 0 ∧
    (Mpu65c02.reset_at c a s).waiting = false ∧ (Mpu65c02.reset_vec c s).waiting = false := by
  have h1 := reset_at_sem c hc a { s with waiting := false } rfl
  have h2 := reset_vec_sem c hc { s with waiting := false } rfl
  refine ⟨?_, ?_, rfl, rfl, rfl, rfl⟩
  · exact h1
  · exact h2

/-- **`reset()` of the 65C02 device**: documented power-on registers (A = X = Y = 0, SP = `$FF`, P = `$30`),
PC = the start address or the word at `$FFFC/$FFFD`, memory untouched, the wait ended, cycle counter 0 --
from EVERY state, waiting or not. -/
theorem reset_spec_65c02 (s : St) (a : Option Int) :
    abs (dev65c02.reset a s) = Spec.reset 8 a (abs s) ∧
    (dev65c02.reset a s).cycles = 0 ∧ (dev65c02.reset a s).waiting = false := by
  have h := reset_spec_65c02_cfg dev65c02.cfg (Or.inl rfl) s (a.getD 0)
  cases a with
  | none => exact ⟨h.2.1, rfl, rfl⟩
  | some v => exact ⟨h.1, rfl, rfl⟩

/-- A WAITING 65C02 with junk registers; `$FFFC/$FFFD` = `$00 $80`. -/
def demo : St :=
  { a := 0x12, x := 0x34, y := 0x56, sp := 0x10, p := 0xCF, pc := 0x1234, excycles := 0, addcycles := 0,
    cycles := 99, waiting := true, mem := fun k => if k = 0xFFFD then 0x80 else 0, log := [] }

/-- non-vacuity: reset to `$C000` and reset through the vector, from the waiting state. -/
example :
    (dev65c02.reset (some 0xC000) demo).pc = 0xC000 ∧ (dev65c02.reset none demo).pc = 0x8000 ∧
    (dev65c02.reset none demo).a = 0 ∧ (dev65c02.reset none demo).sp = 0xFF ∧
    (dev65c02.reset none demo).p = 0x30 ∧
    (dev65c02.reset none demo).waiting = false ∧ (dev65c02.reset none demo).cycles = 0 ∧
    (Spec.reset 8 none (abs demo)).pc = 0x8000 ∧ (Spec.reset 8 none (abs demo)).waiting = false ∧
    demo.waiting = true := by
  decide +kernel

end Py65.Props.C06r
