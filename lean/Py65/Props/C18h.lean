/-
C18h -- character I/O of a running PROGRAM: C18 (the monitor's observers, `Props/C18g.lean`) composed with
the generated CPU (C12 `Props/C12.lean`, C05h `Props/C05h.lean`); the I/O machine is defined in
`Proofs/IoProg.lean`.

The object.  `m : IoM` is a device (`m.cpu : St`, the registers of the generated device model; its `mem` / `log`
fields are scratch) together with the monitor `m.mon : IoSt` that owns the device's memory object
(`m.mon._mpu.memory`, the `ObservableMemory` model with the GENERATED `_install_mpu_observers` closures `putc` /
`getc` installed at `O` / `I`), the pending input `m.mon.stdin` and the output `m.mon.stdout`.
One instruction, `ioStep E d m`:
  1. the GENERATED `step()` of device `d` (`Dev.step`: `dev6502.step`, `dev65c02.step`, `dev65org16.step`) is run
     on `startOf E m`: the registers of `m.cpu` over the plain memory `viewG E m.mon` -- "what a load from `a`
     would return NOW", computed by running the generated `getc` / the `ObservableMemory` model -- with an
     empty access log;
  2. the log of that step, `traceOf E d m` (every `memory[e]` / `memory[e] = v` of the instruction in program
     order, values written included: the list C12 is about), is replayed on the monitor's memory object through
     the generated observers (`MonIOGenEq.replayG`, the object of `C18g.io_trace`): new cells, input, output.
`Consistent E d m` is the check that makes this a `step()` ON the observed memory: the observed memory answers
every load of the instruction exactly as the plain memory the CPU ran on did (`seenOf`).  The generated CPU is a
function of a PLAIN memory (`memGet e s = s.mem e`); it cannot be run on a memory whose loads have side effects
without re-translating it (a memory monad instead of `St.mem`).  What it can represent exactly is every
instruction in which no load from `I` comes after another access to `I` and every address is a physical
address -- `io_consistent_of_safe`; `Consistent` fails exactly when a plain memory cannot give the answers
(the example with a program located at `I`, at the end of this file).  `ioRun E d n m`: `n` instructions; `traces E d n m`: all their
accesses in program order; `seen E d n m`: what all their loads returned to the CPU.
-/
import Py65.Props.C18g
import Py65.Proofs.IoProgAcc

namespace Py65.Props.C18h
open Py65 Py65.Model.MonIORt Py65.Gen.MonIOGen
open Py65.Proofs Py65.Proofs.MonIO Py65.Proofs.MonIOGenEq Py65.Proofs.IoProg
open Py65.Spec (Acc Mn Mode Variant decode dataAccesses fetched ea)
open Py65.Spec.ObsMem (InRange replayPlain)
open Py65.Spec.MonIO (SState storesTo loadsFrom)
open Py65.Proofs.Hist (Dev)

/-- The generated CPU (`d`: any of the three devices) run for `n` instructions on the
monitor's memory object with the GENERATED observers installed at `I` and `O` (`Inv`), every instruction
`Consistent` (see the file comment; `io_consistent_of_safe`, `io_instruction_consistent` give it), every stored
value printable (`okEv`).  With `evs` the program-order list of ALL item accesses of the run and `sp` the
Spec's replay of `evs` (plain memory of `maskOf addrWidth + 1` cells + input queue + output text, written
from the property text) from the cells, pending input and output at the start:
 (b) what the loads of the program returned to the CPU (`seen`) is exactly what the Spec says: a load from an
     address congruent to `I` returned the next pending byte -- LF as CR -- or 0 and consumed exactly that
     byte, every other load returned the cell and consumed nothing;
 (a) the output grew by exactly the values the program's stores wrote to addresses congruent to `O`, in
     program order, each once (all flushed when everything before was); the input shrank by exactly the
     number of loads from addresses congruent to `I`; the cells are the Spec's;
 nothing else of the monitor changed and the mapping is still in place. -/
theorem io_program (E : Env) (d : Dev) (n : Nat) (m : IoM) (I O : Int) (hinv : Inv m.mon)
    (hI : m.mon.getc_addr = some I) (hO : m.mon.putc_addr = some O)
    (hev : ∀ e ∈ traces E d n m, okEv E e) (hc : AllConsistent E d n m) :
    ∃ cells, m.mon._mpu.memory = .obs (obsMem m.mon.addrWidth I O cells) ∧
      let size := maskOf m.mon.addrWidth + 1
      let evs := traces E d n m
      let m' := ioRun E d n m
      let sp := Py65.Spec.MonIO.replay size I O
        { cells := cells, pending := m.mon.stdin, output := m.mon.stdout.written } evs
      seen E d n m = sp.1 ∧
      m'.mon._mpu.memory = .obs (obsMem m.mon.addrWidth I O sp.2.cells) ∧
      m'.mon.stdout.written = m.mon.stdout.written ++ storesTo size O evs ∧
      m'.mon.stdin = m.mon.stdin.drop (loadsFrom size I evs) ∧
      (m.mon.stdout.flushed = m.mon.stdout.written.length →
        m'.mon.stdout.flushed = m'.mon.stdout.written.length) ∧
      Frame m.mon m'.mon ∧ Inv m'.mon := by
  obtain ⟨cells, g⟩ := hinv.good hI hO
  obtain ⟨r1, r2, r3, r4⟩ := run_spec E d I O n m _ g.ioSim hev hc
  obtain ⟨c1, c2, c3⟩ := r2.replay_closed r3
  exact ⟨cells, g.hm, r1, c1, c2, c3, r4, r3, hinv.of_frame r3 r2.good⟩

/-- Whatever the program does, the monitor after `n` instructions is the monitor after
replaying, in ONE go, the program-order list of all item accesses of the run through the generated observers
-- the object `C18g.io_trace` / `io_session` are about ("each architectural load/store is one item access"). -/
theorem io_run_is_replay (E : Env) (d : Dev) (n : Nat) (m : IoM) :
    (ioRun E d n m).mon = (replayG E m.mon (traces E d n m)).2 := by
  induction n generalizing m with
  | zero => rfl
  | succ n ih =>
    simp only [ioRun, traces, replayG_append, ih]
    rfl

/-- An instruction all of whose accesses are at physical addresses
(`0 ≤ a ≤ maskOf addrWidth`) and in which no load from an address congruent to `I` is preceded by another
access (load or store) to such an address is `Consistent`.  (Checked on the actual access list of the
instruction, order included: a read-modify-write of `I` -- load, then store -- qualifies.) -/
theorem io_consistent_of_safe (E : Env) (d : Dev) (m : IoM) (I O : Int) (hinv : Inv m.mon)
    (hI : m.mon.getc_addr = some I) (hO : m.mon.putc_addr = some O)
    (hev : ∀ e ∈ traceOf E d m, okEv E e)
    (hs : IoSafe (maskOf m.mon.addrWidth) I (traceOf E d m)) : Consistent E d m := by
  obtain ⟨cells, g⟩ := hinv.good hI hO
  exact consistent_of_safe E d m I O cells g hev hs

/-- The generated device model changes its memory function ONLY through logged writes
(`Proofs/IoProgCoh.lean`: every generated handler, every opcode byte, all three devices, no hypothesis), so
 * the device's own memory after ANY instruction is the plain replay of the instruction's access list from the
   memory it started on (the list `traceOf` is complete: it IS everything the instruction did to memory);
 * after an `IoSafe` instruction it agrees with the backing cells of the monitor's observed memory at every
   physical address that is not congruent to `I` (at `I` the backing cell is invisible to every load). -/
theorem io_step_memory (E : Env) (d : Dev) (m : IoM) (I O : Int) (hinv : Inv m.mon)
    (hI : m.mon.getc_addr = some I) (hO : m.mon.putc_addr = some O)
    (hev : ∀ e ∈ traceOf E d m, okEv E e) :
    (ioStep E d m).cpu.mem = (replayPlain (viewG E m.mon) (traceOf E d m)).2 ∧
    (IoSafe (maskOf m.mon.addrWidth) I (traceOf E d m) →
      ∃ cells', (ioStep E d m).mon._mpu.memory = .obs (obsMem m.mon.addrWidth I O cells') ∧
        ∀ a, 0 ≤ a → a ≤ maskOf m.mon.addrWidth →
          a % (maskOf m.mon.addrWidth + 1) ≠ I % (maskOf m.mon.addrWidth + 1) →
          (ioStep E d m).cpu.mem a = cells' a) := by
  obtain ⟨cells, g⟩ := hinv.good hI hO
  refine ⟨ioStep_mem E d m, fun hs => ?_⟩
  obtain ⟨-, s2, s3, -⟩ := replayG_spec E I O (traceOf E d m) m.mon _ g.ioSim hev
  exact ⟨_, s2.mem s3, ioStep_cells E d m I O cells g hs⟩

/-- (c) (one instruction of a well-formed machine, any device, a declared opcode, the
device not waiting).  With `A = specAccesses …` the Spec's list for the instruction -- opcode fetch, operand
fetches, `Spec.dataAccesses` (C12) -- and `D = Spec.dataAccesses …`:
  * the item accesses of the instruction are exactly `A` as a multiset (C12 on the state the step runs on);
  * the instruction consumes exactly as many pending bytes as `A` has loads from addresses congruent to `I`
    (an opcode or operand FETCH from `I` consumes input, too);
  * it prints exactly the values it stores to addresses congruent to `O`, and their number is the number of
    such stores in `D` ("once per access": `STA O` prints once, a read-modify-write of `O` prints once);
  * if the instruction is not located at `I` (`NotLocatedAt`), the bytes consumed are the loads from `I` in `D`
    (`LDA I` consumes one; `INC I` consumes one). -/
theorem io_instruction (E : Env) (d : Dev) (m : IoM) (I O : Int) (cells : Int → Int) (h : IoInv d m I O cells)
    (hev : ∀ e ∈ traceOf E d m, okEv E e) (hw : (startOf E m).waiting = false) (mn : Mn) (mo : Mode)
    (hdec : decode d.variant ((startOf E m).mem (startOf E m).pc) = some (mn, mo)) :
    let s := startOf E m
    let size := maskOf m.mon.addrWidth + 1
    let A := specAccesses d.W d.variant mn mo s
    let D := dataAccesses d.W d.variant mn mo (afterOpcode d.W s)
    let T := traceOf E d m
    let m' := ioStep E d m
    (T.map accOf).Perm A ∧
    m'.mon.stdin = m.mon.stdin.drop (A.countP (accLoadAt size I)) ∧
    m'.mon.stdout.written = m.mon.stdout.written ++ storesTo size O T ∧
    (storesTo size O T).length = D.countP (accStoreAt size O) ∧
    (NotLocatedAt size I d.W mn mo s → A.countP (accLoadAt size I) = D.countP (accLoadAt size I)) := by
  intro s size A D T m'
  have hi := startOf_inv E h
  have hacc := Py65.Proofs.Hist.step_accesses d s hi.1 hw mn mo hdec
  obtain ⟨-, s2, s3, -⟩ := replayG_spec E I O T m.mon _ h.good.ioSim hev
  obtain ⟨-, c1, c2⟩ := s2.replay_closed s3
  obtain ⟨k1, k2⟩ := spec_counts size I O d.W d.variant mn mo s
  have e1 : T.countP (isLoadAt size I) = A.countP (accLoadAt size I) := by
    rw [isLoadAt_accOf]; exact countP_trace (s := s) rfl hacc _
  have e2 : T.countP (isStoreAt size O) = A.countP (accStoreAt size O) := by
    rw [isStoreAt_accOf]; exact countP_trace (s := s) rfl hacc _
  refine ⟨trace_perm (s := s) rfl hacc, ?_, c1, ?_, fun hn => (k2 hn).1⟩
  · rw [← e1, ← loadsFrom_eq_countP]
    exact c2
  · rw [storesTo_length, e2, k1]

/-- C12 keeps the accesses of an instruction as a multiset; for the read-modify-write
instructions on memory (ASL LSR ROL ROR INC DEC; 65C02: TSB TRB RMBn SMBn) the access list of the instruction
IS the Spec's list, in the Spec's order: opcode fetch, operand fetches, the load of the effective address, then
the store (`Proofs/IoProgRmw.lean`, all three devices).  So `INC I` loads (consumes) BEFORE it stores. -/
theorem io_rmw_in_order (E : Env) (d : Dev) (m : IoM) (I O : Int) (cells : Int → Int) (h : IoInv d m I O cells)
    (hw : (startOf E m).waiting = false) (mn : Mn) (mo : Mode)
    (hdec : decode d.variant ((startOf E m).mem (startOf E m).pc) = some (mn, mo))
    (hr : mn.isRmw = true) (hacc : mo ≠ .acc) :
    (traceOf E d m).map accOf = specAccesses d.W d.variant mn mo (startOf E m) :=
  rmw_trace E (startOf_inv E h).1 hw mn mo hdec hr hacc

/-- An instruction of a well-formed machine that is `InstrOK` is `Consistent`.
`InstrOK`: a waiting 65C02; or a declared opcode, (65Org16 only) all of whose accesses are at physical
addresses, that is (A) not located at `I` with `Spec.dataAccesses` containing no load from `I` or at most one
access to `I` (order-free, C12 being a multiset statement), or (B) a read-modify-write on memory in whose
ordered Spec list no load from `I` follows another access to `I` -- by `rmw_not_located` every zero-page /
absolute (,X) read-modify-write not located at `I`, `INC I` included. -/
theorem io_instruction_consistent (E : Env) (d : Dev) (m : IoM) (I O : Int) (cells : Int → Int)
    (h : IoInv d m I O cells) (hd : d = devOf m.mon._mpu.cls)
    (hw : m.mon.addrWidth = m.mon._mpu.cls.ADDR_WIDTH)
    (hev : ∀ e ∈ traceOf E d m, okEv E e) (hok : InstrOK E d I m) : Consistent E d m :=
  instr_consistent E h hd hw hev hok

/-- (B) of `InstrOK` for the usual case: a read-modify-write (zero page, zero page,X, absolute, absolute,X) whose
opcode and operand bytes do not lie at `I` -- whatever its effective address. -/
theorem rmw_not_located (size I : Int) (W : Nat) (v : Variant) (mn : Mn) (mo : Mode) (s : St)
    (hr : mn.isRmw = true) (hm : mo = .zpg ∨ mo = .zpx ∨ mo = .abs ∨ mo = .abx)
    (hn : NotLocatedAt size I W mn mo s) : NoReloadA size I (specAccesses W v mn mo s) := by
  obtain ⟨h1, h2⟩ := hn
  have hdata : Mode.isData mo = true := by rcases hm with rfl | rfl | rfl | rfl <;> rfl
  have himm : mo ≠ .imm := by rcases hm with rfl | rfl | rfl | rfl <;> decide
  have htr := trace_rmw W v mn mo (afterOpcode W s) hr hdata himm
  have hmt : modeTrace W mo (afterOpcode W s) = (fetched W mn mo (afterOpcode W s)).map Acc.r := by
    rcases hm with rfl | rfl | rfl | rfl <;>
      simp [modeTrace, fetched, Py65.Spec.pointerReads]
  unfold specAccesses
  rw [← htr, hmt]
  -- the fetches are not at `I`; what remains is the load of the effective address, then the store
  have hS : NoReloadA size I [Acc.r (ea W mo (afterOpcode W s)), Acc.w (ea W mo (afterOpcode W s))] := by
    simp [NoReloadA, accLoadAt]
  refine ⟨fun ht => ?_, noReloadA_append _ _ _ _ ?_ hS⟩
  · have : accTouches size I (Acc.r s.pc) = false := by simpa [accTouches] using h1
    rw [this] at ht; cases ht
  · intro x hx
    obtain ⟨a, ha, rfl⟩ := List.mem_map.1 hx
    simpa [accTouches] using h2 a ha

/-- The composition stated on the PROGRAM, no hypothesis about the run other than
`InstrOK` of each instruction.  THE GAP to "every program not located at I/O" (why *partial*): the generated CPU
is a function of a plain memory and is not re-translated, so an instruction that needs two DIFFERENT answers
from `I`, or the backing cell of `I`, inside one instruction cannot be represented: a data load from `I` after a
pointer byte was fetched from `I` (`LDA (zp),Y` with the pointer AT `I` and pointing TO `I`), two aliases of `I`
or any address above `$3FFFF` on the 65Org16; undeclared opcode bytes are outside `InstrOK` as well (`io_program`
itself needs none of this, only `Consistent`).  Everything else -- loads, compares, ALU operations, stores,
read-modify-writes, pushes, pulls, jumps, branches, BRK, wherever they point -- is covered.  A well-formed machine (`IoInv`: registers,
cells and pending bytes inside the byte, observers installed at `I` / `O`) whose device is the monitor's device
class, a stream that encodes every value of the byte, `n` instructions each of which is `InstrOK` (and, on the
65Org16, has an opcode cell `< 256`: `OpOK`).  Then every instruction is `Consistent`, every stored value is
printable, before every instruction the state `step()` is applied to is well-formed (`Hist.Inv`: C12's and
C05h's hypothesis), and the conclusions of `io_program` hold. -/
theorem io_program_partial (E : Env) (d : Dev) (n : Nat) (m : IoM) (I O : Int) (cells : Int → Int)
    (h : IoInv d m I O cells) (hd : d = devOf m.mon._mpu.cls)
    (hw : m.mon.addrWidth = m.mon._mpu.cls.ADDR_WIDTH)
    (henc : ∀ v, InB d.W v → E.enc v = true)
    (hop : Always E d (fun m => Py65.Proofs.Hist.OpOK d .step (startOf E m)) n m)
    (hok : Always E d (InstrOK E d I) n m) :
    AllConsistent E d n m ∧ (∀ e ∈ traces E d n m, okEv E e) ∧
    Always E d (fun m => Py65.Proofs.Hist.Inv d (startOf E m)) n m ∧
    let size := maskOf m.mon.addrWidth + 1
    let evs := traces E d n m
    let m' := ioRun E d n m
    let sp := Py65.Spec.MonIO.replay size I O
      { cells := cells, pending := m.mon.stdin, output := m.mon.stdout.written } evs
    seen E d n m = sp.1 ∧
    m'.mon._mpu.memory = .obs (obsMem m.mon.addrWidth I O sp.2.cells) ∧
    m'.mon.stdout.written = m.mon.stdout.written ++ storesTo size O evs ∧
    m'.mon.stdin = m.mon.stdin.drop (loadsFrom size I evs) := by
  have hev := run_okEv E d I O henc n m cells h hop
  have hc := run_consistent E d I O n m cells h hd hw hop hev hok
  have hinv := (run_inv E d I O n m cells h hop hev).1
  refine ⟨hc, hev, always_mono (fun m' ⟨c', h'⟩ => startOf_inv E h') n m hinv, ?_⟩
  obtain ⟨r1, r2, r3, -⟩ := run_spec E d I O n m _ h.good.ioSim hev hc
  exact ⟨r1, r2.replay_closed r3⟩

/- What `Spec.dataAccesses` (C12) says for the instructions the property talks about. -/

/-- `LDA abs`: one load of the effective address: `LDA I` consumes exactly one byte. -/
example (s : Py65.Spec.AState) : dataAccesses 8 .nmos .LDA .abs s = [.r (ea 8 .abs s)] := rfl
/-- `STA abs`: one store, no load: `STA O` prints exactly once. -/
example (s : Py65.Spec.AState) : dataAccesses 8 .nmos .STA .abs s = [.w (ea 8 .abs s)] := rfl
/-- `INC abs`: one load, then one store of the same cell: `INC O` prints exactly once (the incremented cell,
loaded from the backing cell: no read observer at `O`); `INC I` consumes exactly one byte and stores the
incremented byte to the backing cell at `I`, which no load can ever see (prints nothing unless `I ≡ O`). -/
example (s : Py65.Spec.AState) : dataAccesses 8 .nmos .INC .abs s = [.r (ea 8 .abs s), .w (ea 8 .abs s)] := rfl

open Py65.Props.C18g (exEnv blank argvOf)

/-- The echo loop body at `$0200`: `LDA $F004 ; STA $F001 ; LDA $F004 ; STA $F001`. -/
def echoProg : Int → Int := fun a =>
  if a = 0x200 then 0xAD else if a = 0x201 then 0x04 else if a = 0x202 then 0xF0
  else if a = 0x203 then 0x8D else if a = 0x204 then 0x01 else if a = 0x205 then 0xF0
  else if a = 0x206 then 0xAD else if a = 0x207 then 0x04 else if a = 0x208 then 0xF0
  else if a = 0x209 then 0x8D else if a = 0x20a then 0x01 else if a = 0x20b then 0xF0
  else 0

/-- A device after `reset` with PC at `pc`. -/
def cpuAt (pc : Int) : St := { (default : St) with pc := pc, sp := 0xff, p := 0x30 }

/-- `Monitor(memory=cells)` built by the GENERATED `__init__` (defaults: 6502, I = `$F004`, O = `$F001`) with
pending input `input`, its device at `pc`. -/
def onMon {α : Type} (cells : Int → Int) (input : List Int) (pc : Int) (k : IoM → α) : Option α :=
  match __init__ exEnv (some (argvOf ["py65mon"])) .mpu6502 (some cells) (some 0xF001) (some 0xF004)
        { blank with stdin := input } with
  | .ok _ σ => some (k ⟨cpuAt pc, σ⟩)
  | _ => none

/-- The echo loop body with pending input "A\n": all four instructions are consistent; the output is "A\r"
(LF delivered as CR), each character once; both bytes are consumed; A holds CR; and the program-order access
list: each `LDA` loads `$F004` once, each `STA` stores to `$F001` once. -/
example :
    onMon echoProg [65, 10] 0x200 (fun m => decide (AllConsistent exEnv .nmos 4 m)) = some true ∧
    onMon echoProg [65, 10] 0x200 (fun m => (ioRun exEnv .nmos 4 m).mon.stdout.written) = some [65, 13] ∧
    onMon echoProg [65, 10] 0x200 (fun m => (ioRun exEnv .nmos 4 m).mon.stdout.flushed) = some 2 ∧
    onMon echoProg [65, 10] 0x200 (fun m => (ioRun exEnv .nmos 4 m).mon.stdin) = some [] ∧
    onMon echoProg [65, 10] 0x200 (fun m => ((ioRun exEnv .nmos 4 m).cpu.a, (ioRun exEnv .nmos 4 m).cpu.pc)) =
      some (13, 0x20c) ∧
    onMon echoProg [65, 10] 0x200 (fun m => traces exEnv .nmos 4 m) =
      some [.r 0x200, .r 0x201, .r 0x202, .r 0xf004, .r 0x203, .r 0x204, .r 0x205, .w 0xf001 65,
            .r 0x206, .r 0x207, .r 0x208, .r 0xf004, .r 0x209, .r 0x20a, .r 0x20b, .w 0xf001 13] ∧
    onMon echoProg [65, 10] 0x200 (fun m => (seen exEnv .nmos 4 m).filterMap id) =
      some [0xAD, 0x04, 0xF0, 65, 0x8D, 0x01, 0xF0, 0xAD, 0x04, 0xF0, 13, 0x8D, 0x01, 0xF0] := by
  decide +kernel

/-- The same on the 65Org16 (`py65mon -m 65Org16`: 16-bit words, 256 K physical memory, the observers at `$F004` /
`$F001` of it) and on the 65C02: `LDA $F004 ; STA $F001` at `$0200`, input "\n". -/
def onMonDev {α : Type} (name : String) (cells : Int → Int) (input : List Int) (pc : Int) (k : IoM → α) : Option α :=
  match __init__ exEnv (some (argvOf ["py65mon", "-m", name])) .mpu6502 (some cells) (some 0xF001) (some 0xF004)
        { blank with stdin := input } with
  | .ok _ σ => some (k ⟨cpuAt pc, σ⟩)
  | _ => none

def org16Prog : Int → Int := fun a =>
  if a = 0x200 then 0xAD else if a = 0x201 then 0xF004 else if a = 0x202 then 0
  else if a = 0x203 then 0x8D else if a = 0x204 then 0xF001 else if a = 0x205 then 0 else 0

example :
    onMonDev "65Org16" org16Prog [10] 0x200 (fun m => (m.mon._mpu.cls, m.mon.addrWidth)) = some (.mpu65org16, 32) ∧
    onMonDev "65Org16" org16Prog [10] 0x200 (fun m => decide (AllConsistent exEnv .org16 2 m)) = some true ∧
    onMonDev "65Org16" org16Prog [10] 0x200 (fun m => (ioRun exEnv .org16 2 m).mon.stdout.written) = some [13] ∧
    onMonDev "65Org16" org16Prog [10] 0x200 (fun m => (ioRun exEnv .org16 2 m).mon.stdin) = some [] ∧
    onMonDev "65Org16" org16Prog [10] 0x200 (fun m => traces exEnv .org16 2 m) =
      some [.r 0x200, .r 0x201, .r 0x202, .r 0xf004, .r 0x203, .r 0x204, .r 0x205, .w 0xf001 13] ∧
    onMonDev "65C02" echoProg [10] 0x200 (fun m => decide (AllConsistent exEnv .cmos 2 m)) = some true ∧
    onMonDev "65C02" echoProg [10] 0x200 (fun m => (ioRun exEnv .cmos 2 m).mon.stdout.written) = some [13] ∧
    onMonDev "65C02" echoProg [10] 0x200 (fun m => (ioRun exEnv .cmos 2 m).mon.stdin) = some [] := by
  decide +kernel

/-- `INC $F001 ; INC $F004` at `$0300`, the cell at `$F001` holds 'A', pending input "A\n". -/
def incProg : Int → Int := fun a =>
  if a = 0x300 then 0xEE else if a = 0x301 then 0x01 else if a = 0x302 then 0xF0
  else if a = 0x303 then 0xEE else if a = 0x304 then 0x04 else if a = 0x305 then 0xF0
  else if a = 0xF001 then 65 else 0

/-- Instructions that read AND write an I/O cell.  `INC O` loads the backing cell ('A'), prints 'B' exactly
once and consumes nothing.  `INC I` consumes exactly one byte ('A'), prints nothing, and stores 'B' to the
backing cell at `I` -- which no load can see: the next load from `I` returns the next pending byte.  Both are
consistent (load before store) and `IoSafe`. -/
example :
    onMon incProg [65, 10] 0x300 (fun m => decide (AllConsistent exEnv .nmos 2 m)) = some true ∧
    onMon incProg [65, 10] 0x300 (fun m => traces exEnv .nmos 2 m) =
      some [.r 0x300, .r 0x301, .r 0x302, .r 0xf001, .w 0xf001 66,
            .r 0x303, .r 0x304, .r 0x305, .r 0xf004, .w 0xf004 66] ∧
    onMon incProg [65, 10] 0x300 (fun m => decide (IoSafe 0xffff 0xF004 (traceOf exEnv .nmos (ioStep exEnv .nmos m)))) =
      some true ∧
    onMon incProg [65, 10] 0x300 (fun m => (ioStep exEnv .nmos m).mon.stdout.written) = some [66] ∧
    onMon incProg [65, 10] 0x300 (fun m => (ioStep exEnv .nmos m).mon.stdin) = some [65, 10] ∧
    onMon incProg [65, 10] 0x300 (fun m => (ioRun exEnv .nmos 2 m).mon.stdout.written) = some [66] ∧
    onMon incProg [65, 10] 0x300 (fun m => (ioRun exEnv .nmos 2 m).mon.stdin) = some [10] ∧
    onMon incProg [65, 10] 0x300 (fun m => viewG exEnv (ioRun exEnv .nmos 2 m).mon 0xF004) = some 13 := by
  decide +kernel

/-- `located_at_I`: a program located AT `I` is outside the composition, and `Consistent` says so.  PC = `$F004`,
pending input `AD 42`, the cells `$F005/6` hold `04 F0`: the opcode FETCH consumes `$AD` (`LDA abs`), the operand
is `$F004`, the data load from `I` must now see the NEXT byte `$42` -- the plain memory the generated CPU ran on
answers `$AD` again.  The observed memory's answers (from the log) and the CPU's differ; both bytes are gone. -/
def atIProg : Int → Int := fun a => if a = 0xF005 then 0x04 else if a = 0xF006 then 0xF0 else 0

example :
    onMon atIProg [0xAD, 0x42] 0xF004 (fun m => decide (Consistent exEnv .nmos m)) = some false ∧
    onMon atIProg [0xAD, 0x42] 0xF004 (fun m => traceOf exEnv .nmos m) =
      some [.r 0xf004, .r 0xf005, .r 0xf006, .r 0xf004] ∧
    onMon atIProg [0xAD, 0x42] 0xF004 (fun m => seenOf exEnv .nmos m) =
      some [some 0xAD, some 0x04, some 0xF0, some 0xAD] ∧
    onMon atIProg [0xAD, 0x42] 0xF004 (fun m => (replayG exEnv m.mon (traceOf exEnv .nmos m)).1) =
      some [some 0xAD, some 0x04, some 0xF0, some 0x42] ∧
    onMon atIProg [0xAD, 0x42] 0xF004 (fun m => (ioStep exEnv .nmos m).mon.stdin) = some [] ∧
    onMon atIProg [0xAD, 0x42] 0xF004 (fun m => decide (IoSafe 0xffff 0xF004 (traceOf exEnv .nmos m))) =
      some false := by
  decide +kernel

/-- A monitor state with the observers installed (what `_reset` builds: `C18g.reset_zero_is_an_address`,
`MonIOGenEq.Inv`) over the echo program, input "A\n" pending. -/
def echoMon : IoSt :=
  { blank with
    getc_addr := some 0xF004, putc_addr := some 0xF001, addrWidth := 16,
    _mpu := { id := 0, cls := .mpu6502, memory := .obs (obsMem 16 0xF004 0xF001 echoProg) },
    stdin := [65, 10] }

def echoM : IoM := ⟨cpuAt 0x200, echoMon⟩

theorem echo_inv : IoInv .nmos echoM 0xF004 0xF001 echoProg := by
  have hb : ∀ v : Int, 0 ≤ v → v < 256 → InB Dev.nmos.W v := fun v h0 h1 => ⟨h0, h1⟩
  refine ⟨⟨rfl, rfl, rfl⟩,
    ⟨by decide, by decide, by decide, by decide, by decide, by decide, fun _ => (show (0:Int) ≤ 0 ∧ (0:Int) ≤ 255 from ⟨by decide, by decide⟩)⟩,
    fun _ => rfl, fun k => ?_, ?_⟩
  · -- every branch of the `if` chain is a byte literal
    unfold echoProg
    repeat' apply inB_ite
    all_goals exact hb _ (by decide) (by decide)
  · intro b hbm
    have : b = 65 ∨ b = 10 := by simpa [echoM, echoMon] using hbm
    rcases this with rfl | rfl <;> exact hb _ (by decide) (by decide)

/-- The four instructions of the echo loop body are `InstrOK`: declared, not located at `I`, one access to `I`
at most (`LDA $F004`: one load; `STA $F001`: none). -/
theorem echo_ok : Always exEnv .nmos (InstrOK exEnv .nmos 0xF004) 4 echoM := by
  refine ⟨Or.inr ⟨by decide +kernel, .LDA, .abs, by decide +kernel, by decide,
            Or.inl ⟨by unfold NotLocatedAt; decide +kernel, by decide +kernel⟩⟩,
          Or.inr ⟨by decide +kernel, .STA, .abs, by decide +kernel, by decide,
            Or.inl ⟨by unfold NotLocatedAt; decide +kernel, by decide +kernel⟩⟩,
          Or.inr ⟨by decide +kernel, .LDA, .abs, by decide +kernel, by decide,
            Or.inl ⟨by unfold NotLocatedAt; decide +kernel, by decide +kernel⟩⟩,
          Or.inr ⟨by decide +kernel, .STA, .abs, by decide +kernel, by decide,
            Or.inl ⟨by unfold NotLocatedAt; decide +kernel, by decide +kernel⟩⟩, trivial⟩

/-- ... so `io_program_partial` applies to it (6502: `OpOK` asks nothing; the example stream encodes everything). -/
example : AllConsistent exEnv .nmos 4 echoM ∧
    (ioRun exEnv .nmos 4 echoM).mon.stdout.written = [] ++ storesTo 0x10000 0xF001 (traces exEnv .nmos 4 echoM) ∧
    (ioRun exEnv .nmos 4 echoM).mon.stdin = [65, 10].drop (loadsFrom 0x10000 0xF004 (traces exEnv .nmos 4 echoM)) := by
  have hop := always_opOK exEnv .nmos (by decide) 4 echoM
  obtain ⟨h1, -, -, h2⟩ := io_program_partial exEnv .nmos 4 echoM 0xF004 0xF001 echoProg echo_inv rfl rfl
    (fun _ _ => rfl) hop echo_ok
  exact ⟨h1, h2.2.2.1, h2.2.2.2⟩

/-- `INC $F004` (= `INC I`) at `$0300` is `InstrOK` by route (B): a read-modify-write not located at `I`. -/
def incIM : IoM :=
  ⟨cpuAt 0x300, { echoMon with _mpu := { id := 0, cls := .mpu6502, memory := .obs (obsMem 16 0xF004 0xF001
      (fun a => if a = 0x300 then 0xEE else if a = 0x301 then 0x04 else if a = 0x302 then 0xF0 else 0)) } }⟩

example : InstrOK exEnv .nmos 0xF004 incIM :=
  Or.inr ⟨by decide +kernel, .INC, .abs, by decide +kernel, by decide,
    Or.inr ⟨rfl, by decide, rmw_not_located _ _ _ _ _ _ _ rfl (Or.inr (Or.inr (Or.inl rfl)))
      (by unfold NotLocatedAt; decide +kernel)⟩⟩

end Py65.Props.C18h
