/-
C10 for the REGENERATED model: the property theorems of `Py65/Props/C10.lean`, restated for the
definitions that `harness/py2lean_mem.py` translates from the current `py65/memory.py`
(`Py65/Gen/ObsMemGen.lean`).  Each follows from its hand-model
counterpart by rewriting with the equalities of `Py65/Proofs/ObsMemGenEq.lean` (which are what a
change of `memory.py` breaks).

Dictionary (generated ↔ hand model):
`ObsMemGen.getitem_int/_slice` ↔ `get/getSlice`, `ObsMemGen.setitem_int/_slice` ↔ `set/setSlice`,
`ObsMemGen.subscribe_to_read/_write` ↔ `subscribeRead/Write`, `ObsMemGen.write` ↔ `write`,
`ObsMemGenEq.initOf w cells` = generated `__init__` applied to a backing list `cells` of the
default length, `ObsMemGenEq.run` = a history performed with the generated methods.
(`subscribe_idempotent_hist` of C10 is a statement about the Spec only and is not repeated.)
-/
import Py65.Props.C10
import Py65.Proofs.ObsMemGenEq

namespace Py65.Props.C10g
open Py65 Py65.Gen Py65.Proofs Py65.Spec.ObsMem
open Py65.Model.ObsMem (Reply OM Op Ev sliceIndices)
open Py65.Proofs.ObsMemGenEq (init_eq run_eq getitem_int_eq setitem_int_eq getitem_slice_eq
  setitem_slice_eq subscribe_to_read_eq subscribe_to_write_eq write_eq)

/-- `subs_spec` for the generated `__init__`, `subscribe_to_read/_write` (and every other
generated method, through `run`): after ANY history the subscriber lists are exactly the Spec's. -/
theorem subs_spec (reply : Reply) (w : Int) (cells : Int → Int) (hist : List Op) (a : Int) :
    let m := ObsMemGenEq.run reply (ObsMemGenEq.initOf w cells) hist
    m.physMask = (if w > 16 then 0x3ffff else 0xffff) ∧
    m.rsubs.of a = subscribers .read m.physMask hist a ∧
    m.wsubs.of a = subscribers .write m.physMask hist a ∧
    (subscribers .read m.physMask hist a).Nodup ∧ (subscribers .write m.physMask hist a).Nodup ∧
    (∀ cb, cb ∈ subscribers .read m.physMask hist a ↔
        ∃ addrs, Op.subR addrs cb ∈ hist ∧ ∃ x ∈ addrs, phys m.physMask x = a) ∧
    (∀ cb, cb ∈ subscribers .write m.physMask hist a ↔
        ∃ addrs, Op.subW addrs cb ∈ hist ∧ ∃ x ∈ addrs, phys m.physMask x = a) := by
  rw [run_eq, init_eq]
  exact C10.subs_spec reply w cells hist a

/-- non-vacuity (generated definitions evaluated by the kernel): callback 1 registered through an
alias and a negative address, callback 2 in between, callback 1 again: the generated memory holds
`[1, 2]` for cell 5, nothing for cell 4's write side. -/
example :
    let m := ObsMemGenEq.run (fun _ _ _ _ => none) (ObsMemGenEq.initOf 16 fun _ => 7)
      [.subR [5, 65541, -65531] 1, .subW [5] 9, .subR [4, 5] 2, .subR [5] 1, .set 5 3]
    m.rsubs.of 5 = [1, 2] ∧ m.wsubs.of 5 = [9] ∧ m.wsubs.of 4 = [] ∧ m.physMask = 0xffff := by
  decide +kernel

/-- `get_calls` for the generated `__getitem__` (int index). -/
theorem get_calls (reply : Reply) (w : Int) (cells : Int → Int) (hist : List Op) (a : Int) :
    let m := ObsMemGenEq.run reply (ObsMemGenEq.initOf w cells) hist
    let p := phys m.physMask a
    let subs := subscribers .read m.physMask hist p
    let r := ObsMemGen.getitem_int reply m a
    subs.Nodup ∧
    r.2.log = m.log ++ subs.map (fun cb => { cb := cb, addr := p, val := none }) ∧
    r.1 = (lastSome (readReplies reply subs m.log.length p)).getD (m.subject p) ∧
    r.2.subject = m.subject ∧ r.2.subjLen = m.subjLen ∧ r.2.rsubs = m.rsubs ∧ r.2.wsubs = m.wsubs ∧
    r.2.physMask = m.physMask := by
  rw [run_eq, init_eq, getitem_int_eq]
  exact C10.get_calls reply w cells hist a

/-- non-vacuity, and "0 is a value": subscribers `[1, 2, 3]` of cell 5 (content 7) answer
`some 9`, `some 0`, `none`: the generated read returns 0 after exactly three calls in order. -/
example :
    let reply : Reply := fun cb _ _ _ => if cb = 1 then some 9 else if cb = 2 then some 0 else none
    let m := ObsMemGenEq.run reply (ObsMemGenEq.initOf 16 fun _ => 7)
      [.subR [5] 1, .subR [65541] 2, .subR [5, 5] 3, .subR [5] 2]
    (ObsMemGen.getitem_int reply m (-65531)).1 = 0 ∧
    (ObsMemGen.getitem_int reply m (-65531)).2.log = [⟨1, 5, none⟩, ⟨2, 5, none⟩, ⟨3, 5, none⟩] := by
  decide +kernel

/-- `set_chain` for the generated `__setitem__` (int index). -/
theorem set_chain (reply : Reply) (w : Int) (cells : Int → Int) (hist : List Op) (a v : Int) :
    let m := ObsMemGenEq.run reply (ObsMemGenEq.initOf w cells) hist
    let p := phys m.physMask a
    let subs := subscribers .write m.physMask hist p
    let m' := ObsMemGen.setitem_int reply m a v
    subs.Nodup ∧
    m'.log = m.log ++ (List.range subs.length).map (fun i =>
      { cb := subs.getD i 0, addr := p, val := some (seen reply subs m.log.length p v i) }) ∧
    m'.subject = upd m.subject p (seen reply subs m.log.length p v subs.length) ∧
    m'.subjLen = m.subjLen ∧ m'.rsubs = m.rsubs ∧ m'.wsubs = m.wsubs ∧ m'.physMask = m.physMask := by
  rw [run_eq, init_eq, setitem_int_eq]
  exact C10.set_chain reply w cells hist a v

/-- non-vacuity: write subscribers `[1, 2, 3]` of cell 5; 1 answers `None`, 2 doubles the value,
3 answers `0`: they are shown 21, 21, 42 and 0 is stored; cell 6 keeps its 7. -/
example :
    let reply : Reply := fun cb _ _ v =>
      if cb = 1 then none else if cb = 2 then v.map (· * 2) else some 0
    let m := ObsMemGenEq.run reply (ObsMemGenEq.initOf 32 fun _ => 7)
      [.subW [5] 1, .subW [5 + 0x40000] 2, .subW [5] 3, .subW [5] 1]
    (ObsMemGen.setitem_int reply m 5 21).log = [⟨1, 5, some 21⟩, ⟨2, 5, some 21⟩, ⟨3, 5, some 42⟩] ∧
    (ObsMemGen.setitem_int reply m 5 21).subject 5 = 0 ∧
    (ObsMemGen.setitem_int reply m 5 21).subject 6 = 7 := by
  decide +kernel

/-- `no_subs_silent` for the generated item access. -/
theorem no_subs_silent (reply : Reply) (w : Int) (cells : Int → Int) (hist : List Op) (a : Int) :
    let m := ObsMemGenEq.run reply (ObsMemGenEq.initOf w cells) hist
    let p := phys m.physMask a
    ((∀ addrs cb, Op.subR addrs cb ∈ hist → ∀ x ∈ addrs, phys m.physMask x ≠ p) →
        ObsMemGen.getitem_int reply m a = (m.subject p, m)) ∧
    ((∀ addrs cb, Op.subW addrs cb ∈ hist → ∀ x ∈ addrs, phys m.physMask x ≠ p) →
        ∀ v, ObsMemGen.setitem_int reply m a v = { m with subject := upd m.subject p v }) := by
  rw [run_eq, init_eq, getitem_int_eq, setitem_int_eq]
  exact C10.no_subs_silent reply w cells hist a

/-- non-vacuity: subscribers on cells 4 and 6, none on 5: reading / writing 5 logs nothing
although every callback would answer 99. -/
example :
    let reply : Reply := fun _ _ _ _ => some 99
    let m := ObsMemGenEq.run reply (ObsMemGenEq.initOf 16 fun _ => 7) [.subR [4, 6] 1, .subW [4, 6, 65540] 2]
    (ObsMemGen.getitem_int reply m 5).1 = 7 ∧ (ObsMemGen.getitem_int reply m 5).2.log = [] ∧
    (ObsMemGen.setitem_int reply m 5 3).log = [] ∧ (ObsMemGen.setitem_int reply m 5 3).subject 5 = 3 ∧
    (ObsMemGen.getitem_int reply m 4).1 = 99 := by
  decide +kernel

/-- `subscribe_idempotent` for the generated `subscribe_to_read/_write`. -/
theorem subscribe_idempotent (m : OM) (addrs : List Int) (cb : Nat) :
    ((∀ x ∈ addrs, cb ∈ m.rsubs.of (Py.land x m.physMask)) → ObsMemGen.subscribe_to_read m addrs cb = m) ∧
    ((∀ x ∈ addrs, cb ∈ m.wsubs.of (Py.land x m.physMask)) → ObsMemGen.subscribe_to_write m addrs cb = m) ∧
    ObsMemGen.subscribe_to_read (ObsMemGen.subscribe_to_read m addrs cb) addrs cb =
      ObsMemGen.subscribe_to_read m addrs cb ∧
    ObsMemGen.subscribe_to_write (ObsMemGen.subscribe_to_write m addrs cb) addrs cb =
      ObsMemGen.subscribe_to_write m addrs cb := by
  rw [subscribe_to_read_eq, subscribe_to_write_eq]
  exact C10.subscribe_idempotent m addrs cb

/-- non-vacuity: the second, identical subscription adds no second call. -/
example :
    let reply : Reply := fun _ _ _ _ => none
    let m := ObsMemGenEq.run reply (ObsMemGenEq.initOf 16 fun _ => 7)
      [.subR [5, 6, 5] 1, .subR [5, 6, 5] 1, .subR [65541] 1]
    (ObsMemGen.getitem_int reply m 5).2.log = [⟨1, 5, none⟩] ∧ m.rsubs.of 6 = [1] := by
  decide +kernel

/-- `slice_elementwise` for the generated `__getitem__` / `__setitem__` with a slice index. -/
theorem slice_elementwise (reply : Reply) (m : OM) (hm : WF m) (start stop step : Option Int) :
    (step = some 0 →
        ObsMemGen.getitem_slice reply m ⟨start, stop, step⟩ = none ∧
        ∀ vals, ObsMemGen.setitem_slice reply m ⟨start, stop, step⟩ vals = none) ∧
    (step ≠ some 0 → ∃ idx,
        sliceIndices (m.physMask + 1) start stop step = some idx ∧
        (∀ i ∈ idx, 0 ≤ i ∧ i ≤ m.physMask) ∧
        ObsMemGen.getitem_slice reply m ⟨start, stop, step⟩ =
          some (idx.foldl (fun (acc : List Int × OM) n =>
                  (acc.1 ++ [(ObsMemGen.getitem_int reply acc.2 n).1],
                   (ObsMemGen.getitem_int reply acc.2 n).2)) ([], m)) ∧
        (∀ vals, ObsMemGen.setitem_slice reply m ⟨start, stop, step⟩ vals =
          some ((idx.zip vals).foldl (fun m p => ObsMemGen.setitem_int reply m p.1 p.2) m))) ∧
    (∀ s e, 0 ≤ s → s ≤ e → e ≤ m.physMask + 1 →
        sliceIndices (m.physMask + 1) (some s) (some e) none =
          some ((List.range (e - s).toNat).map fun (i : Nat) => s + (i : Int))) := by
  simp only [getitem_slice_eq, setitem_slice_eq, getitem_int_eq, setitem_int_eq]
  exact C10.slice_elementwise reply m hm start stop step

/-- non-vacuity: `mem[7:3:-2]` with a read subscriber on 5 calls it once; a slice write with too
few values stops early; step 0 is a `ValueError` (generated definitions). -/
example :
    let reply : Reply := fun _ _ _ _ => some 1
    let m := ObsMemGenEq.run reply (ObsMemGenEq.initOf 16 fun a => a) [.subR [5] 1]
    (ObsMemGen.getitem_slice reply m ⟨some 7, some 3, some (-2)⟩).map (·.1) = some [7, 1] ∧
    (ObsMemGen.getitem_slice reply m ⟨some 7, some 3, some (-2)⟩).map (·.2.log) = some [⟨1, 5, none⟩] ∧
    (ObsMemGen.setitem_slice reply m ⟨some 2, some 6, none⟩ [10, 11]).map
        (fun m' => (m'.subject 2, m'.subject 3, m'.subject 4)) = some (10, 11, 4) ∧
    (ObsMemGen.getitem_slice reply m ⟨none, none, some 0⟩).isNone := by
  decide +kernel

/-- `bulk_write_silent` for the generated `write`. -/
theorem bulk_write_silent (reply : Reply) (w : Int) (cells : Int → Int) (hist : List Op)
    (start : Int) (bytes : List Int) :
    let m := ObsMemGenEq.run reply (ObsMemGenEq.initOf w cells) hist
    let s := phys m.physMask start
    let m' := ObsMemGen.write m start bytes
    m'.log = m.log ∧ m'.rsubs = m.rsubs ∧ m'.wsubs = m.wsubs ∧ m'.physMask = m.physMask ∧
    (∀ i : Nat, i < bytes.length → m'.subject (s + i) = bytes.getD i 0) ∧
    (∀ k, k < s ∨ s + bytes.length ≤ k → m'.subject k = m.subject k) ∧
    m'.subjLen = max m.subjLen (s + bytes.length) := by
  rw [run_eq, init_eq, write_eq]
  exact C10.bulk_write_silent reply w cells hist start bytes

/-- non-vacuity: subscribers on cells 5 and 6 would answer 99; the generated bulk write over them
logs nothing and stores the bytes; at the last cell it runs past the end (no wrap-around). -/
example :
    let reply : Reply := fun _ _ _ _ => some 99
    let m := ObsMemGenEq.run reply (ObsMemGenEq.initOf 16 fun _ => 7) [.subR [5, 6] 1, .subW [5, 6] 2]
    (ObsMemGen.write m (5 + 0x10000) [1, 2, 3]).log = [] ∧
    (ObsMemGen.write m (5 + 0x10000) [1, 2, 3]).subject 6 = 2 ∧
    (ObsMemGen.write m 0xffff [1, 2, 3]).subjLen = 0x10002 ∧ (ObsMemGen.write m 0xffff [1, 2, 3]).subject 0 = 7 ∧
    (ObsMemGen.write m 0xffff [1, 2, 3]).subject 0x10001 = 3 := by
  decide +kernel

/-- The generated `__init__` with its default `subject=None`: a memory of `physMask + 1` zero
cells, no subscribers, empty call log (the state `subs_spec … []` starts from, with `cells = 0`). -/
theorem init_default (w : Int) :
    ObsMemGen.init ObsMemGen.init.default_1 w = ObsMemGenEq.initOf w (fun _ => 0) ∧
    ObsMemGen.init.default_2 = 16 := by
  rw [ObsMemGenEq.init_defaults.1, ObsMemGenEq.init_none_eq, init_eq]
  exact ⟨rfl, ObsMemGenEq.init_defaults.2⟩

/-- non-vacuity: `ObservableMemory()` is the 64 K memory of zeros. -/
example :
    (ObsMemGen.init ObsMemGen.init.default_1 ObsMemGen.init.default_2).physMask = 0xffff ∧
    (ObsMemGen.init ObsMemGen.init.default_1 ObsMemGen.init.default_2).subjLen = 0x10000 ∧
    (ObsMemGen.init ObsMemGen.init.default_1 ObsMemGen.init.default_2).subject 0x1234 = 0 := by
  decide +kernel

end Py65.Props.C10g
