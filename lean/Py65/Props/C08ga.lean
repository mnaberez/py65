/-
C08ga -- the round-trip theorems of C08 restated for the GENERATED assembler.

`Py65.Gen.AsmGen.assemble` is written by `harness/py2lean_asm.py` from the CURRENT `py65/assembler.py` on
every run; `assembleG` is that function with its outcome in the hand model's result type and
`Py65/Proofs/AsmGenEq.lean` proves `assembleG d P s pc = Model.Asm.assembleL d P s pc` for all arguments.
The disassembler side is still the hand model `Py65.Model.Disasm` (tied by C09 / C08's correspondence).
-/
import Py65.Props.C08
import Py65.Proofs.AsmGenEq

namespace Py65.Props.C08ga
open Py65.Model Py65.Model.PyStr Py65.Model.AddrParser Py65.Model.Asm Py65.Model.Disasm
open Py65.Proofs.Asm Py65.Proofs.AsmGenEq
open Py65.Spec (Mode Mn Variant decode)
open Py65.Spec.Asm (instrBytes)

variable {d : Dev} {v : Variant} {W : Nat}

/-- `C08.roundtrip` with the generated `assemble` re-assembling the text. -/
theorem roundtrip (hd : IsDevice d v W) {P : Parser} (hg : GoodLabels P W) (mem : Int → Int) (pc : Int)
    (n : Nat) (hn : n < 256) (hop : byteAt d mem pc = (n : Int)) (mn : Mn) (mo : Mode)
    (hdec : decode v (n : Int) = some (mn, mo))
    (hb1 : 0 ≤ byteAt d mem (pc + 1) ∧ byteAt d mem (pc + 1) < 2 ^ W)
    (hb2 : 0 ≤ byteAt d mem (pc + 2) ∧ byteAt d mem (pc + 2) < 2 ^ W)
    (hfit : pc + mo.len ≤ 2 ^ (2 * W)) :
    ∃ text r, instructionAt d P mem pc = .ok mo.len.toNat text ∧ assembleG d P text pc = .ok r ∧
      RoundTrip v mn mo n (byteAt d mem (pc + 1)) (byteAt d mem (pc + 2)) r := by
  obtain ⟨text, r, h1, h2, h3⟩ := C08.roundtrip hd hg mem pc n hn hop mn mo hdec hb1 hb2 hfit
  exact ⟨text, r, h1, by rw [assembleG_eq]; exact h2, h3⟩

/-- `roundtrip_exact` with the generated assembler. -/
theorem roundtrip_exact (hd : IsDevice d v W) {P : Parser} (hg : GoodLabels P W) (mem : Int → Int) (pc : Int)
    (n : Nat) (hn : n < 256) (hop : byteAt d mem pc = (n : Int)) (mn : Mn) (mo : Mode)
    (hdec : decode v (n : Int) = some (mn, mo))
    (hb1 : 0 ≤ byteAt d mem (pc + 1) ∧ byteAt d mem (pc + 1) < 2 ^ W)
    (hb2 : 0 ≤ byteAt d mem (pc + 2) ∧ byteAt d mem (pc + 2) < 2 ^ W)
    (hfit : pc + mo.len ≤ 2 ^ (2 * W))
    (hnt : zpTwin mo = none ∨ byteAt d mem (pc + 2) ≠ 0) :
    ∃ text, instructionAt d P mem pc = .ok mo.len.toNat text ∧
      assembleG d P text pc =
        .ok (instrBytes mo n (byteAt d mem (pc + 1)) (byteAt d mem (pc + 2))) := by
  obtain ⟨text, h1, h2⟩ := C08.roundtrip_exact hd hg mem pc n hn hop mn mo hdec hb1 hb2 hfit hnt
  exact ⟨text, h1, by rw [assembleG_eq]; exact h2⟩

-- non-vacuity: concrete round trips, the generated assembler evaluated by the kernel
example : instructionAt dev6502 C08.exP (C08.memOf 0x300 0xbd 0x34 0x12) 0x300 = .ok 3 "LDA loop,X".toList ∧
    assembleG dev6502 C08.exP "LDA loop,X".toList 0x300 = .ok [0xbd, 0x34, 0x12] := by decide +kernel
example : instructionAt dev6502 C08.exP (C08.memOf 0x0 0xd0 0xee 0) 0x0 = .ok 2 "BNE top".toList ∧
    assembleG dev6502 C08.exP "BNE top".toList 0x0 = .ok [0xd0, 0xee] := by decide +kernel

/-- An instruction that straddles the top of memory is refused by the generated assembler with
`OverflowError`, as C07 demands of code running past the top. -/
theorem roundtrip_past_top :
    instructionAt dev6502 ⟨16, 16, []⟩ (C08.memOf 0xffff 0xa9 0x42 0) 0xffff = .ok 2 "LDA #$42".toList ∧
    assembleG dev6502 ⟨16, 16, []⟩ "LDA #$42".toList 0xffff = .overflow := by decide +kernel

end Py65.Props.C08ga
