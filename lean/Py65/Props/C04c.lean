/-
C04c -- what the Spec of C04 MEANS for SBC, and which part of `C04.cmos_acv` is definitional
(third C04 file, own namespace `Py65.Props.C04c`; it speaks of `Spec/Decimal.lean` only).

`C04.valid_bcd_is_decimal_sum` says that on valid BCD operands Clark's NMOS ADC sequence computes the
two-digit decimal sum with decimal carry.  The counterpart for SBC:

* `valid_bcd_is_decimal_difference`        NMOS Seq. 3: for valid BCD `A`, `M` and carry-in `c` (borrow = `¬c`)
      the accumulator is the two-digit decimal difference `A - M - borrow` modulo 100 and the carry-out is
      "no decimal borrow";
* `valid_bcd_is_decimal_difference_cmos`   the same for the 65C02 sequence (Seq. 4), which computes the same
      accumulator on valid BCD (`seq3_eq_seq4`);
Both also state that the result is valid BCD again (so `bcdVal` really reads two decimal digits).

NOTE on `C04.cmos_acv` (six conjuncts: A, C, V of ADC and of SBC, NMOS sequence = 65C02 sequence on valid
BCD).  `Spec.Decimal.adcCmos` IS `adcNmos` with only `n` and `z` overridden, and `sbcCmos` takes `c` and `v`
(and nothing else that `cmos_acv` mentions) from `sbcNmos`; so FIVE of the six conjuncts hold by definition,
for ALL operands, valid BCD or not -- they say nothing beyond "the Spec was written that way"
(`cmos_acv_definitional_part` below makes that explicit: proof by `rfl`).  The one conjunct with content is
the SBC ACCUMULATOR: Clark's Seq. 3 (NMOS) and Seq. 4 (65C02) are different computations that agree on
valid BCD (`cmos_acv`'s fourth conjunct) and differ outside (`sbc_sequences_differ_off_bcd`).  That the REAL
65C02 class matches is not carried by `cmos_acv` at all but by `C04.nmos_adc` / `nmos_sbc` (generated code =
NMOS sequences on all 2 x 2^17 triples; the 65C02 inherits that code) and by the recorded N/Z finding.
-/
import Py65.Spec.Decimal
import Mathlib.Tactic.SplitIfs

namespace Py65.Props.C04c
open Py65.Spec.Decimal

/-- A valid BCD byte from its two decimal digits (as `C04.bcd`). -/
def bcd (h l : Fin 10) : Int := Int.ofNat (16 * h.val + l.val)

/-- The two decimal digits of `bcd h l`, as integers. -/
theorem bcd_digits (h l : Fin 10) :
    ∃ H L : Int, (0 ≤ H ∧ H ≤ 9) ∧ (0 ≤ L ∧ L ≤ 9) ∧ H = h.val ∧ L = l.val ∧
      bcd h l = 16 * H + L ∧ bcd h l / 16 = H ∧ bcd h l % 16 = L := by
  refine ⟨h.val, l.val, by omega, by omega, rfl, rfl, ?_⟩
  simp only [bcd, Int.ofNat_eq_natCast]
  omega

/-- Every `bcd h l` is valid BCD, with decimal value `10 h + l`. -/
theorem bcd_valid : ∀ h l : Fin 10, validBcd (bcd h l) = true ∧ bcdVal (bcd h l) = 10 * h.val + l.val := by
  intro h l
  obtain ⟨H, L, hH, hL, eH, eL, -, ed, em⟩ := bcd_digits h l
  simp only [validBcd, bcdVal, ed, em, decide_eq_true_eq, ← eH, ← eL]
  omega

/-- **What the Spec means for SBC (NMOS, Seq. 3)**: on valid BCD operands the result is valid BCD and is the
two-digit decimal difference; carry-out clear = a decimal borrow occurred (100 was added). -/
theorem valid_bcd_is_decimal_difference : ∀ ah al mh ml : Fin 10, ∀ c : Bool,
    validBcd (sbcNmos (bcd ah al) (bcd mh ml) c).a = true ∧
    bcdVal (sbcNmos (bcd ah al) (bcd mh ml) c).a - (if (sbcNmos (bcd ah al) (bcd mh ml) c).c then 0 else 100) =
      bcdVal (bcd ah al) - bcdVal (bcd mh ml) - (if c then 0 else 1) := by
  intro ah al mh ml c
  obtain ⟨ah, al, hah, hal, -, -, ea, eah, eal⟩ := bcd_digits ah al
  obtain ⟨mh, ml, hmh, hml, -, -, em, emh, eml⟩ := bcd_digits mh ml
  have hbi : (if c then (0 : Int) else 1) = 0 ∨ (if c then (0 : Int) else 1) = 1 := by
    cases c <;> simp
  simp only [sbcNmos, validBcd, bcdVal, eah, eal, emh, eml, decide_eq_true_eq]
  rw [ea, em]
  generalize (if c then (0 : Int) else 1) = bi at *
  -- the sequence and the claim only look at the two digit differences
  have e1 : 16 * ah + al - (16 * mh + ml) - bi = 16 * (ah - mh) + (al - ml - bi) := by omega
  have e2 : ah * 10 + al - (mh * 10 + ml) - bi = 10 * (ah - mh) + (al - ml - bi) := by omega
  have e3 : ah * 16 - mh * 16 = 16 * (ah - mh) := by omega
  have hd0 : -10 ≤ al - ml - bi ∧ al - ml - bi ≤ 9 := by omega
  have hd1 : -9 ≤ ah - mh ∧ ah - mh ≤ 9 := by omega
  rw [e1, e2, e3]
  generalize al - ml - bi = d0 at hd0 ⊢
  generalize ah - mh = d1 at hd1 ⊢
  clear e1 e2 e3 ea em hah hal hmh hml hbi
  -- with these bounds every `%` is a fixed shift on each branch
  split_ifs <;> omega

/-- On valid BCD Seq. 3 and Seq. 4 compute the same accumulator (the one conjunct of `C04.cmos_acv`
with content). -/
theorem seq3_eq_seq4 (ah al mh ml : Fin 10) (c : Bool) :
    (sbcNmos (bcd ah al) (bcd mh ml) c).a = (sbcCmos (bcd ah al) (bcd mh ml) c).a := by
  obtain ⟨ah, al, hah, hal, -, -, ea, eah, eal⟩ := bcd_digits ah al
  obtain ⟨mh, ml, hmh, hml, -, -, em, emh, eml⟩ := bcd_digits mh ml
  have hbi : (if c then (0 : Int) else 1) = 0 ∨ (if c then (0 : Int) else 1) = 1 := by
    cases c <;> simp
  simp only [sbcNmos, sbcCmos, eah, eal, emh, eml]
  rw [ea, em]
  generalize (if c then (0 : Int) else 1) = bi at *
  have e1 : 16 * ah + al - (16 * mh + ml) - bi = 16 * (ah - mh) + (al - ml - bi) := by omega
  have e3 : ah * 16 - mh * 16 = 16 * (ah - mh) := by omega
  have hd0 : -10 ≤ al - ml - bi ∧ al - ml - bi ≤ 9 := by omega
  have hd1 : -9 ≤ ah - mh ∧ ah - mh ≤ 9 := by omega
  rw [e1, e3]
  generalize al - ml - bi = d0 at hd0 ⊢
  generalize ah - mh = d1 at hd1 ⊢
  clear e1 e3 ea em hah hal hmh hml hbi
  split_ifs <;> omega

/-- The same for the 65C02 sequence (Seq. 4). -/
theorem valid_bcd_is_decimal_difference_cmos : ∀ ah al mh ml : Fin 10, ∀ c : Bool,
    validBcd (sbcCmos (bcd ah al) (bcd mh ml) c).a = true ∧
    bcdVal (sbcCmos (bcd ah al) (bcd mh ml) c).a - (if (sbcCmos (bcd ah al) (bcd mh ml) c).c then 0 else 100) =
      bcdVal (bcd ah al) - bcdVal (bcd mh ml) - (if c then 0 else 1) := by
  intro ah al mh ml c
  rw [← seq3_eq_seq4]
  exact valid_bcd_is_decimal_difference ah al mh ml c

/-- Five of the six conjuncts of `C04.cmos_acv` hold by definition of the Spec, for ALL operands. -/
theorem cmos_acv_definitional_part (a b : Int) (c : Bool) :
    (adcNmos a b c).a = (adcCmos a b c).a ∧ (adcNmos a b c).c = (adcCmos a b c).c ∧
    (adcNmos a b c).v = (adcCmos a b c).v ∧
    (sbcNmos a b c).c = (sbcCmos a b c).c ∧ (sbcNmos a b c).v = (sbcCmos a b c).v :=
  ⟨rfl, rfl, rfl, rfl, rfl⟩

/-- The sixth (SBC accumulator) is not: Seq. 3 and Seq. 4 differ outside valid BCD, e.g. `$00 - $0F` with
carry set gives `$9B` on the NMOS sequence and `$8B` on the 65C02 sequence. -/
theorem sbc_sequences_differ_off_bcd :
    (sbcNmos 0x00 0x0F true).a = 0x9B ∧ (sbcCmos 0x00 0x0F true).a = 0x8B := by decide +kernel

/-- non-vacuity / reading aid: `$42 - $17` = `$25`, no borrow; `$12 - $21` = `$91` with borrow;
`$00 - $00` with borrow-in = `$99` with borrow. -/
example : (sbcNmos 0x42 0x17 true).a = 0x25 ∧ (sbcNmos 0x42 0x17 true).c = true ∧
    (sbcNmos 0x12 0x21 true).a = 0x91 ∧ (sbcNmos 0x12 0x21 true).c = false ∧
    (sbcNmos 0x00 0x00 false).a = 0x99 ∧ (sbcNmos 0x00 0x00 false).c = false ∧
    bcd 4 2 = 0x42 ∧ bcdVal 0x91 = 91 := by decide +kernel

end Py65.Props.C04c
