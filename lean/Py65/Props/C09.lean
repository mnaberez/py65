/-
C09 -- The disassembler is total and agrees with what the device actually executes.

About the hand model `Py65.Model.Disasm.instructionAt` of `py65/disassembler.py` on the three device records built from
the GENERATED tables (`DevOK` instances in Proofs/AsmTables.lean: a change of a device's
`disassemble` table, widths or formats breaks them).  Memory is an arbitrary total function
(`mem : Int → Int`): "any memory contents" is literally quantified; `byteAt` reduces every address
modulo the address space, as a memory that spans the address space does (ObservableMemory under
the monitor).  The opcode cell is in `0 … 255` (the quantifier of C09; a 65Org16 cell above 255 is
`DRes.index`, see `dis_opcode_cell_above_255`).

Execution is the programming model `Spec.step` (the oracle of C01-C03, which tie it to the
translated device code): `dis_len_eq_exec`, `dis_branch_taken`, `dis_jmp_jsr`.
-/
import Py65.Proofs.AsmRound
import Py65.Spec.Cpu

namespace Py65.Props.C09
open Py65.Model Py65.Model.PyStr Py65.Model.AddrParser Py65.Model.Asm Py65.Model.Disasm
open Py65.Proofs.Asm
open Py65.Spec (Mode Mn Variant decode AState)
open Py65.Spec.Asm (mnText)

/-- `dis_total`: for every device, any memory contents, any address (in or out of range, e.g. the
last one) and any label table, disassembling an opcode byte returns -- never raises -- and
reports a length from 1 to 3. -/
theorem dis_total {d : Dev} {v : Variant} {W : Nat} (hd : IsDevice d v W) (P : Parser) (mem : Int → Int)
    (pc : Int) (hop : 0 ≤ byteAt d mem pc ∧ byteAt d mem pc < 256) :
    ∃ n t, instructionAt d P mem pc = .ok n t ∧ 1 ≤ n ∧ n ≤ 3 := by
  rw [dis_spec hd.ok P mem pc hop]
  cases decode v (byteAt d mem pc) with
  | none => exact ⟨1, _, rfl, by decide, by decide⟩
  | some r =>
    obtain ⟨mn, mo⟩ := r
    refine ⟨_, _, rfl, ?_, ?_⟩ <;> cases mo <;> decide

example : ∃ n t, instructionAt dev6502 ⟨16, 16, []⟩ (fun a => if a = 0xffff then 0xad else 0x12) 0xffff
    = .ok n t ∧ 1 ≤ n ∧ n ≤ 3 :=
  dis_total .d6502 _ _ _ (by decide +kernel)
example : instructionAt dev6502 ⟨16, 16, []⟩ (fun a => if a = 0xffff then 0xad else 0x12) 0xffff
    = .ok 3 "LDA $1212".toList := by decide +kernel

/-- `dis_len`: for every declared opcode the reported length is the documented instruction
length `Mode.len` of the decoded instruction (`Spec/Isa.lean`), whatever the operands, the address
and the labels. -/
theorem dis_len {d : Dev} {v : Variant} {W : Nat} (hd : IsDevice d v W) (P : Parser) (mem : Int → Int)
    (pc : Int) (hop : 0 ≤ byteAt d mem pc ∧ byteAt d mem pc < 256) (mn : Mn) (mo : Mode)
    (hdec : decode v (byteAt d mem pc) = some (mn, mo)) :
    ∃ t, instructionAt d P mem pc = .ok mo.len.toNat t := by
  rw [dis_spec hd.ok P mem pc hop, hdec]
  exact ⟨_, rfl⟩

example : decode .cmos 0x7c = some (.JMP, .iax) := by decide +kernel

/-- An opcode byte the device does not declare is shown as `???` with length 1. -/
theorem dis_undeclared {d : Dev} {v : Variant} {W : Nat} (hd : IsDevice d v W) (P : Parser)
    (mem : Int → Int) (pc : Int) (hop : 0 ≤ byteAt d mem pc ∧ byteAt d mem pc < 256)
    (hdec : decode v (byteAt d mem pc) = none) :
    instructionAt d P mem pc = .ok 1 ['?', '?', '?'] := by
  rw [dis_spec hd.ok P mem pc hop, hdec]

example : decode .nmos 0x02 = none := by decide +kernel

/-- Outside the quantifier of C09 (opcode BYTE `0 … 255`): on the 65Org16 a cell above 255 at the
disassembled address is an `IndexError` of `mpu.disassemble[instruction]`. -/
theorem dis_opcode_cell_above_255 :
    instructionAt dev65org16 ⟨32, 16, []⟩ (fun _ => 0x1234) 0 = .index := by decide +kernel

/-- Mnemonics that transfer control (their next PC is not "address + length"). -/
def isControl : Mn → Bool
  | .BCC | .BCS | .BEQ | .BMI | .BNE | .BPL | .BVC | .BVS | .BRA
  | .JMP | .JSR | .RTS | .RTI | .BRK => true
  | _ => false

/-- Well-formed execution state for the comparison: running, PC inside the address space, opcode
cell a byte. -/
structure Runs (W : Nat) (s : AState) : Prop where
  running : s.waiting = false
  pc0 : 0 ≤ s.pc
  pc1 : s.pc < 2 ^ (2 * W)
  op0 : 0 ≤ s.mem s.pc
  op1 : s.mem s.pc < 256

private theorem byteAt_pc {d : Dev} {v : Variant} {W : Nat} (h : DevOK d v W) (s : AState)
    (p0 : 0 ≤ s.pc) (p1 : s.pc < 2 ^ (2 * W)) : byteAt d s.mem s.pc = s.mem s.pc := by
  rw [byteAt_eq h, Int.emod_eq_of_lt p0 p1]

private theorem instructionAt_runs {d : Dev} {v : Variant} {W : Nat} (hd : IsDevice d v W) (P : Parser) {s : AState}
    (hs : Runs W s) {mn : Mn} {mo : Mode} (hdec : decode v (s.mem s.pc) = some (mn, mo)) :
    instructionAt d P s.mem s.pc =
      .ok mo.len.toNat (disText d P W (mnText mn) mo s.pc (byteAt d s.mem (s.pc + 1)) (wordAt d s.mem (s.pc + 1))) := by
  have hb := byteAt_pc hd.ok s hs.pc0 hs.pc1
  rw [dis_spec hd.ok P s.mem s.pc (by rw [hb]; exact ⟨hs.op0, hs.op1⟩), hb, hdec]

private theorem step_runs {v : Variant} {W : Nat} {s : AState} (hs : Runs W s) {mn : Mn} {mo : Mode}
    (hdec : decode v (s.mem s.pc) = some (mn, mo)) :
    Py65.Spec.step W v s = Py65.Spec.exec W v mn mo { s with pc := (s.pc + 1) % Py65.Spec.AM W } := by
  unfold Py65.Spec.step
  rw [hs.running]
  simp only [Bool.false_eq_true, if_false, hdec]

/-- every mnemonic that does not transfer control leaves PC after its operand bytes: plainly, or (BIT,
the shifts, arithmetic, pulls) in each branch of its inner case distinction -/
private theorem exec_pc (W : Nat) (v : Variant) (mn : Mn) (mo : Mode) (s : AState)
    (hnc : isControl mn = false) : (Py65.Spec.exec W v mn mo s).pc = Py65.Spec.nextPc W mo s := by
  cases mn <;> first
    | rfl
    | exact absurd hnc (by decide)
    | (simp only [Py65.Spec.exec]; split <;> rfl)

/-- `dis_len_eq_exec`: for every declared opcode that does not transfer control, the length the
disassembler reports is exactly the number of bytes by which executing the instruction advances
PC (modulo the address space: at the top of memory PC wraps to 0), for every register state and
memory. -/
theorem dis_len_eq_exec {d : Dev} {v : Variant} {W : Nat} (hd : IsDevice d v W) (P : Parser) (s : AState)
    (hs : Runs W s) (mn : Mn) (mo : Mode) (hdec : decode v (s.mem s.pc) = some (mn, mo))
    (hnc : isControl mn = false) :
    ∃ n t, instructionAt d P s.mem s.pc = .ok n t ∧
      (Py65.Spec.step W v s).pc = (s.pc + n) % 2 ^ (2 * W) := by
  refine ⟨_, _, instructionAt_runs hd P hs hdec, ?_⟩
  rw [step_runs hs hdec]
  have hlen : (mo.len.toNat : Int) = mo.len := by cases mo <;> rfl
  rw [hlen, exec_pc W v mn mo _ hnc]
  show ((s.pc + 1) % 2 ^ (2 * W) + (mo.len - 1)) % 2 ^ (2 * W) = _
  rw [Int.emod_add_emod]
  congr 1
  omega

example : Runs 8 { a := 0, x := 0, y := 0, sp := 0xff, p := 0x30, pc := 0xffff, mem := fun _ => 0xa9,
                   waiting := false } := ⟨rfl, by decide, by decide, by decide, by decide⟩
example : decode .nmos 0xa9 = some (.LDA, .imm) ∧ isControl .LDA = false := by decide +kernel

/-- The displayed branch target is `(address + 2 + signed displacement) mod 2^AW`. -/
theorem dis_branch_target {d : Dev} {v : Variant} {W : Nat} (hd : IsDevice d v W) (pc b : Int)
    (hb : 0 ≤ b ∧ b < 2 ^ W) :
    relTarget d pc b = (pc + 2 + Py65.Spec.signed W b) % 2 ^ (2 * W) :=
  relTarget_eq hd.ok pc b hb

/-- `dis_branch_taken`: for every relative branch, whatever the labels, the disassembler reports
length 2 and shows (as `$hex` or as the label bound to it) exactly the PC reached when the branch
is taken. -/
theorem dis_branch_taken {d : Dev} {v : Variant} {W : Nat} (hd : IsDevice d v W) (P : Parser) (s : AState)
    (hs : Runs W s) (mn : Mn) (hdec : decode v (s.mem s.pc) = some (mn, .rel))
    (hb : 0 ≤ s.mem ((s.pc + 1) % 2 ^ (2 * W)) ∧ s.mem ((s.pc + 1) % 2 ^ (2 * W)) < 2 ^ W)
    (htaken : Py65.Spec.branchCond W mn s.p = true) :
    instructionAt d P s.mem s.pc =
      .ok 2 (mnText mn ++ ' ' :: shown P (W / 2) (Py65.Spec.step W v s).pc) := by
  rw [instructionAt_runs hd P hs hdec]
  have hstep : (Py65.Spec.step W v s).pc = relTarget d s.pc (s.mem ((s.pc + 1) % 2 ^ (2 * W))) := by
    rw [dis_branch_target hd s.pc _ hb, step_runs hs hdec]
    -- a taken branch goes to `branchTarget`; for the other mnemonics `branchCond` is `false`
    have hbr : ∀ s' : AState, Py65.Spec.branchCond W mn s'.p = true →
        (Py65.Spec.exec W v mn .rel s').pc = Py65.Spec.branchTarget W s' := by
      intro s' hc
      cases mn <;> first
        | (cases hc; done)
        | simp only [Py65.Spec.exec, hc, if_true]
    refine (hbr _ ?_).trans ?_
    · exact htaken
    show ((s.pc + 1) % 2 ^ (2 * W) + 1 + _) % 2 ^ (2 * W) = _
    rw [Int.add_assoc, Int.emod_add_emod]
    congr 1
    simp only [Py65.Spec.opnd1, Py65.Spec.AM]
    omega
  simp only [disText, byteAt_eq hd.ok, hstep]
  rfl

example : decode .nmos 0xd0 = some (.BNE, .rel) ∧ Py65.Spec.branchCond 8 .BNE 0x30 = true := by decide +kernel

/-- `dis_jmp_jsr`: JMP absolute and JSR absolute display (as `$hex` or as the label bound to it)
the address at which execution continues. -/
theorem dis_jmp_jsr {d : Dev} {v : Variant} {W : Nat} (hd : IsDevice d v W) (P : Parser) (s : AState)
    (hs : Runs W s) (mn : Mn) (hmn : mn = .JMP ∨ mn = .JSR)
    (hdec : decode v (s.mem s.pc) = some (mn, .abs)) :
    instructionAt d P s.mem s.pc =
      .ok 3 (mnText mn ++ ' ' :: shown P (W / 2) (Py65.Spec.step W v s).pc) := by
  rw [instructionAt_runs hd P hs hdec]
  have hw : wordAt d s.mem (s.pc + 1) = (Py65.Spec.step W v s).pc := by
    rw [step_runs hs hdec]
    have hex : ∀ s' : AState, (Py65.Spec.exec W v mn .abs s').pc = Py65.Spec.opnd16 W s' := by
      intro s'
      rcases hmn with rfl | rfl
      · simp only [Py65.Spec.exec]
      · simp only [Py65.Spec.exec, Py65.Spec.push, Py65.Spec.write]
    rw [hex, wordAt_eq hd.ok, byteAt_eq hd.ok, byteAt_eq hd.ok]
    simp only [Py65.Spec.opnd16, Py65.Spec.opnd1, Py65.Spec.opnd2, Py65.Spec.AM, Py65.Spec.BM, Int.emod_add_emod]
  simp only [disText, hw]
  rfl

example : decode .nmos 0x4c = some (.JMP, .abs) ∧ decode .cmos 0x20 = some (.JSR, .abs) := by decide +kernel

end Py65.Props.C09
