/-
C06 -- Interrupts, subroutines, reset and WAI keep the stack and control flow intact.

Reading chosen for "irq() does nothing at all while I is set" together with "a waiting 65C02
runs again after irq()": with I set, irq() changes no register, flag, cell, cycle count or access
log (`irq_masked`, whole-state equality on the shared irq()), but the 65C02 wrapper ends a WAI
first (W65C02S behaviour), see `wai_resumes`.
-/
import Py65.Proofs.Interrupts
import Py65.Proofs.Pairing

namespace Py65.Props.C06
open Py65 Py65.Gen Py65.Spec Py65.Proofs

/-- While I is set `irq()` is the identity on the whole model state (6502, 65Org16). -/
theorem irq_masked (c : Cfg) (hc : IsDev c) (s : St) (hI : flag s.p bitI = true) :
    Mpu6502.irq c s = s := Py65.Proofs.irq_masked c hc s hI

/-- On the 65C02 a masked `irq()` changes nothing but the waiting flag (cleared). -/
theorem irq_masked_65c02 (s : St) (hI : flag s.p bitI = true) :
    dev65c02.irq s = { s with waiting := false } := by
  show Mpu65c02.irq dev65c02.cfg s = _
  simp only [Mpu65c02.irq]
  exact Py65.Proofs.irq_masked c8 hc8 _ hI

/-- irq(): pushes PCH, PCL, P with B clear and bit 5 set; sets I; continues at the IRQ vector
(`Spec.irq`), for every well-formed state, on the two configurations. -/
theorem irq_entry (c : Cfg) (hc : IsDev c) (s : St) (hs : WF c s) (hw : s.waiting = false) :
    abs (Mpu6502.irq c s) = Spec.irq c.BYTE_WIDTH (abs s) := irq_sem c hc s hs hw

theorem nmi_entry (c : Cfg) (hc : IsDev c) (s : St) (hs : WF c s) (hw : s.waiting = false) :
    abs (Mpu6502.nmi c s) = Spec.nmi c.BYTE_WIDTH (abs s) := nmi_sem c hc s hs hw

theorem irq_entry_65c02 (s : St) (hs : WF dev65c02.cfg s) :
    abs (dev65c02.irq s) = Spec.irq 8 (abs s) := irq65c02_sem s hs
theorem nmi_entry_65c02 (s : St) (hs : WF dev65c02.cfg s) :
    abs (dev65c02.nmi s) = Spec.nmi 8 (abs s) := nmi65c02_sem s hs

/-- Pairing with a frame condition, for EVERY stack pointer (wrap-around included): whatever ran
in between, if it left SP and the three pushed cells as the entry made them, RTI resumes at the
interrupted PC with the interrupted flags and stack pointer. -/
theorem rti_after_interrupt (W : Nat) (hW : W = 8 ∨ W = 16) (v : Variant) (vec : Int) (s s' : AState)
    (hs : AWF W s) (hf : SameFrame (frame3 W s.sp) (interrupt W vec s) s') :
    (exec W v .RTI .imp s').pc = s.pc ∧ (exec W v .RTI .imp s').sp = s.sp ∧
    (exec W v .RTI .imp s').p = s.p := Py65.Proofs.rti_after_interrupt W hW v vec s s' hs hf

theorem rts_after_jsr (W : Nat) (hW : W = 8 ∨ W = 16) (v : Variant) (s s' : AState)
    (hs : AWF W s) (hf : SameFrame (frame2 W s.sp) (exec W v .JSR .abs s) s') :
    (exec W v .RTS .imp s').pc = (s.pc + 2) % AM W ∧ (exec W v .RTS .imp s').sp = s.sp :=
  Py65.Proofs.rts_after_jsr W hW v s s' hs hf

theorem rti_after_brk (W : Nat) (hW : W = 8 ∨ W = 16) (v : Variant) (s s' : AState)
    (hs : AWF W s) (hf : SameFrame (frame3 W s.sp) (exec W v .BRK .imp s) s') :
    (exec W v .RTI .imp s').pc = (s.pc + 1) % AM W ∧ (exec W v .RTI .imp s').sp = s.sp ∧
    (exec W v .RTI .imp s').p = s.p := Py65.Proofs.rti_after_brk W hW v s s' hs hf

/-- reset(): documented power-on registers, PC from the start address or the reset vector. -/
theorem reset_spec (c : Cfg) (hc : IsDev c) (s : St) (hw : s.waiting = false) (a : Int) :
    abs (Mpu6502.reset_at c a s) = Spec.reset c.BYTE_WIDTH (some a) (abs s) ∧
    abs (Mpu6502.reset_vec c s) = Spec.reset c.BYTE_WIDTH none (abs s) ∧
    (Mpu6502.reset_at c a s).cycles = 0 ∧ (Mpu6502.reset_vec c s).cycles = 0 :=
  ⟨reset_at_sem c hc a s hw, reset_vec_sem c hc s hw, rfl, rfl⟩

/-- A 65C02 stopped by WAI executes nothing: step() changes only the cycle counter. -/
theorem wai_halts (s : St) (hw : s.waiting = true) :
    dev65c02.step s = { s with cycles := s.cycles + 1 } :=
  Py65.Proofs.wai_halts dev65c02.cfg dev65c02.tbl s hw

/-- … and runs again after irq(), nmi() or reset(). -/
theorem wai_resumes (s : St) (a : Option Int) :
    (dev65c02.irq s).waiting = false ∧ (dev65c02.nmi s).waiting = false ∧
    (dev65c02.reset a s).waiting = false := by
  have h := Py65.Proofs.wai_resumes dev65c02.cfg s (a.getD 0)
  refine ⟨h.1, h.2.1, ?_⟩
  cases a <;> rfl

/-- Non-vacuity: SP = 0 (pushes wrap to $FF) is a well-formed interrupted state. -/
example : AWF 8 { a := 0, x := 0, y := 0, sp := 0, p := 0x30, pc := 0xfffe, mem := fun _ => 0, waiting := false } :=
  ⟨by decide, by decide, by decide, by decide⟩

end Py65.Props.C06
