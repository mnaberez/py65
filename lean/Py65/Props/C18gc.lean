/-
C18gc -- the console side of C18 restated for the definitions GENERATED from `py65/utils/console.py`
(`getch_noblock`, POSIX branch: `select`, `stdin.read(1)`, `as_string(..., 'latin-1')`, the bare
`except: pass`, the LF -> CR rule) and `py65/compat.py` (`as_string`, Python-3 branch), regenerated by
`harness/py2lean_monio.py` on every run of the C18 check into `Py65/Gen/ConsoleGen.lean`;
`Py65/Proofs/ConsoleGenEq.lean` proves them equal to the step `MonIORt.getchNoblock` that the generated
monitor closure `getc` (`Py65/Gen/MonIOGen.lean`) calls for `console.getch_noblock(self.stdin)`.

"Every load from I returns the next pending input byte (LF delivered as CR) or 0 when none is pending,
consuming exactly one byte per load" -- for EVERY byte value, in particular 128..255 (a version that decoded
with UTF-8 delivered 0 for those: `ConsoleGenEq.decode_utf8_high_byte`).
-/
import Py65.Proofs.ConsoleGenEq
import Py65.Proofs.MonIOGenEq

namespace Py65.Props.C18gc
open Py65 Py65.Model.PyStr Py65.Model.MonIORt Py65.Gen.ConsoleGen Py65.Gen.MonIOGen
open Py65.Proofs.ConsoleGenEq Py65.Proofs.MonIOGenEq

/-- The GENERATED `getch_noblock`, ordinary terminal: with a byte `b` pending (ANY value; bytes are 0..255)
it returns the one-character string with code point `b` -- 13 for `b = 10` -- and consumes exactly that byte. -/
theorem console_delivers_every_byte (b : Int) (rest : List Int) :
    getch_noblock ConEnv.plain { pending := b :: rest } =
      .ok [if b = 10 then 13 else b] { pending := rest } := by
  rw [getch_noblock_eq]; rfl

/-- ... and with nothing pending it returns `''` and consumes nothing. -/
theorem console_idle : getch_noblock ConEnv.plain { pending := [] } = .ok [] { pending := [] } := by
  rw [getch_noblock_eq]; rfl

/-- The step the generated monitor closure `getc` performs for `console.getch_noblock(self.stdin)` IS the
generated console function: for every monitor state, the generated `getch_noblock` on the monitor's pending
input ends normally with some string `char` and some remaining queue, and the generated `getc` answers
`ord(char)` (0 for `''`) and leaves exactly that queue. -/
theorem getc_step_is_console (E : Env) (address : Int) (σ : IoSt) :
    ∃ (char : List Int) (st : ConSt),
      getch_noblock ConEnv.plain { pending := σ.stdin } = .ok char st ∧
      _install_mpu_observers.getc E address σ =
        .ok (some (match char with | [c] => c | _ => 0)) { σ with stdin := st.pending } := by
  refine ⟨_, _, getch_noblock_eq _, ?_⟩
  rw [getc_eq]
  cases h : σ.stdin <;> simp [getchNoblock, Py65.Model.MonIO.getcVal, ioOf, h, Py65.Model.MonIO.getchByte]

/-- Hence a load from the input address delivers EVERY byte value unchanged, except LF as CR, and consumes
exactly that byte: the generated `getc` with `b` pending answers `b` (13 for 10). -/
theorem getc_delivers_every_byte (E : Env) (address : Int) (σ : IoSt) (b : Int) (rest : List Int)
    (h : σ.stdin = b :: rest) :
    _install_mpu_observers.getc E address σ =
      .ok (some (if b = 10 then 13 else b)) { σ with stdin := rest } := by
  rw [getc_eq]
  simp [Py65.Model.MonIO.getcVal, ioOf, h, Py65.Model.MonIO.getchByte]

/-- non-vacuity, running the GENERATED `getch_noblock` / `as_string`: the bytes $80 $0A $C3 $FF $00 $41 are
delivered as 128, 13, 195, 255, 0, 65, one per call, then `''`; in text mode the same; a `KeyboardInterrupt`
out of `select` is passed on, an `OSError` is swallowed; and the UTF-8 decoder of the run-time model, which
`as_string` would use with its default codec, turns C3 A9 into U+00E9 but rejects a lone $C3. -/
def drain (F : ConEnv) : Nat → ConSt → List (Option (List Int))
  | 0, _ => []
  | n + 1, σ =>
    match getch_noblock F σ with
    | .ok char σ' => some char :: drain F n σ'
    | _ => [none]

example :
    drain ConEnv.plain 7 { pending := [0x80, 0x0A, 0xC3, 0xFF, 0x00, 0x41] } =
      [some [128], some [13], some [195], some [255], some [0], some [65], some []] ∧
    drain { ConEnv.plain with textMode := true } 3 { pending := [0xE9, 10] } = [some [233], some [13], some []] ∧
    drain { ConEnv.plain with selectFault := some .KeyboardInterrupt } 2 { pending := [65] } = [none] ∧
    drain { ConEnv.plain with selectFault := some .OSError } 2 { pending := [65] } = [some [], some []] ∧
    (match as_string ConEnv.plain (.bytes [0xC3, 0xA9]) as_string.default_encoding { pending := [] } with
     | .ok cps _ => some cps | _ => none) = some [0xE9] ∧
    (match as_string ConEnv.plain (.bytes [0xC3]) as_string.default_encoding { pending := [] } with
     | .raise .UnicodeDecodeError _ => true | _ => false) = true := by
  decide +kernel

end Py65.Props.C18gc
