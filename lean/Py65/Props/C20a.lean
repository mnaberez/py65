/-
C20a -- the C20 clause "rejected commands change nothing" (and what C07 / C19 need of the command) for the
GENERATED `assemble`, interactive `assemble`, `help`, `version`, `cd`, `pwd` of the monitor.

`Py65.Gen.MonAsmGen` is written by `harness/py2lean_monasm.py` from the CURRENT `py65/monitor.py` on every run
of the check (statement-by-statement shallow embedding).  `Py65/Proofs/MonAsmGenEq.lean` proves the generated
methods equal to the hand model `Py65/Model/MonAsm.lean` for all arguments.  The statements below are about the
GENERATED methods, with the GENERATED assembler (`Py65.Gen.AsmGen.assemble`, C07) plugged into the parameter
`asm` (`asmG`); `iat`, `fmtdis`, `dis` (instruction_at, _format_disassembly, do_disassemble: generated elsewhere,
C09 / C19), `cmdhelp` (cmd.Cmd.do_help: standard library, not translated), the world `w` and the memory
callbacks `reply` are arbitrary unless a hypothesis says otherwise.

Known finding (`assemble_needs_range`): on the 65Org16, at or above `$40000` the slice store of `assemble` writes
nothing (and the command still prints a disassembly).
-/
import Py65.Proofs.MonAsmGenEq
import Py65.Proofs.MonAsmLemmas
import Py65.Props.C07g

namespace Py65.Props.C20a
open Py65 Py65.Model Py65.Model.PyStr Py65.Model.ObsMem Py65.Model.AddrParser Py65.Model.MonMem
open Py65.Model.MonGenRt Py65.Model.ShowRt Py65.Model.MonAsmRt Py65.Model.MonAsm Py65.Gen
open Py65.Spec.ObsMem Py65.Spec.MonMem Py65.Proofs.MonAsmGenEq Py65.Proofs.MonAsmLemmas

/-- "leaves registers, memory, labels, breakpoints, radix and width exactly as they were" (labels and
radix are the two mutable fields of the address parser) -/
def SameSession (σ σ' : AsmSt) : Prop :=
  σ'.memory = σ.memory ∧ σ'.regs = σ.regs ∧ σ'.parser = σ.parser ∧ σ'.breakpoints = σ.breakpoints ∧
    σ'.width = σ.width

theorem SameSession.print (σ : AsmSt) (x : Str) : SameSession σ (MonAsm.print σ x) := ⟨rfl, rfl, rfl, rfl, rfl⟩

/-- the exception classes of the generated assembler as the monitor sees them; `kt` = `exc.args[0]` of
its `KeyError` ("Label not found: …", produced by the address parser inside the assembler) -/
def asmExc (kt : Str) : AsmRt.Exc → AExc
  | .syntaxError => .SyntaxError
  | .overflowError => .OverflowError
  | .keyError => .KeyError kt
  | .valueError _ => .ValueError
  | .indexError => .IndexError
  | .typeError _ => .TypeError
  | .other _ => .Other

/-- `self._assembler.assemble` = the GENERATED `Assembler.assemble` (py65/assembler.py, C07) of the device -/
def asmG (mpu : Asm.Dev) (keyText : Parser → Str → Str) : Parser → Str → Int → Except AExc (List Int) :=
  fun P statement pc =>
    match AsmGen.assemble mpu P statement pc with
    | .ok bytes => .ok bytes
    | .error e => .error (asmExc (keyText P statement) e)

/-- whatever the GENERATED assembler returns as bytes is non-empty and ends inside the address space -/
theorem assembleG_ok_top {d : Asm.Dev} {P : Parser} {s : Str} {pc : Int} {bs : List Int}
    (h : Gen.AsmGen.assemble d P s pc = .ok bs) : pc + (bs.length : Int) ≤ (2 : Int) ^ d.addrWidth ∧ bs ≠ [] := by
  have e := Py65.Proofs.AsmGenEq.assemble_eq d P s pc
  rw [h] at e
  exact assembleL_ok_top e.symm

/-- a parameter that only prints (or raises after printing) -/
def OutOnly (f : Str → AsmSt → AFlow AsmSt Unit) : Prop :=
  ∀ a σ, (∃ o, f a σ = .ok () { σ with out := o }) ∨ (∃ e o, f a σ = .raise e { σ with out := o })

section
variable (w : AWorld) (mpu : Asm.Dev) (kt : Parser → Str → Str)
  (asm : Parser → Str → Int → Except AExc (List Int))
  (iat : AsmSt → Int → Except AExc (Int × Str)) (fmtdis : AsmSt → Int → Int → Str → Except AExc Str)
  (dis : Str → AsmSt → AFlow AsmSt Unit) (cmdhelp : Str → AsmSt → AFlow AsmSt Unit) (reply : Reply) (d : Dev)

/-- `assemble_rejected_unchanged`.  `args.split(None, 1)` gave the two pieces `a`, `st`.  Then, for the generated
`do_assemble` with the generated assembler: (1) an address with an unknown label prints the parser's "Label not
found: …"; (2) an address too wide prints "Overflow error: <args>"; (3) an address `start` the parser accepts
with a statement the generated assembler refuses AT `start` prints "Syntax error: <statement>" /
"Overflow error: <args>" / the label text.  In every case the command ends normally and the new state is the old
one with that ONE line appended to the output: memory (no partial write), registers, labels, radix, breakpoints,
width, pending input and working directory are untouched. -/
theorem assemble_rejected_unchanged (fuel : Nat) (args a st : Str) (σ : AsmSt)
    (hs : pySplitWs1 args = [a, st]) :
    let r := MonAsmGen.do_assemble w (asmG mpu kt) iat fmtdis dis cmdhelp reply d fuel args σ
    (numberL σ.parser a = .key → r = .ok () (MonAsm.print σ (MonCmdRt.keyErrorArg0 σ.parser a))) ∧
    (numberL σ.parser a = .overflow → r = .ok () (MonAsm.print σ ("Overflow error: ".toList ++ args))) ∧
    (∀ start, numberL σ.parser a = .ok start →
      (AsmGen.assemble mpu σ.parser st start = .error .syntaxError →
        r = .ok () (MonAsm.print σ ("Syntax error: ".toList ++ st))) ∧
      (AsmGen.assemble mpu σ.parser st start = .error .overflowError →
        r = .ok () (MonAsm.print σ ("Overflow error: ".toList ++ args))) ∧
      (AsmGen.assemble mpu σ.parser st start = .error .keyError →
        r = .ok () (MonAsm.print σ (kt σ.parser st)))) := by
  intro r
  have hr : r = doAssemble (asmG mpu kt) dis (interactiveAssemble (asmG mpu kt) iat fmtdis reply d fuel) reply d args σ :=
    do_assemble_eq w (asmG mpu kt) iat fmtdis dis cmdhelp reply d fuel args σ
  unfold doAssemble at hr
  simp only [hs] at hr
  refine ⟨fun h => ?_, fun h => ?_, fun start h => ⟨fun ha => ?_, fun ha => ?_, fun ha => ?_⟩⟩
  · simpa only [parseNumberA, h, asmHandlers] using hr
  · simpa only [parseNumberA, h, asmHandlers] using hr
  · simpa only [parseNumberA, h, asmG, ha, asmExc, asmHandlers] using hr
  · simpa only [parseNumberA, h, asmG, ha, asmExc, asmHandlers] using hr
  · simpa only [parseNumberA, h, asmG, ha, asmExc, asmHandlers] using hr

/-- the same for ANY way the address parser or the assembler (any `asm`) refuses, any exception class: the
command ends -- normally after printing one line, or by that exception (which `Monitor.onecmd` absorbs) -- in a
state whose registers, memory, labels, radix, breakpoints and width are exactly the old ones -/
theorem assemble_rejected_session (fuel : Nat) (args a st : Str) (σ : AsmSt) (hs : pySplitWs1 args = [a, st])
    (hrej : (∃ e, parseNumberA σ.parser a = .error e) ∨
      (∃ start e, parseNumberA σ.parser a = .ok start ∧ asm σ.parser st start = .error e)) :
    ∃ σ', (MonAsmGen.do_assemble w asm iat fmtdis dis cmdhelp reply d fuel args σ = .ok () σ' ∨
        ∃ e, MonAsmGen.do_assemble w asm iat fmtdis dis cmdhelp reply d fuel args σ = .raise e σ') ∧
      SameSession σ σ' ∧ σ'.inp = σ.inp ∧ σ'.cwd = σ.cwd := by
  rw [do_assemble_eq]
  unfold doAssemble
  simp only [hs]
  have key : ∀ e, ∃ σ', (asmHandlers args st e σ = .ok () σ' ∨ ∃ e', asmHandlers args st e σ = .raise e' σ') ∧
      SameSession σ σ' ∧ σ'.inp = σ.inp ∧ σ'.cwd = σ.cwd := by
    intro e
    cases e <;> simp only [asmHandlers] <;>
      first
        | exact ⟨_, Or.inl rfl, SameSession.print σ _, rfl, rfl⟩
        | exact ⟨σ, Or.inr ⟨_, rfl⟩, ⟨rfl, rfl, rfl, rfl, rfl⟩, rfl, rfl⟩
  rcases hrej with ⟨e, h⟩ | ⟨start, e, h1, h2⟩
  · simp only [h]; exact key e
  · simp only [h1, h2]; exact key e

/-- `assemble_writes_encoding`.  The address parses to `start` and the generated assembler returns `bytes` for the
statement at `start`.  Then the generated `do_assemble` is: ONE slice store of exactly those bytes at `start`
(nothing else of the state changes), then `disassemble $<start>` on that state, under the three handlers.  When
the range lies inside the physical memory (`0 ≤ start`, `start + len ≤ physMask + 1`) and the write subscribers
answer `None` (the monitor's putc does), the store is exact: cell `start + i` holds `bytes[i]`, every other cell
is unchanged, subscriber tables and sizes are unchanged. -/
theorem assemble_writes_encoding (fuel : Nat) (args a st : Str) (σ : AsmSt) (start : Int) (bytes : List Int)
    (hs : pySplitWs1 args = [a, st]) (hn : numberL σ.parser a = .ok start)
    (ha : AsmGen.assemble mpu σ.parser st start = .ok bytes) :
    let σ1 : AsmSt := { σ with memory := sliceStore reply σ.memory start bytes }
    MonAsmGen.do_assemble w (asmG mpu kt) iat fmtdis dis cmdhelp reply d fuel args σ =
        catchAsm args st (dis ("$".toList ++ pyFmtX d.addrFmtW start) σ1) ∧
      (WF σ.memory → WQuiet reply σ.memory → 0 ≤ start → start + (bytes.length : Int) ≤ σ.memory.physMask + 1 →
        (∀ i : Nat, i < bytes.length → σ1.memory.subject (start + (i : Int)) = bytes.getD i 0) ∧
        (∀ k, (k < start ∨ start + (bytes.length : Int) ≤ k) → σ1.memory.subject k = σ.memory.subject k) ∧
        SameShape σ.memory σ1.memory) := by
  intro σ1
  refine ⟨?_, fun hw hq h0 h1 => sliceStore_inRange reply σ.memory start bytes hw hq h0 h1⟩
  rw [do_assemble_eq]
  unfold doAssemble
  simp only [hs, parseNumberA, hn, asmG, ha]
  rfl

/-- on the 6502 / 65C02 (16 address bits = the physical size of the monitor's memory) the range precondition of
`assemble_writes_encoding` ALWAYS holds: the parser only yields addresses `≥ 0` and the assembler refuses code
running past the top of memory -/
theorem assemble_writes_encoding_dev8 {v : Spec.Variant} (hd : Proofs.Asm.IsDevice mpu v 8) (σ : AsmSt)
    (a st : Str) (start : Int) (bytes : List Int)
    (hwf : σ.parser.WF) (hw : WF σ.memory) (hq : WQuiet reply σ.memory) (hp : σ.memory.physMask = 0xffff)
    (hn : numberL σ.parser a = .ok start) (ha : AsmGen.assemble mpu σ.parser st start = .ok bytes) :
    (∀ i : Nat, i < bytes.length → (sliceStore reply σ.memory start bytes).subject (start + (i : Int)) = bytes.getD i 0) ∧
    (∀ k, (k < start ∨ start + (bytes.length : Int) ≤ k) →
      (sliceStore reply σ.memory start bytes).subject k = σ.memory.subject k) ∧
    SameShape σ.memory (sliceStore reply σ.memory start bytes) ∧ bytes ≠ [] := by
  obtain ⟨htop, hne⟩ := assembleG_ok_top ha
  have haw : mpu.addrWidth = 16 := hd.ok.aw
  rw [haw] at htop
  obtain ⟨i1, i2, i3⟩ := sliceStore_inRange reply σ.memory start bytes hw hq
    (Py65.Proofs.Num.numberL_bounded hwf hn).1 (by rw [hp]; norm_num at htop ⊢; exact htop)
  exact ⟨i1, i2, i3, hne⟩

/-- `assemble_needs_range`: the precondition IS needed.  When the address is at or above the physical size of
the memory object (65Org16: 256 K cells for a 32-bit address space) the slice store stores NOTHING --
`slice.indices` clips the range away, although an item store at the same address would alias into the memory --
and the command goes on to print a disassembly of whatever the aliased cells hold. -/
theorem assemble_needs_range (fuel : Nat) (args a st : Str) (σ : AsmSt) (start : Int) (bytes : List Int)
    (hs : pySplitWs1 args = [a, st]) (hn : numberL σ.parser a = .ok start)
    (ha : AsmGen.assemble mpu σ.parser st start = .ok bytes)
    (hp : 0 ≤ σ.memory.physMask + 1) (habove : σ.memory.physMask + 1 ≤ start) :
    MonAsmGen.do_assemble w (asmG mpu kt) iat fmtdis dis cmdhelp reply d fuel args σ =
      catchAsm args st (dis ("$".toList ++ pyFmtX d.addrFmtW start) σ) := by
  obtain ⟨h, -⟩ := assemble_writes_encoding w mpu kt iat fmtdis dis cmdhelp reply d fuel args a st σ start bytes hs hn ha
  rw [h, sliceStore_above reply σ.memory start bytes hp habove]

/-- `interactive_assemble_blank`: the loop ends at the first blank line -- it writes the prompt, (the echo of)
the line and a newline, consumes exactly that line, and changes nothing else; the value is the running address -/
theorem interactive_assemble_blank (fuel : Nat) (start : Int) (σ : AsmSt) (line : Str) (rest : List Str)
    (hi : σ.inp = line :: rest) (hb : MonCmd.pyStrip line = []) :
    MonAsmGen._interactive_assemble_while1 w asm iat fmtdis dis cmdhelp reply d (fuel + 1) start σ =
      .ok start { σ with inp := rest, out := σ.out ++ [prompt d start, line, "\n".toList] } := by
  rw [interactive_while1_eq]
  unfold iaLoop
  simp [hi, hb, MonAsm.write]

/-- `interactive_assemble_accepted`: a non-blank line that assembles to `bytes` at the running address is stored
by ONE slice store at that address, the instruction there is shown, and the loop goes on at `start + len`, or at
0 when that reaches `2 ** ADDR_WIDTH`; nothing else changes (`iat` / `fmtdis` returning is the hypothesis: the
disassembler can raise on a 65Org16 cell above 255, C09) -/
theorem interactive_assemble_accepted (fuel : Nat) (start : Int) (σ : AsmSt) (line : Str) (rest : List Str)
    (bytes : List Int) (r : Int × Str) (text : Str)
    (hi : σ.inp = line :: rest) (hb : MonCmd.pyStrip line ≠ [])
    (ha : asm σ.parser line start = .ok bytes) :
    let σ1 : AsmSt := { σ with memory := sliceStore reply σ.memory start bytes, inp := rest,
                               out := σ.out ++ [prompt d start, line] }
    iat σ1 start = .ok r → fmtdis σ1 start (bytes.length : Int) r.2 = .ok text →
    MonAsmGen._interactive_assemble_while1 w asm iat fmtdis dis cmdhelp reply d (fuel + 1) start σ =
      MonAsmGen._interactive_assemble_while1 w asm iat fmtdis dis cmdhelp reply d fuel
        (wrapTop d (start + (bytes.length : Int)))
        { σ1 with out := σ1.out ++ [eraseLine (prompt d start) line, text ++ "\n".toList] } := by
  intro σ1 h1 h2
  rw [interactive_while1_eq, interactive_while1_eq]
  conv => lhs; unfold iaLoop
  simp only [hi, hb, if_false, iaLine, iaTry, ha, iaAccept]
  dsimp only [σ1] at h1 h2
  simp only [h1, h2, AFlow.bind_ok, σ1, MonAsm.write, List.append_assoc]
  rfl

/-- `interactive_assemble_refused`: a line the assembler refuses (`KeyError` / `OverflowError` / `SyntaxError`)
stores nothing, prints `$<address>  ?Label` / `?Overflow` / `?Syntax`, and the running address does NOT advance -/
theorem interactive_assemble_refused (fuel : Nat) (start : Int) (σ : AsmSt) (line : Str) (rest : List Str)
    (e : AExc) (mark : Str) (hi : σ.inp = line :: rest) (hb : MonCmd.pyStrip line ≠ [])
    (ha : asm σ.parser line start = .error e) (hm : iaMark e = some mark) :
    MonAsmGen._interactive_assemble_while1 w asm iat fmtdis dis cmdhelp reply d (fuel + 1) start σ =
      MonAsmGen._interactive_assemble_while1 w asm iat fmtdis dis cmdhelp reply d fuel start
        { σ with inp := rest, out := σ.out ++ [prompt d start, line,
            "\r$".toList ++ pyFmtX d.addrFmtW start ++ ' ' :: ' ' :: mark] } := by
  rw [interactive_while1_eq, interactive_while1_eq]
  conv => lhs; unfold iaLoop
  simp only [hi, hb, if_false, iaLine, iaTry, ha, hm, AFlow.bind_ok, MonAsm.write, List.append_assoc]
  rfl

/-- `interactive_assemble_wraps`: the advance wraps exactly at the top of the address space, and with the
GENERATED assembler of a device whose address width is the monitor's the running address never leaves
`[0, 2 ** ADDR_WIDTH)` -/
theorem interactive_assemble_wraps :
    wrapTop d ((2 : Int) ^ d.AW) = 0 ∧ (∀ a : Int, a < (2 : Int) ^ d.AW → wrapTop d a = a) ∧
    (∀ (P : Parser) (line : Str) (start : Int) (bytes : List Int), mpu.addrWidth = d.AW → 0 ≤ start →
      asmG mpu kt P line start = .ok bytes →
      0 ≤ wrapTop d (start + (bytes.length : Int)) ∧ wrapTop d (start + (bytes.length : Int)) < (2 : Int) ^ d.AW ∧
      start < (2 : Int) ^ d.AW) := by
  refine ⟨by simp [wrapTop], fun a h => by simp [wrapTop, Int.not_le.mpr h], ?_⟩
  intro P line start bytes haw h0 h
  unfold asmG at h
  cases hg : AsmGen.assemble mpu P line start with
  | error e => rw [hg] at h; cases h
  | ok bs =>
    rw [hg] at h
    injection h with h; subst h
    obtain ⟨htop, hne⟩ := assembleG_ok_top hg
    rw [haw] at htop
    have hlen : 0 < (bs.length : Int) := by
      cases bs with
      | nil => exact absurd rfl hne
      | cons x xs => simp
    have hpow : (0 : Int) < (2 : Int) ^ d.AW := by positivity
    unfold wrapTop
    split_ifs with hc
    · exact ⟨le_refl 0, hpow, by omega⟩
    · exact ⟨by omega, by omega, by omega⟩

/-- what one typed (non-blank) line does to (running address, memory) -/
def lineEffect (P : Parser) (s : Int × OM) (line : Str) : Int × OM :=
  match asm P line s.1 with
  | .ok bytes => (wrapTop d (s.1 + (bytes.length : Int)), sliceStore reply s.2 s.1 bytes)
  | .error _ => s

/-- `interactive_assemble_session`: a whole session.  The non-blank lines `ls` are typed, then a blank line; the
assembler refuses only with its three exception classes (true of the generated one: `C07g.asm_total`), `iat` and
`fmtdis` return.  Then the loop ends normally within `|ls| + 1` prompts; the memory is the old one after, in order,
one slice store per ACCEPTED line at the address running at that moment (refused lines store nothing and do not
advance it); exactly the typed lines are consumed; registers, labels, radix, breakpoints, width and working
directory are as they were; the value is the final running address. -/
theorem interactive_assemble_session
    (hiat : ∀ s a, ∃ r, iat s a = .ok r) (hfmt : ∀ s a n t, ∃ r, fmtdis s a n t = .ok r)
    (hasm : ∀ P l a e, asm P l a = .error e → ∃ mark, iaMark e = some mark)
    (ls : List Str) (b : Str) (rest : List Str) (hls : ∀ l ∈ ls, MonCmd.pyStrip l ≠ []) (hb : MonCmd.pyStrip b = []) :
    ∀ (fuel : Nat) (start : Int) (σ : AsmSt), σ.inp = ls ++ b :: rest → ls.length < fuel →
    ∃ out, MonAsmGen._interactive_assemble_while1 w asm iat fmtdis dis cmdhelp reply d fuel start σ =
      .ok (ls.foldl (lineEffect asm reply d σ.parser) (start, σ.memory)).1
        { σ with memory := (ls.foldl (lineEffect asm reply d σ.parser) (start, σ.memory)).2, inp := rest, out := out } := by
  induction ls with
  | nil =>
    intro fuel start σ hi hf
    obtain ⟨n, rfl⟩ : ∃ n, fuel = n + 1 := ⟨fuel - 1, by simp at hf; omega⟩
    rw [interactive_assemble_blank w asm iat fmtdis dis cmdhelp reply d n start σ b rest (by simpa using hi) hb]
    exact ⟨_, rfl⟩
  | cons l ls ih =>
    intro fuel start σ hi hf
    obtain ⟨n, rfl⟩ : ∃ n, fuel = n + 1 := ⟨fuel - 1, by simp at hf; omega⟩
    have hl : MonCmd.pyStrip l ≠ [] := hls l (by simp)
    have hls' : ∀ x ∈ ls, MonCmd.pyStrip x ≠ [] := fun x hx => hls x (by simp [hx])
    have hi' : σ.inp = l :: (ls ++ b :: rest) := by simpa using hi
    have hn : ls.length < n := by simp at hf; omega
    cases ha : asm σ.parser l start with
    | ok bytes =>
      obtain ⟨r, hr⟩ := hiat { σ with memory := sliceStore reply σ.memory start bytes, inp := ls ++ b :: rest, out := σ.out ++ [prompt d start, l] } start
      obtain ⟨text, ht⟩ := hfmt { σ with memory := sliceStore reply σ.memory start bytes, inp := ls ++ b :: rest, out := σ.out ++ [prompt d start, l] } start (bytes.length : Int) r.2
      rw [interactive_assemble_accepted w asm iat fmtdis dis cmdhelp reply d n start σ l (ls ++ b :: rest) bytes r text
        hi' hl ha hr ht]
      obtain ⟨out, ho⟩ := ih hls' n (wrapTop d (start + (bytes.length : Int)))
        { σ with memory := sliceStore reply σ.memory start bytes, inp := ls ++ b :: rest, out := σ.out ++ [prompt d start, l] ++ [eraseLine (prompt d start) l, text ++ "\n".toList] } rfl hn
      refine ⟨out, ?_⟩
      simp only [List.foldl_cons, lineEffect, ha]
      exact ho
    | error e =>
      obtain ⟨mark, hm⟩ := hasm _ _ _ _ ha
      rw [interactive_assemble_refused w asm iat fmtdis dis cmdhelp reply d n start σ l (ls ++ b :: rest) e mark
        hi' hl ha hm]
      obtain ⟨out, ho⟩ := ih hls' n start
        { σ with inp := ls ++ b :: rest, out := σ.out ++ [prompt d start, l, "\r$".toList ++ pyFmtX d.addrFmtW start ++ ' ' :: ' ' :: mark] } rfl hn
      refine ⟨out, ?_⟩
      simp only [List.foldl_cons, lineEffect, ha]
      exact ho

/-- the generated assembler refuses only with the three classes the loop handles (from `C07g.asm_total`) -/
theorem asmG_refusals {v : Spec.Variant} {W : Nat} (hd : Proofs.Asm.IsDevice mpu v W) (P : Parser) (hwf : P.WF)
    (l : Str) (a : Int) (e : AExc) (h : asmG mpu kt P l a = .error e) : ∃ mark, iaMark e = some mark := by
  unfold asmG at h
  have ht := fun s => C07g.asm_total hd P hwf l a s
  unfold Proofs.AsmGenEq.assembleG at ht
  cases hg : AsmGen.assemble mpu P l a with
  | ok bs => rw [hg] at h; cases h
  | error x =>
    rw [hg] at h ht
    injection h with h; subst h
    cases x with
    | syntaxError => exact ⟨_, rfl⟩
    | overflowError => exact ⟨_, rfl⟩
    | keyError => exact ⟨_, rfl⟩
    | valueError s => exact absurd rfl (ht s)
    | indexError => exact absurd rfl (ht "index")
    | typeError s => exact absurd rfl (ht s)
    | other s => exact absurd rfl (ht s)

/-- `interactive_assemble_start`: where the session starts, and a refused start address.  No argument: at the
program counter.  An address with an unknown label: "Label not found: …" is printed and NOTHING else happens (no
prompt, no input consumed).  An address too wide: the `OverflowError` leaves the command (absorbed by
`Monitor.onecmd`) with the state untouched. -/
theorem interactive_assemble_start (fuel : Nat) (args : Str) (σ : AsmSt) :
    (args = [] → MonAsmGen._interactive_assemble w asm iat fmtdis dis cmdhelp reply d fuel args σ =
      (MonAsmGen._interactive_assemble_while1 w asm iat fmtdis dis cmdhelp reply d fuel σ.regs.pc σ).bind
        fun _ σ' => .ok () σ') ∧
    (args ≠ [] → ∀ start, numberL σ.parser args = .ok start →
      MonAsmGen._interactive_assemble w asm iat fmtdis dis cmdhelp reply d fuel args σ =
        (MonAsmGen._interactive_assemble_while1 w asm iat fmtdis dis cmdhelp reply d fuel start σ).bind
          fun _ σ' => .ok () σ') ∧
    (args ≠ [] → numberL σ.parser args = .key →
      MonAsmGen._interactive_assemble w asm iat fmtdis dis cmdhelp reply d fuel args σ =
        .ok () (MonAsm.print σ (MonCmdRt.keyErrorArg0 σ.parser args))) ∧
    (args ≠ [] → numberL σ.parser args = .overflow →
      MonAsmGen._interactive_assemble w asm iat fmtdis dis cmdhelp reply d fuel args σ = .raise .OverflowError σ) := by
  simp only [interactive_assemble_eq, interactive_while1_eq]
  unfold interactiveAssemble
  refine ⟨fun h => by simp [h], fun h start hn => by simp [h, parseNumberA, hn], fun h hn => by simp [h, parseNumberA, hn],
    fun h hn => by simp [h, parseNumberA, hn]⟩

/-- `display_commands_pure`: `version` and `pwd` print one line and change nothing; `help` changes nothing
provided `cmd.Cmd.do_help` (not translated) only prints; `cd` ends normally or by the exception of `os.chdir`
(then with the state untouched) and changes, besides the output, only the working directory -/
theorem display_commands_pure :
    (∀ args σ, MonAsmGen.do_version w asm iat fmtdis dis cmdhelp reply d args σ =
      .ok () (MonAsm.print σ "\nPy65 Monitor".toList)) ∧
    (∀ args σ, MonAsmGen.do_pwd w asm iat fmtdis dis cmdhelp reply d args σ = .ok () (MonAsm.print σ σ.cwd)) ∧
    (OutOnly cmdhelp → OutOnly (MonAsmGen.do_help w asm iat fmtdis dis cmdhelp reply d)) ∧
    (∀ args σ, ∃ σ', (MonAsmGen.do_cd w asm iat fmtdis dis cmdhelp reply d args σ = .ok () σ' ∨
        (∃ e, MonAsmGen.do_cd w asm iat fmtdis dis cmdhelp reply d args σ = .raise e σ') ∧ σ' = σ) ∧
      SameSession σ σ' ∧ σ'.inp = σ.inp) := by
  refine ⟨fun args σ => by rw [do_version_eq]; rfl, fun args σ => by rw [do_pwd_eq]; rfl, fun h a σ => ?_, fun args σ => ?_⟩
  · rw [do_help_eq]; exact h _ σ
  · rw [do_cd_eq]
    unfold doCd
    by_cases ha : args = []
    · simp only [ha, if_true]
      exact ⟨_, Or.inl rfl, ⟨rfl, rfl, rfl, rfl, rfl⟩, rfl⟩
    · simp only [ha, if_false]
      cases hc : w.chdir σ.cwd args with
      | ok nd => exact ⟨_, Or.inl rfl, ⟨rfl, rfl, rfl, rfl, rfl⟩, rfl⟩
      | error e =>
        cases e <;> simp only [] <;>
          first
            | exact ⟨σ, Or.inr ⟨⟨_, rfl⟩, rfl⟩, ⟨rfl, rfl, rfl, rfl, rfl⟩, rfl⟩
            | exact ⟨_, Or.inl rfl, ⟨rfl, rfl, rfl, rfl, rfl⟩, rfl⟩

/-- `cd`: what changes is exactly the working directory `os.chdir` yields; an `OSError` is reported and the
directory stays; in both cases the (new) directory is printed -/
theorem cd_changes_cwd (args : Str) (σ : AsmSt) (ha : args ≠ []) :
    (∀ nd, w.chdir σ.cwd args = .ok nd →
      MonAsmGen.do_cd w asm iat fmtdis dis cmdhelp reply d args σ =
        .ok () { σ with cwd := nd, out := σ.out ++ [nd ++ "\n".toList] }) ∧
    (∀ n s, w.chdir σ.cwd args = .error (.OSError n s) →
      MonAsmGen.do_cd w asm iat fmtdis dis cmdhelp reply d args σ =
        .ok () { σ with out := σ.out ++ [("Cannot change directory: [".toList ++ pyFmtD n ++ "] ".toList ++ s) ++ "\n".toList,
                                         σ.cwd ++ "\n".toList] }) := by
  rw [do_cd_eq]
  unfold doCd
  simp only [ha, if_false]
  refine ⟨fun nd h => by simp [h, doPwd, MonAsm.print], fun n s h => by simp [h, doPwd, MonAsm.print]⟩

end

/-! ### non-vacuity: the GENERATED code, run by the kernel

`do_assemble` etc. below are the generated methods, `asmG Asm.dev6502 / dev65org16` the generated assembler on
the generated opcode tables, the memory is the monitor's own (`monMem`: putc on `$F001`, getc on `$F004`).  The
stand-ins for `iat` / `fmtdis` / `dis` / `cmdhelp` print what they are asked (and the cells they would show). -/

section examples

def w0 : AWorld :=
  { chdir := fun cwd p => if p = "sub".toList then .ok (cwd ++ "/sub".toList)
                          else .error (.OSError 2 "No such file or directory".toList) }
def kt0 : Parser → Str → Str := fun _ st => "Label not found: ".toList ++ st
def iat0 : AsmSt → Int → Except AExc (Int × Str) := fun _ _ => .ok (1, "INSN".toList)
/-- shows the `n` cells from `a` on (peeked) -/
def fmt0 : AsmSt → Int → Int → Str → Except AExc Str := fun σ a n t =>
  .ok ((List.range n.toNat).flatMap (fun (i : Nat) => pyFmtX 2 (σ.memory.subject (a + (i : Int))) ++ " ".toList) ++ t)
def dis0 : Str → AsmSt → AFlow AsmSt Unit := fun arg σ => .ok () (MonAsm.print σ ("dis ".toList ++ arg))
def help0 : Str → AsmSt → AFlow AsmSt Unit := fun arg σ => .ok () (MonAsm.print σ ("help ".toList ++ arg))

/-- a 6502 session: PC `$c000`, one label, the monitor's memory (all zero) -/
def σ8 : AsmSt :=
  { memory := monMem 16 (fun _ => 0), regs := { a := 0, x := 0, y := 0, sp := 0xff, p := 0x30, pc := 0xc000 },
    parser := ⟨16, 16, [("loop".toList, 0xc005)]⟩, breakpoints := [some 0xc000], width := 78, out := [],
    inp := [], cwd := "/tmp".toList }
/-- the same on the 65Org16 (32 address bits, 256 K physical cells) -/
def σ16 : AsmSt := { σ8 with memory := monMem 32 (fun _ => 0), parser := ⟨32, 16, []⟩ }

/-- what an example looks at: the given cells, the callback log, the output, the pending input, the directory -/
structure Seen where
  cells : List Int
  log : List Ev
  out : List Str
  inp : List Str
  cwd : Str
  deriving DecidableEq

def look (cells : List Int) : AFlow AsmSt Unit → Option Seen
  | .ok _ s => some ⟨cells.map s.memory.subject, s.memory.log, s.out, s.inp, s.cwd⟩
  | _ => none

/-- Equality with an expected `Seen`, field by field.  (Stated so that the examples below are checked by evaluating
each field once: the derived `DecidableEq Seen` makes the kernel evaluate the later fields again and again.) -/
theorem seen_eq {o : Option Seen} {cells : List Int} {log : List Ev} {out inp : List Str} {cwd : Str}
    (h : (match o with
      | some s => decide (s.cells = cells) && decide (s.log = log) && decide (s.out = out) && decide (s.inp = inp) &&
          decide (s.cwd = cwd)
      | none => false) = true) : o = some ⟨cells, log, out, inp, cwd⟩ := by
  cases o with
  | none => cases h
  | some s =>
    obtain ⟨s1, s2, s3, s4, s5⟩ := s
    simp only [Bool.and_eq_true, decide_eq_true_eq] at h
    obtain ⟨⟨⟨⟨rfl, rfl⟩, rfl⟩, rfl⟩, rfl⟩ := h
    rfl

def asm8 := MonAsmGen.do_assemble w0 (asmG Asm.dev6502 kt0) iat0 fmt0 dis0 help0 monReply dev8 20
def asm16 := MonAsmGen.do_assemble w0 (asmG Asm.dev65org16 kt0) iat0 fmt0 dis0 help0 monReply dev16 20

-- accepted: exactly the two bytes, at $c000; then `disassemble $c000`
example : look [0xbfff, 0xc000, 0xc001, 0xc002] (asm8 "c000 lda #$12".toList σ8) =
    some ⟨[0, 0xa9, 0x12, 0], [], ["dis $c000\n".toList], [], "/tmp".toList⟩ := seen_eq (by decide +kernel)
-- a label as address, blanks around: `split(None, 1)` keeps the statement's trailing blank
example : look [0xc005, 0xc006] (asm8 "  loop\t jmp loop ".toList σ8) =
    some ⟨[0x4c, 0x05], [], ["dis $c005\n".toList], [], "/tmp".toList⟩ := seen_eq (by decide +kernel)
-- the slice store goes through the ObservableMemory: storing at the putc register calls the callback
example : look [0xf001] (asm8 "f001 nop".toList σ8) =
    some ⟨[0xea], [{ cb := 1, addr := 0xf001, val := some 0xea }], ["dis $f001\n".toList], [], "/tmp".toList⟩ :=
  seen_eq (by decide +kernel)
-- refused: syntax, label (address), label (operand), overflow (address), code past the top -- nothing stored
example : look [0xc000] (asm8 "c000 bogus".toList σ8) =
    some ⟨[0], [], ["Syntax error: bogus\n".toList], [], "/tmp".toList⟩ := seen_eq (by decide +kernel)
example : look [0xc000] (asm8 "nosuch nop".toList σ8) =
    some ⟨[0], [], ["Label not found: nosuch\n".toList], [], "/tmp".toList⟩ := seen_eq (by decide +kernel)
example : look [0xc000] (asm8 "c000 jmp nosuch".toList σ8) =
    some ⟨[0], [], ["Label not found: jmp nosuch\n".toList], [], "/tmp".toList⟩ := seen_eq (by decide +kernel)
example : look [0, 0xffff] (asm8 "10000 nop".toList σ8) =
    some ⟨[0, 0], [], ["Overflow error: 10000 nop\n".toList], [], "/tmp".toList⟩ := seen_eq (by decide +kernel)
example : look [0, 0xffff] (asm8 "ffff lda #$12".toList σ8) =
    some ⟨[0, 0], [], ["Overflow error: ffff lda #$12\n".toList], [], "/tmp".toList⟩ := seen_eq (by decide +kernel)
-- 65Org16, `assemble_needs_range`: at $40000 NOTHING is stored (and `disassemble $00040000` runs all the same);
-- at $3ffff only the first word of the two is stored
example : look [0, 1, 0x3ffff] (asm16 "40000 lda #$12".toList σ16) =
    some ⟨[0, 0, 0], [], ["dis $00040000\n".toList], [], "/tmp".toList⟩ := seen_eq (by decide +kernel)
example : look [0x3fffe, 0x3ffff, 0, 1] (asm16 "3ffff lda #$12".toList σ16) =
    some ⟨[0, 0xa9, 0, 0], [], ["dis $0003ffff\n".toList], [], "/tmp".toList⟩ := seen_eq (by decide +kernel)
-- ... while inside the physical memory it stores both words
example : look [0x3fffe, 0x3ffff, 0] (asm16 "3fffe lda #$12".toList σ16) =
    some ⟨[0xa9, 0x12, 0], [], ["dis $0003fffe\n".toList], [], "/tmp".toList⟩ := seen_eq (by decide +kernel)

-- interactive, from the PC: two accepted lines, one refused in between (address stays), blank line ends;
-- the line after the blank one is NOT consumed
example : look [0xc000, 0xc001, 0xc002, 0xc003, 0xc004]
      (asm8 "".toList { σ8 with inp := ["lda #$01".toList, "bogus".toList, "sta $10".toList, " ".toList, "quit".toList] }) =
    some ⟨[0xa9, 0x01, 0x85, 0x10, 0], [],
      ["\r$c000            ".toList, "lda #$01".toList, eraseLine (prompt dev8 0xc000) "lda #$01".toList, "a9 01 INSN\n".toList,
       "\r$c002            ".toList, "bogus".toList, "\r$c002  ?Syntax\n".toList,
       "\r$c002            ".toList, "sta $10".toList, eraseLine (prompt dev8 0xc002) "sta $10".toList, "85 10 INSN\n".toList,
       "\r$c004            ".toList, " ".toList, "\n".toList],
      ["quit".toList], "/tmp".toList⟩ := seen_eq (by decide +kernel)
-- interactive at an address: the advance wraps to 0 at the top of the address space
example : look [0xfffe, 0xffff, 0, 1]
      (asm8 "$fffe".toList { σ8 with inp := ["lda #$01".toList, "nop".toList, "".toList] }) =
    some ⟨[0xa9, 0x01, 0xea, 0], [],
      ["\r$fffe            ".toList, "lda #$01".toList, eraseLine (prompt dev8 0xfffe) "lda #$01".toList, "a9 01 INSN\n".toList,
       "\r$0000            ".toList, "nop".toList, eraseLine (prompt dev8 0) "nop".toList, "ea INSN\n".toList,
       "\r$0001            ".toList, "".toList, "\n".toList], [], "/tmp".toList⟩ := seen_eq (by decide +kernel)
-- interactive: a refused start address prints the label text, asks nothing, consumes nothing
example : look [0xc000] (asm8 "nosuch".toList { σ8 with inp := ["nop".toList, "".toList] }) =
    some ⟨[0], [], ["Label not found: nosuch\n".toList], ["nop".toList, "".toList], "/tmp".toList⟩ :=
  seen_eq (by decide +kernel)
-- stdin exhausted: the call does not return
example : (match asm8 "".toList σ8 with | .nofuel => true | _ => false) = true := by decide +kernel

-- version / pwd / help (a shortcut is replaced by its command) / cd
example : look [] (MonAsmGen.do_version w0 (asmG Asm.dev6502 kt0) iat0 fmt0 dis0 help0 monReply dev8 "x".toList σ8) =
    some ⟨[], [], ["\nPy65 Monitor\n".toList], [], "/tmp".toList⟩ := seen_eq (by decide +kernel)
example : look [] (MonAsmGen.do_pwd w0 (asmG Asm.dev6502 kt0) iat0 fmt0 dis0 help0 monReply dev8 none σ8) =
    some ⟨[], [], ["/tmp\n".toList], [], "/tmp".toList⟩ := seen_eq (by decide +kernel)
example : look [] (MonAsmGen.do_help w0 (asmG Asm.dev6502 kt0) iat0 fmt0 dis0 help0 monReply dev8 " m ".toList σ8) =
      some ⟨[], [], ["help mem\n".toList], [], "/tmp".toList⟩ ∧
    look [] (MonAsmGen.do_help w0 (asmG Asm.dev6502 kt0) iat0 fmt0 dis0 help0 monReply dev8 "mem ".toList σ8) =
      some ⟨[], [], ["help mem \n".toList], [], "/tmp".toList⟩ :=
  ⟨seen_eq (by decide +kernel), seen_eq (by decide +kernel)⟩
example : look [] (MonAsmGen.do_cd w0 (asmG Asm.dev6502 kt0) iat0 fmt0 dis0 help0 monReply dev8 "sub".toList σ8) =
      some ⟨[], [], ["/tmp/sub\n".toList], [], "/tmp/sub".toList⟩ ∧
    look [] (MonAsmGen.do_cd w0 (asmG Asm.dev6502 kt0) iat0 fmt0 dis0 help0 monReply dev8 "nosuch".toList σ8) =
      some ⟨[], [], ["Cannot change directory: [2] No such file or directory\n".toList, "/tmp\n".toList], [],
        "/tmp".toList⟩ ∧
    look [] (MonAsmGen.do_cd w0 (asmG Asm.dev6502 kt0) iat0 fmt0 dis0 help0 monReply dev8 "".toList σ8) =
      some ⟨[], [], ["cd <directory>\n".toList, "Change the working directory.\n".toList], [], "/tmp".toList⟩ :=
  ⟨seen_eq (by decide +kernel), seen_eq (by decide +kernel), seen_eq (by decide +kernel)⟩

end examples

end Py65.Props.C20a
