/-
C14 -- Each device decodes exactly its own instruction set.

The generated tables (`Py65/Gen/Tables.lean`, read on every run from the LIVE classes, after the
decorators, `[:]` copies and inheritance did whatever they do) equal the documented instruction
sets of `Spec.Isa`, entry by entry, for all 256 opcode bytes; each declared opcode dispatches to the
handler of that opcode's name and each undeclared one to `inst_not_implemented`.
Finite tables: decided completely by kernel evaluation (`decide +kernel`, no axioms beyond the
standard ones).  The configuration part (import orders / subsets) and instance isolation are
checked by the harness (props/c14.py): every one of the 15 ordered module selections must produce
these same tables, and the translator refuses any write to class or module state.
-/
import Py65.Spec.Isa
import Py65.Gen.Tables
import Py65.Proofs.DecodeAll

namespace Py65.Props.C14
open Py65.Spec Py65.Gen
open Py65.Proofs (decodeAll map_decode all_decode)

/- Each comparison below is evaluated on `decodeAll`, which looks the 256 bytes up in one pass. -/
theorem expectedTable_eq (v : Variant) :
    ((decodeAll v).map fun
      | some (mn, mo) => (mn.name, mo.name)
      | none => ("???", "imp")) = expectedTable v :=
  map_decode v _

theorem declaredCount_eq (v : Variant) : (decodeAll v).countP Option.isSome = declaredCount v := by
  rw [declaredCount, ← List.countP_eq_length_filter, ← List.map_id (decodeAll v), map_decode,
    List.countP_map]; rfl

theorem isa_6502 : dev6502.disassembleL = expectedTable .nmos := by
  rw [← expectedTable_eq]; decide +kernel
/- The translator emits the 65Org16 tables as separate definitions; they unfold to the very lists of
the 6502, so the 6502 facts apply as they stand (here and in C13). -/
theorem isa_65org16 : dev65org16.disassembleL = expectedTable .nmos := isa_6502
theorem isa_65c02 : dev65c02.disassembleL = expectedTable .cmos := by
  rw [← expectedTable_eq]; decide +kernel

theorem count_nmos : declaredCount .nmos = 151 := by rw [← declaredCount_eq]; decide +kernel
theorem count_cmos : declaredCount .cmos = 195 := by rw [← declaredCount_eq]; decide +kernel

def hex2 (n : Nat) : String :=
  let d (k : Nat) : Char := if k < 10 then Char.ofNat (48 + k) else Char.ofNat (87 + k)
  String.ofList [d (n / 16), d (n % 16)]

/-- the handler-name table is "inst_0xNN" for declared opcodes, the default handler otherwise -/
def handlerOK (v : Variant) (names : List String) : Bool :=
  (List.range 256).all fun (n : Nat) =>
    match decode v (Int.ofNat n) with
    | some _ => (names.getD n "").endsWith ("inst_0x" ++ hex2 n)
    | none => names.getD n "" == "Mpu6502.inst_not_implemented"

theorem handlerOK_eq (v : Variant) (names : List String) (hl : names.length = 256) :
    (List.zipWith (fun p d => match d with
      | some _ => p.2.endsWith ("inst_0x" ++ hex2 p.1)
      | none => p.2 == "Mpu6502.inst_not_implemented") ((List.range 256).zip names) (decodeAll v)).all id =
      handlerOK v names :=
  all_decode v names "" hl _

theorem handlers_6502 : handlerOK .nmos dev6502.handlerNames = true := by
  rw [← handlerOK_eq _ _ (by decide +kernel)]; decide +kernel
theorem handlers_65org16 : handlerOK .nmos dev65org16.handlerNames = true := handlers_6502
theorem handlers_65c02 : handlerOK .cmos dev65c02.handlerNames = true := by
  rw [← handlerOK_eq _ _ (by decide +kernel)]; decide +kernel

/-- Non-vacuity / reading aid: opcode $A9 is LDA #imm on every device, $02 is undeclared. -/
example : dev6502.disassembleL.getD 0xa9 ("", "") = ("LDA", "imm") ∧
    dev65c02.disassembleL.getD 0x80 ("", "") = ("BRA", "rel") ∧
    dev65org16.disassembleL.getD 0x02 ("", "") = ("???", "imp") := by decide +kernel

end Py65.Props.C14
