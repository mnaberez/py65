/-
C08 -- Disassembly re-assembles to the original bytes for every encoding and address.

About the COMPOSITION of the two hand models
`Py65.Model.Disasm.instructionAt` and `Py65.Model.Asm.assembleL` on the three device records built
from the GENERATED tables, at full string level: the text really goes through `' '.join(split())`,
the `Statement` scanner, `AddressParser.number`, re-formatting, the ordered templates and
`list.index`.

The proof is factored as the statement asks: decode / encode are inverse on the documented tables
(`spec_decode_encode`: arithmetic + per-opcode table facts by kernel evaluation), the operand text
is read back to the same value (`number_shown`: `int("%0kx" % n, 16) = n` from C15 / C19, labels by
`address_for (label_for a) = a`), mode re-selection is `asm_core`.

Reading of "located at any address": the instruction lies inside the address space
(`pc + length ≤ 2^ADDR_WIDTH`).  An instruction that straddles the top of memory is one that C07
REQUIRES the assembler to refuse ("code running past the top of memory"); `roundtrip_past_top`
shows that this is what happens.
-/
import Py65.Proofs.AsmRound

namespace Py65.Props.C08
open Py65.Model Py65.Model.PyStr Py65.Model.AddrParser Py65.Model.Asm Py65.Model.Disasm
open Py65.Proofs.Asm
open Py65.Spec (Mode Mn Variant decode)
open Py65.Spec.Asm (opcodeOf Shape Outcome Refusal Stmt encode encodeAbs Documented mnText shapeOf operandValue
  instrBytes)

variable {d : Dev} {v : Variant} {W : Nat}

/-- `roundtrip`: for every device, every declared opcode `n` with every operand bytes, located at
any address `pc` where it fits, and every label table of identifier-like names (`GoodLabels`):
the disassembler produces a text of the documented length, and that text re-assembles at `pc` to
bytes `r` that are the original bytes -- or, for an absolute / absolute,X / absolute,Y operand
below one page whose mnemonic has the zero-page form, that zero-page form (`RoundTrip`). -/
theorem roundtrip (hd : IsDevice d v W) {P : Parser} (hg : GoodLabels P W) (mem : Int → Int) (pc : Int)
    (n : Nat) (hn : n < 256) (hop : byteAt d mem pc = (n : Int)) (mn : Mn) (mo : Mode)
    (hdec : decode v (n : Int) = some (mn, mo))
    (hb1 : 0 ≤ byteAt d mem (pc + 1) ∧ byteAt d mem (pc + 1) < 2 ^ W)
    (hb2 : 0 ≤ byteAt d mem (pc + 2) ∧ byteAt d mem (pc + 2) < 2 ^ W)
    (hfit : pc + mo.len ≤ 2 ^ (2 * W)) :
    ∃ text r, instructionAt d P mem pc = .ok mo.len.toNat text ∧ assembleL d P text pc = .ok r ∧
      RoundTrip v mn mo n (byteAt d mem (pc + 1)) (byteAt d mem (pc + 2)) r :=
  roundtrip_of_devOK hd.ok hg mem pc n hn hop mn mo hdec hb1 hb2 hfit

/-- Every opcode other than absolute / absolute,X / absolute,Y, and those three with a non-zero
high byte, come back as exactly the original bytes. -/
theorem roundtrip_exact (hd : IsDevice d v W) {P : Parser} (hg : GoodLabels P W) (mem : Int → Int) (pc : Int)
    (n : Nat) (hn : n < 256) (hop : byteAt d mem pc = (n : Int)) (mn : Mn) (mo : Mode)
    (hdec : decode v (n : Int) = some (mn, mo))
    (hb1 : 0 ≤ byteAt d mem (pc + 1) ∧ byteAt d mem (pc + 1) < 2 ^ W)
    (hb2 : 0 ≤ byteAt d mem (pc + 2) ∧ byteAt d mem (pc + 2) < 2 ^ W)
    (hfit : pc + mo.len ≤ 2 ^ (2 * W))
    (hnt : zpTwin mo = none ∨ byteAt d mem (pc + 2) ≠ 0) :
    ∃ text, instructionAt d P mem pc = .ok mo.len.toNat text ∧
      assembleL d P text pc =
        .ok (instrBytes mo n (byteAt d mem (pc + 1)) (byteAt d mem (pc + 2))) := by
  obtain ⟨text, r, h1, h2, h3⟩ := roundtrip hd hg mem pc n hn hop mn mo hdec hb1 hb2 hfit
  refine ⟨text, h1, ?_⟩
  rcases h3 with rfl | ⟨zp, opz, hz, hb, _, _⟩
  · exact h2
  · rcases hnt with h | h
    · rw [h] at hz; cases hz
    · exact absurd hb h

/-- The parser without labels, of the device's address width: the premise `GoodLabels` holds. -/
theorem noLabels_good (W : Nat) (radix : Nat) : GoodLabels ⟨2 * W, radix, []⟩ W :=
  goodLabels_of rfl (by intro k v h; simp [lookup] at h) (by simp) (by simp)

/-- When a label is bound to the operand address (or branch target) the disassembler shows the
label (the first one bound to it) ... -/
theorem shown_label (P : Parser) (k : Nat) (a : Int) (l : Str) (h : labelFor P a = some l) :
    shown P k a = l := by
  simp [shown, h]

/-- ... and `$hex` otherwise. -/
theorem shown_hex (P : Parser) (k : Nat) (a : Int) (h : labelFor P a = none) :
    shown P k a = '$' :: fmtHexL k a.toNat := by
  simp [shown, h]

/-- `spec_decode_encode`: on the documented tables alone, the documented encoding of the statement
that the bytes `n b1 b2` at `pc` denote is those bytes or their zero-page twin. -/
theorem spec_decode_encode (v : Variant) {W : Nat} (hW : W = 8 ∨ W = 16) (n : Nat) (hn : n < 256)
    (mn : Mn) (mo : Mode) (hdec : decode v (n : Int) = some (mn, mo)) (pc b1 b2 : Int)
    (hb1 : 0 ≤ b1 ∧ b1 < 2 ^ W) (hb2 : 0 ≤ b2 ∧ b2 < 2 ^ W) (hpc : pc + mo.len ≤ 2 ^ (2 * W)) :
    ∃ r, encode v W ⟨mnText mn, shapeOf mo, operandValue W mo pc b1 b2⟩ pc = .ok r ∧
      RoundTrip v mn mo n b1 b2 r :=
  spec_roundtrip v hW n hn mn mo hdec pc b1 b2 hb1 hb2 hpc

/-! ### non-vacuity: concrete round trips through the two models (kernel evaluation) -/

/-- labels `loop = $1234`, `zp_ptr = $10`, `top = $FFF0` -/
def exP : Parser := ⟨16, 16, [("loop".toList, 0x1234), ("zp_ptr".toList, 0x10), ("top".toList, 0xfff0)]⟩

def memOf (pc : Int) (b0 b1 b2 : Int) : Int → Int :=
  fun a => if a = pc then b0 else if a = (pc + 1) % 65536 then b1 else if a = (pc + 2) % 65536 then b2 else 0

example : instructionAt dev6502 ⟨16, 16, []⟩ (memOf 0x300 0xbd 0x34 0x12) 0x300 = .ok 3 "LDA $1234,X".toList ∧
    assembleL dev6502 ⟨16, 16, []⟩ "LDA $1234,X".toList 0x300 = .ok [0xbd, 0x34, 0x12] := by decide +kernel
example : instructionAt dev6502 exP (memOf 0x300 0xbd 0x34 0x12) 0x300 = .ok 3 "LDA loop,X".toList ∧
    assembleL dev6502 exP "LDA loop,X".toList 0x300 = .ok [0xbd, 0x34, 0x12] := by decide +kernel
example : instructionAt dev6502 exP (memOf 0x300 0xb1 0x10 0) 0x300 = .ok 2 "LDA (zp_ptr),Y".toList ∧
    assembleL dev6502 exP "LDA (zp_ptr),Y".toList 0x300 = .ok [0xb1, 0x10] := by decide +kernel
-- absolute operand below one page comes back as the zero-page form (the permitted difference)
example : instructionAt dev6502 ⟨16, 16, []⟩ (memOf 0x300 0xad 0x10 0x00) 0x300 = .ok 3 "LDA $0010".toList ∧
    assembleL dev6502 ⟨16, 16, []⟩ "LDA $0010".toList 0x300 = .ok [0xa5, 0x10] := by decide +kernel
-- a backward branch at the start of memory: the target wraps to the top, shown as a label
example : instructionAt dev6502 exP (memOf 0x0 0xd0 0xee 0) 0x0 = .ok 2 "BNE top".toList ∧
    assembleL dev6502 exP "BNE top".toList 0x0 = .ok [0xd0, 0xee] := by decide +kernel
example : instructionAt dev65org16 ⟨32, 16, []⟩ (fun a => if a = 5 then 0x4c else if a = 6 then 0x5678 else 0x1234) 5
      = .ok 3 "JMP $12345678".toList ∧
    assembleL dev65org16 ⟨32, 16, []⟩ "JMP $12345678".toList 5 = .ok [0x4c, 0x5678, 0x1234] := by decide +kernel
example : GoodLabels exP 8 :=
  goodLabels_of rfl
    (Py65.Proofs.Num.init_wf 16 16 [("loop".toList, 0x1234), ("zp_ptr".toList, 0x10), ("top".toList, 0xfff0)] exP
      (by decide +kernel)).1
    (by decide)
    (by
      intro kv hkv
      simp only [exP, List.mem_cons, List.mem_nil_iff, or_false] at hkv
      rcases hkv with rfl | rfl | rfl <;>
        exact ⟨⟨by decide, by decide, by decide, by decide, by decide⟩, by decide⟩)

/-- An instruction that straddles the top of memory is refused on re-assembly with
`OverflowError`, as C07 demands of code running past the top. -/
theorem roundtrip_past_top :
    instructionAt dev6502 ⟨16, 16, []⟩ (memOf 0xffff 0xa9 0x42 0) 0xffff = .ok 2 "LDA #$42".toList ∧
    assembleL dev6502 ⟨16, 16, []⟩ "LDA #$42".toList 0xffff = .overflow := by decide +kernel

end Py65.Props.C08
