/-
C20 — "No input line crashes the monitor; rejected commands change nothing".

The theorems are about the
hand-written model `Py65/Model/MonCmd.lean` of `Monitor.onecmd` = `_preprocess_line` +
`cmd.Cmd.onecmd` (CPython 3.12) inside the catch-all, and of the commands that own session state;
the model is tied to the real `Monitor.onecmd` by the correspondence run of `harness/props/c20.py`.

Reading guide.  `onecmdL ext s line` is one call of `Monitor.onecmd(line)` in session state `s`
(device, registers, memory, labels, breakpoints, radix, width = `s.core`; plus `lastcmd`): it returns
a `Res` (verdict `ok` / `rejected why`, the truth value of the returned object in `exit`, per-pair
outcomes of `registers`) and the new state.  `ext : Ext` is the semantics of the commands modelled
elsewhere (`assemble`, `fill`, `load`, `goto`, `step`, `return`); by its type it can only touch
registers and memory, and `Ext.Honest` says it honours "refused ⇒ unchanged" itself (C07, C16, C17).
Every function of the model is total: `onecmdL` returns for every line, exceptions absorbed by the
catch-all are the verdict `rejected raised`.  `cleaned line` is the line after comment, blank and dot
removal; `preprocessL` is `_preprocess_line`; `dispatchWord` the word `cmd.Cmd` dispatches on.
-/
import Py65.Proofs.MonCmdLemmas

namespace Py65.Props.C20
open Py65 Py65.Model.PyStr Py65.Model.AddrParser Py65.Model.MonCmd Py65.Proofs.MonCmd Py65.Proofs.Num

/-- `dispatch_total`: `Monitor.onecmd` returns for ANY line in ANY state (the model is a total
function; whatever a command raises is absorbed and becomes a verdict), and the value it returns is
true exactly when the line — after preprocessing and `parseline`, or, for an empty line, the
repeated `lastcmd` — is dispatched on the word `quit`: `do_quit` is the only command that requests
exit, unknown words, `!…`, `?…` and every other command never do. -/
theorem dispatch_total (ext : Ext) (s : State) (line : Str) :
    (onecmdL ext s line).1.exit = true ↔ dispatchWord s line = some quit :=
  onecmd_exit_iff ext s line

/-- non-vacuity: `  ..x ; bye` requests exit, `quitx` and `?quit` do not; an empty line after `quit`
repeats it. -/
example :
    let ext : Ext := { run := fun _ c _ => (.ok, c.regs, c.mem) }
    let c : Core := { dev := .d6502, regs := resetRegs .d6502, mem := fun _ => 0, labels := [], breakpoints := [],
                      radix := 16, width := 78 }
    (onecmdL ext { core := c, lastcmd := [] } "  ..x ; bye".toList).1.exit = true ∧
    (onecmdL ext { core := c, lastcmd := [] } "quitx".toList).1.exit = false ∧
    (onecmdL ext { core := c, lastcmd := [] } "?quit".toList).1.exit = false ∧
    (onecmdL ext { core := c, lastcmd := quit } [] ).1.exit = true := by
  decide +kernel

/-- `quit_forms` (only the quit forms): if a line is dispatched on `quit`, then its cleaned text
(comment outside quotes, surrounding blanks, leading dots removed) starts — after blanks of any kind —
with `quit`, `q`, `x`, `exit` or `EOF` as a whole word (followed by nothing or by a character that
cannot continue a command word); for an empty line the same holds of the repeated `lastcmd`. -/
theorem quit_forms (s : State) (line : Str) (h : dispatchWord s line = some quit) :
    (∃ f ∈ quitForms, StartsWithWord f (lstripP isReSpace (cleaned line))) ∨
    (parseline (preprocessL line) = .empty ∧
      ∃ f ∈ quitForms, StartsWithWord f (lstripP isReSpace (cleaned s.lastcmd))) := by
  rcases dispatchWord_some h with ⟨a, x, hp⟩ | ⟨he, -, a, x, hp⟩
  · exact .inl (preprocess_quit_only hp)
  · exact .inr ⟨he, preprocess_quit_only hp⟩

/-- `quit_forms_exit` (every quit form, with or without arguments, under any noise): for each of
`quit`, `q`, `x`, `exit`, `EOF`, alone or followed by blanks and arguments, with leading blanks, leading
dots, trailing blanks and a trailing `;` comment outside quotes, the line is dispatched on `quit` —
so by `dispatch_total` it requests exit, in every state. -/
theorem quit_forms_exit (s : State) (f : Str) (hf : f ∈ quitForms) (ws1 dots ws2 comment : Str)
    (hn : Noise ws1 dots ws2 comment) :
    dispatchWord s (ws1 ++ dots ++ f ++ ws2 ++ comment) = some quit ∧
    ∀ bl args, bl ≠ [] → (∀ c ∈ bl, isReSpace c = true) → ArgsOK args →
      dispatchWord s (ws1 ++ dots ++ (f ++ bl ++ args) ++ ws2 ++ comment) = some quit := by
  obtain ⟨hw, hp, hd⟩ := of_wordOK (quitForms_ok f hf).1
  have fin : ∀ line tail, cleaned line = f ++ tail →
      (tail = [] ∨ ∃ bl args, tail = bl ++ args ∧ bl ≠ [] ∧ (∀ c ∈ bl, isReSpace c = true) ∧
        ∀ c, args.head? = some c → isReSpace c = false) → dispatchWord s line = some quit := by
    intro line tail hc ht
    obtain ⟨tail', e, ht'⟩ := quit_form_core f hf tail ht
    obtain ⟨a, l', hp⟩ := parseline_word quit tail' (by decide) (by decide) ht'
    unfold dispatchWord preprocessL
    rw [hc, e, hp]
  constructor
  · exact fin _ [] (by rw [List.append_nil]; exact cleaned_word_alone f ws1 dots ws2 comment hn hw hp hd) (Or.inl rfl)
  · intro bl args hbl hblw ha
    refine fin _ (bl ++ args) ?_ (Or.inr ⟨bl, args, rfl, hbl, hblw, ha.head⟩)
    exact (cleaned_word_args f bl args ws1 dots ws2 comment hn hw hp hd hblw ha).trans (List.append_assoc _ _ _)

/-- non-vacuity of the hypotheses: `"now" "x;y"` are acceptable arguments (the `;` is inside quotes),
blanks / dots / comment are noise. -/
example : ArgsOK "now \"x;y\"".toList ∧ Noise " \t".toList "..".toList "  ".toList "; bye \"".toList :=
  ⟨⟨by decide, by decide, by decide, by decide, by decide⟩, ⟨by decide, by decide, by decide, Or.inr ⟨_, rfl⟩⟩⟩

/-- `rejected_unchanged`: for ANY line in ANY state, if the line is refused — unknown command, `!…`,
syntax error, usage error, unknown label, overflow, illegal radix / width / number / register /
device, or an exception absorbed by the catch-all (open quote, bad breakpoint number, endless
repetition …) — then device, registers, memory, labels, breakpoints, radix and width are exactly what
they were.  (For `registers` "refused" means that not a single pair was assigned; see
`registers_exact` for the pair-by-pair statement.) -/
theorem rejected_unchanged (ext : Ext) (hext : ext.Honest) (s : State) (line : Str)
    (h : (onecmdL ext s line).1.verdict.isRejected = true) : (onecmdL ext s line).2.core = s.core :=
  onecmd_rejected ext hext s line h

/-- non-vacuity: each kind of refusal occurs. -/
example :
    let ext : Ext := { run := fun _ c _ => (.ok, c.regs, c.mem) }
    let c : Core := { dev := .d6502, regs := resetRegs .d6502, mem := fun _ => 0, labels := [("foo".toList, 5)],
                      breakpoints := [some 7], radix := 16, width := 78 }
    let v := fun (l : String) => (onecmdL ext { core := c, lastcmd := [] } l.toList).1.verdict
    v "frobnicate" = .rejected .unknownSyntax ∧ v "!ls" = .rejected .unknownSyntax ∧
    v "al c000" = .rejected .syntaxErr ∧ v "al nosuch x" = .rejected .label ∧ v "al $10000 x" = .rejected .overflow ∧
    v "al 1 \"x" = .rejected .raised ∧ v "db 1" = .rejected .raised ∧ v "width 9" = .rejected .illegal ∧
    v "radix x" = .rejected .illegal ∧ v "r a=$100" = .rejected .overflow ∧ v "r q=1" = .rejected .illegal ∧
    v "r a" = .rejected .syntaxErr ∧ v "mpu z80" = .rejected .illegal ∧ v "ab foo" = .ok ∧ v "r a=1,q=2" = .ok := by
  decide +kernel

/-- `registers_exact`: `registers <args>` finds the `name=value` pairs, judges each on its own
(`pairOutcome`: the name must be one of pc sp a x y p, the value must be a number or label the
address parser accepts, and it must fit the register: the byte width for all but pc, the address
width for pc) and assigns exactly the accepted ones, in order: afterwards every register holds the
value of the last accepted pair that names it, or its old value if there is none — in particular a
register that no pair names is unchanged.  Nothing else of the session changes (`runCommand`
rebuilds the state with only `regs` replaced). -/
theorem registers_exact (d : Dev) (P : Parser) (hP : P.WF) (r : Regs) (args : Str) :
    let res := doRegisters d P r args
    let outs := (findPairs args).map (pairOutcome d P)
    (∀ n, res.2.2.get n = (lastAssigned outs n).getD (r.get n)) ∧
    (∀ n, (∀ pair ∈ findPairs args, regOfName pair.1 ≠ some n) → res.2.2.get n = r.get n) ∧
    (∀ pair ∈ findPairs args, ∀ reg v, pairOutcome d P pair = .ok (reg, v) →
      regOfName pair.1 = some reg ∧ numberL P pair.2 = .ok v ∧ 0 ≤ v ∧ v ≤ P.maxaddr ∧
      (reg ≠ .pc → v ≤ d.byteMask)) := by
  intro res outs
  have main : ∀ n, res.2.2.get n = (lastAssigned outs n).getD (r.get n) := by
    intro n
    show (doRegisters d P r args).2.2.get n = _
    by_cases h1 : args = []
    · subst h1
      simp [doRegisters, outs, findPairs, findPairsF, lastAssigned]
    · by_cases h2 : findPairs args = []
      · simp [doRegisters, h1, h2, outs, lastAssigned]
      · simp only [doRegisters, h1, h2, if_false]
        exact (regsLoop_spec d P (findPairs args) r).2 n
  have fit : ∀ pair ∈ findPairs args, ∀ reg v, pairOutcome d P pair = .ok (reg, v) →
      regOfName pair.1 = some reg ∧ numberL P pair.2 = .ok v ∧ 0 ≤ v ∧ v ≤ P.maxaddr ∧
      (reg ≠ .pc → v ≤ d.byteMask) := by
    intro pair _ reg v ho
    obtain ⟨h1, h2, h3⟩ := pairOutcome_ok ho
    obtain ⟨b1, b2⟩ := numberL_bounded hP h2
    exact ⟨h1, h2, b1, b2, fun hne => (h3 hne).2⟩
  refine ⟨main, ?_, fit⟩
  intro n hn
  rw [main n]
  have : lastAssigned outs n = none := by
    unfold lastAssigned
    rw [List.getLast?_eq_none_iff, List.filterMap_eq_nil_iff]
    intro o ho
    simp only [outs, List.mem_map] at ho
    obtain ⟨pair, hp, rfl⟩ := ho
    cases hpo : pairOutcome d P pair with
    | error e => rfl
    | ok rv =>
      obtain ⟨reg, v⟩ := rv
      have := (pairOutcome_ok hpo).1
      have hne : reg ≠ n := fun e => hn pair hp (by rw [this, e])
      simp [hne]
  rw [this]; rfl

/-- non-vacuity: on the 6502 with label `foo = $c000`: `a=$12, x=$100, pc=foo, q=1, a=7` assigns
a (twice: 7 wins) and pc, refuses x (too wide) and q (no such register); y, sp, p keep their values. -/
example :
    let P : Parser := { width := 16, radix := 16, labels := [("foo".toList, 0xc000)] }
    let res := doRegisters .d6502 P (resetRegs .d6502) "a=$12, x=$100, pc=foo, q=1, a=7".toList
    res.2.2 = { a := 7, x := 0, y := 0, sp := 0xff, p := 0x30, pc := 0xc000 } ∧
    res.2.1 = [.ok (.a, 0x12), .error .overflow, .ok (.pc, 0xc000), .error .illegal, .ok (.a, 7)] := by
  decide +kernel

/-- `shortcut_equiv`: for every entry `sc ↦ cmd` of the shortcut table other than `~`, any leading
blanks, leading dots, at least one blank (of any kind) between shortcut and arguments, trailing blanks
and a trailing `;` comment outside quotes: the preprocessed line is `cmd`, one space, the arguments —
exactly what preprocessing leaves of the long command typed plainly; the shortcut alone gives `cmd`;
and `~` (blank optional) gives `tilde`, one space, and the text after `~`.  So every shortcut is
dispatched exactly as its long command with the same arguments. -/
theorem shortcut_equiv (sc cmd : Str) (hmem : (sc, cmd) ∈ shortcuts) (ws1 dots ws2 comment : Str)
    (hn : Noise ws1 dots ws2 comment) :
    (sc ≠ ['~'] →
      preprocessL (ws1 ++ dots ++ sc ++ ws2 ++ comment) = cmd ∧
      ∀ bl args, bl ≠ [] → (∀ c ∈ bl, isReSpace c = true) → ArgsOK args →
        preprocessL (ws1 ++ dots ++ (sc ++ bl ++ args) ++ ws2 ++ comment) = cmd ++ ' ' :: args ∧
        preprocessL (cmd ++ ' ' :: args) = cmd ++ ' ' :: args) ∧
    (∀ bl args, (∀ c ∈ bl, isReSpace c = true) → ArgsOK args →
        preprocessL (ws1 ++ dots ++ (['~'] ++ bl ++ args) ++ ws2 ++ comment) = tilde ++ ' ' :: (bl ++ args)) := by
  have hs := shortcut_of_mem hmem
  constructor
  · intro hnt
    constructor
    · unfold preprocessL
      rw [cleaned_word_alone sc ws1 dots ws2 comment hn hs.word hs.plain hs.noDot]
      exact preprocess_core_alone sc cmd hmem hnt
    · intro bl args hbl hblw ha
      constructor
      · unfold preprocessL
        rw [cleaned_word_args sc bl args ws1 dots ws2 comment hn hs.word hs.plain hs.noDot hblw ha]
        exact preprocess_core_args sc cmd hmem hnt bl args hbl hblw ha.head
      · -- the long form, typed plainly, is left alone: a command name is a word, and is not a shortcut
        obtain ⟨hcw, hplain, hhead⟩ := ident_word hs.cmdNe hs.ident
        have hcl := cleaned_word_args cmd [' '] args [] [] [] [] ⟨by simp, by simp, by simp, Or.inl rfl⟩ hcw hplain
          (hhead '.' (by decide)) (by simp; decide) ha
        simp only [List.nil_append, List.append_nil, List.append_assoc, List.singleton_append] at hcl
        have hth : (cmd ++ ' ' :: args).head? ≠ some '~' := by
          obtain ⟨x, xs, rfl⟩ := List.exists_cons_of_ne_nil hs.cmdNe
          exact hhead '~' (by decide)
        unfold preprocessL
        rw [hcl, tildeCase_id _ hth, shortcutLoop_word shortcuts cmd (' ' :: args) shortcuts_words hcw
          (Or.inr ⟨' ', args, rfl, by decide⟩), hs.fresh]
  · intro bl args hblw ha
    unfold preprocessL
    rw [cleaned_word_args ['~'] bl args ws1 dots ws2 comment hn ⟨by decide, by decide⟩ (by decide) (by decide) hblw ha]
    exact preprocess_core_tilde (bl ++ args)

/-- non-vacuity: `  ..m <tab> c000:c00f  ; dump` becomes `mem c000:c00f`. -/
example : preprocessL "  ..m \t c000:c00f  ; dump".toList = "mem c000:c00f".toList ∧
    preprocessL "~12".toList = "tilde 12".toList ∧ preprocessL ".q;".toList = quit := by
  decide +kernel

end Py65.Props.C20
