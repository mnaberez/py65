/-
C03 -- 65Org16: the 6502 instruction set at 16-bit bytes and 32-bit addresses

As C01, at the 16-bit configuration: the 65Org16 has the 6502's handler list
(`Proofs.row_65org16`), and `Proofs.stdHandler_ok` is proved for both widths, so an 8-bit literal
slipped into shared code breaks the W=16 case.
-/
import Py65.Proofs.Handlers

namespace Py65.Props.C03
open Py65 Py65.Gen Py65.Spec Py65.Proofs

/-- Opcodes `C03_partial` leaves out.  The list is empty, so `C03_partial` is the full property. -/
def unproved : List Int := []

/-- The full statement of C03: for every documented opcode and every well-formed state (any
registers, flags, PC, memory contents), one `step()` of the generated model of the real device
is exactly one step of the programming model, on A X Y SP, the status flags (bits 4/5 ignored),
PC, every memory cell.  ADC/SBC: binary mode.  JSR: the two stack cells it writes are not its
own operand bytes (the only self-overwrite the proof needs to exclude). -/
def Statement : Prop :=
  ∀ (s : St), WF dev65org16.cfg s → s.waiting = false →
  ∀ (mn : Mn) (mo : Mode), decode .nmos (s.mem s.pc) = some (mn, mo) →
  ((mn = .ADC ∨ mn = .SBC) → flag s.p bitD = false) →
  (mn = .JSR → NoSelfOverwriteJSR dev65org16.cfg (afterFetch dev65org16.cfg dev65org16.tbl s)) →
  abs (dev65org16.step s) = Spec.step 16 .nmos (abs s)

theorem C03_partial (s : St) (hs : WF dev65org16.cfg s) (hw : s.waiting = false)
    (mn : Mn) (mo : Mode) (hd : decode .nmos (s.mem s.pc) = some (mn, mo))
    (hproved : s.mem s.pc ∉ unproved)
    (hdec : (mn = .ADC ∨ mn = .SBC) → flag s.p bitD = false)
    (hjsr : mn = .JSR → NoSelfOverwriteJSR dev65org16.cfg (afterFetch dev65org16.cfg dev65org16.tbl s)) :
    abs (dev65org16.step s) = Spec.step 16 .nmos (abs s) := by
  rw [step_65org16 hw]
  exact step_row (.inr rfl) dev65org16.tbl s hs hw hd (row_65org16 hd) nofun ⟨hdec, hjsr⟩

/-- C03 in full: `unproved` is empty, so the partial theorem is the statement. -/
theorem C03_full : Statement := fun s hs hw mn mo hd hdec hjsr =>
  C03_partial s hs hw mn mo hd (by simp [unproved]) hdec hjsr

/-- Non-vacuity: a concrete well-formed state executing LDA #$80 satisfies every hypothesis. -/
example : ∃ s : St, WF dev65org16.cfg s ∧ s.waiting = false ∧
    decode .nmos (s.mem s.pc) = some (.LDA, .imm) ∧ s.mem s.pc ∉ unproved := by
  refine ⟨{ (default : St) with mem := fun k => if k = 0 then 0xa9 else 0x80 }, ?_, rfl, by decide, by decide⟩
  refine ⟨by decide, by decide, by decide, by decide, by decide, by decide, ?_⟩
  intro k; dsimp only; split <;> decide

end Py65.Props.C03
