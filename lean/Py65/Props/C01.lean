/-
C01 -- NMOS 6502: every documented instruction executes per the programming model

A declared opcode names a row of `Spec.nmosTable`; the device's table holds the row's
`stdHandler` there (`Proofs.row_6502`, one `rfl` per row in `Proofs/Rows.lean`), and `stdHandler`
meets `Spec.exec` (`Proofs.stdHandler_ok`, by cases on the mnemonic); `Proofs.step_row` puts the
two under `step()`.
-/
import Py65.Proofs.Handlers

namespace Py65.Props.C01
open Py65 Py65.Gen Py65.Spec Py65.Proofs

/-- Opcodes `C01_partial` leaves out.  The list is empty, so `C01_partial` is the full property. -/
def unproved : List Int := []

/-- The full statement of C01: for every documented opcode and every well-formed state (any
registers, flags, PC, memory contents), one `step()` of the generated model of the real device
is exactly one step of the programming model, on A X Y SP, the status flags (bits 4/5 ignored),
PC, every memory cell.  ADC/SBC: binary mode.  JSR: the two stack cells it writes are not its
own operand bytes (the only self-overwrite the proof needs to exclude). -/
def Statement : Prop :=
  ∀ (s : St), WF dev6502.cfg s → s.waiting = false →
  ∀ (mn : Mn) (mo : Mode), decode .nmos (s.mem s.pc) = some (mn, mo) →
  ((mn = .ADC ∨ mn = .SBC) → flag s.p bitD = false) →
  (mn = .JSR → NoSelfOverwriteJSR dev6502.cfg (afterFetch dev6502.cfg dev6502.tbl s)) →
  abs (dev6502.step s) = Spec.step 8 .nmos (abs s)

theorem C01_partial (s : St) (hs : WF dev6502.cfg s) (hw : s.waiting = false)
    (mn : Mn) (mo : Mode) (hd : decode .nmos (s.mem s.pc) = some (mn, mo))
    (hproved : s.mem s.pc ∉ unproved)
    (hdec : (mn = .ADC ∨ mn = .SBC) → flag s.p bitD = false)
    (hjsr : mn = .JSR → NoSelfOverwriteJSR dev6502.cfg (afterFetch dev6502.cfg dev6502.tbl s)) :
    abs (dev6502.step s) = Spec.step 8 .nmos (abs s) := by
  exact step_row (.inl rfl) dev6502.tbl s hs hw hd (row_6502 hd) nofun ⟨hdec, hjsr⟩

/-- C01 in full: `unproved` is empty, so the partial theorem is the statement. -/
theorem C01_full : Statement := fun s hs hw mn mo hd hdec hjsr =>
  C01_partial s hs hw mn mo hd (by simp [unproved]) hdec hjsr

/-- Non-vacuity: a concrete well-formed state executing LDA #$80 satisfies every hypothesis. -/
example : ∃ s : St, WF dev6502.cfg s ∧ s.waiting = false ∧
    decode .nmos (s.mem s.pc) = some (.LDA, .imm) ∧ s.mem s.pc ∉ unproved := by
  refine ⟨{ (default : St) with mem := fun k => if k = 0 then 0xa9 else 0x80 }, ?_, rfl, by decide, by decide⟩
  refine ⟨by decide, by decide, by decide, by decide, by decide, by decide, ?_⟩
  intro k; dsimp only; split <;> decide

end Py65.Props.C01
