/-
C19 — "What the monitor displays is the machine's true state": the register line, the byte column
of `disassemble`, the cycle counter.  (Number round trips and `tilde_consistent`: `Props/C19.lean`;
`mem`: `mem_exact` of C16.)  Same namespace as `Props/C19.lean`.

The theorems are about the hand-written model `Py65/Model/Fmt.lean` of `MPU.__repr__` (all three devices), the status print,
`do_cycles` and `_format_disassembly`; the model is tied to the real code, byte for byte, by the
correspondence run of `harness/props/c19.py`.
-/
import Py65.Proofs.FmtLemmas
import Py65.Props.C19

namespace Py65.Props.C19
open Py65.Model.PyStr Py65.Model.Fmt Py65.Proofs.Fmt Py65.Proofs.Num

/-- `repr_roundtrip`: for every device and registers within the device's widths, reading the second
line of `repr(mpu)` back by its fixed columns (skip `name: `, then hex fields of 4/2 resp. 8/4 digits
separated by one blank, then `BYTE_WIDTH` binary digits) gives back exactly PC, A, X, Y, SP and P. -/
theorem repr_roundtrip (d : Dev) (hd : d ∈ devices) (r : Regs) (hr : r.WF d) :
    parseLine2 d (afterNewline (Model.Fmt.repr d r)) = some r :=
  parseLine2_repr d (devOK_of_mem hd) r hr

/-- non-vacuity: the 6502 at `PC=$c000 A=1 X=2 Y=3 SP=$ff P=$30` prints the familiar two lines, and
the 65Org16 its wide ones. -/
example :
    Model.Fmt.repr dev6502 { pc := 0xc000, a := 1, x := 2, y := 3, sp := 0xff, p := 0x30 } =
      "       PC  AC XR YR SP NV-BDIZC\n6502: c000 01 02 03 ff 00110000".toList ∧
    Model.Fmt.repr dev65org16 { pc := 0xc000, a := 1, x := 2, y := 3, sp := 0xffff, p := 0x8030 } =
      "            PC     AC   XR   YR   SP  NV---------BDIZC\n65Org16: 0000c000 0001 0002 0003 ffff 1000000000110000".toList := by
  -- hand the kernel each literal as its list of characters: it then compares lists instead of decoding UTF-8
  repeat rw [String.toList_ofList]
  decide +kernel

example : ({ pc := 0xc000, a := 1, x := 2, y := 3, sp := 0xff, p := 0x30 } : Regs).WF dev6502 := by
  simp [Regs.WF, dev6502]

/-- `repr_flag_bits`: the flag field is, from left to right, bits `W-1 … 0` of P (`'1'` for a set
bit), it has exactly `W = BYTE_WIDTH` characters, it starts at column `flagCol` of the second line,
and the first line carries the title `NV-BDIZC` (`NV---------BDIZC` on the 65Org16) at that very
column — so N is bit `W-1`, V bit `W-2`, and B, D, I, Z, C bits 4 … 0 under their letters. -/
theorem repr_flag_bits (d : Dev) (hd : d ∈ devices) (r : Regs) (hr : r.WF d) :
    flags d r.p = (List.range d.byteWidth).reverse.map (flagChar r.p) ∧
    (flags d r.p).length = d.byteWidth ∧
    (reprLine2 d r).drop (flagCol d) = flags d r.p ∧
    (reprLine1 d).drop (flagCol d) = flagTitle d ∧ (flagTitle d).length = d.byteWidth := by
  have ok := devOK_of_mem hd
  refine ⟨?_, flags_length d r.p ok.bw hr.2.2.2.2.2, reprLine2_flags d ok r hr, ?_, ?_⟩
  · exact rjust_bin_bits d.byteWidth r.p ok.bw hr.2.2.2.2.2
  · simp only [devices, List.mem_cons, List.mem_nil_iff, or_false] at hd
    rcases hd with rfl | rfl | rfl <;> decide
  · simp only [devices, List.mem_cons, List.mem_nil_iff, or_false] at hd
    rcases hd with rfl | rfl | rfl <;> decide

/-- non-vacuity: P = %10110001 on the 6502 shows N, B and C set (and the unused bit 5). -/
example : flags dev6502 0xb1 = "10110001".toList ∧ flagTitle dev6502 = "NV-BDIZC".toList := by
  repeat rw [String.toList_ofList]
  decide +kernel

/-- `disasm_shows_bytes`: a line of `disassemble` / `assemble` / `step` output starts with `$` and the
address in the device's address format (reading it back gives the address); then, two blanks on,
the `k`-th group of the byte column (`BYTE_FORMAT` and a blank) is the cell at `address + k`, wrapping
to 0 after the top of the address space, for every `k` below the instruction length; and for
instructions of up to three cells the instruction text starts right after the fixed-width column
(`1 + int(1 + byteWidth/4)*3` characters). -/
theorem disasm_shows_bytes (d : Dev) (hd : d ∈ devices) (mem : Nat → Nat) (hm : ∀ a, mem a < 2 ^ d.byteWidth)
    (address length : Nat) (ha : address < 2 ^ d.addrWidth) (disasm : Str) :
    let t := formatDisassembly d mem address length disasm
    t.head? = some '$' ∧
    pyIntL ((t.drop 1).take d.addrDigits) 16 = some (address : Int) ∧
    (∀ k, k < length →
      ((t.drop (1 + d.addrDigits + 2 + k * (d.byteDigits + 1))).take (d.byteDigits + 1) =
          fmtHexL d.byteDigits (mem ((address + k) % 2 ^ d.addrWidth)) ++ [' '] ∧
       pyIntL (fmtHexL d.byteDigits (mem ((address + k) % 2 ^ d.addrWidth))) 16 =
          some ((mem ((address + k) % 2 ^ d.addrWidth) : Nat) : Int))) ∧
    (length ≤ 3 → t.drop (1 + d.addrDigits + 2 + fieldWidth d) = disasm) := by
  intro t
  have ok := devOK_of_mem hd
  have hm' : ∀ a, mem a < 16 ^ d.byteDigits := fun a => by rw [← ok.bfit]; exact hm a
  have la : (fmtHexL d.addrDigits address).length = d.addrDigits :=
    fmtHexL_length _ _ ok.ad (by rw [← ok.afit]; exact ha)
  have et : t = '$' :: (fmtHexL d.addrDigits address ++ ' ' :: ' ' :: (dumpLoop d mem address length ++
      (List.replicate (fieldWidth d - (dumpLoop d mem address length).length) ' ' ++ disasm))) :=
    formatDisassembly_eq d mem address length disasm
  have hdrop : ∀ x, t.drop (1 + d.addrDigits + 2 + x) = (dumpLoop d mem address length ++
      (List.replicate (fieldWidth d - (dumpLoop d mem address length).length) ' ' ++ disasm)).drop x := by
    intro x
    rw [et, show 1 + d.addrDigits + 2 + x = (d.addrDigits + (2 + x)) + 1 by omega, List.drop_succ_cons]
    rw [List.drop_append, List.drop_eq_nil_of_le (by omega), la, Nat.add_sub_cancel_left, List.nil_append]
    rw [show 2 + x = x + 1 + 1 by omega, List.drop_succ_cons, List.drop_succ_cons]
  refine ⟨by rw [et]; rfl, ?_, ?_, ?_⟩
  · rw [et]
    simp only [List.drop_succ_cons, List.drop_zero]
    rw [List.take_left' la]
    exact pyIntL_fmtHexL _ _
  · intro k hk
    refine ⟨?_, pyIntL_fmtHexL _ _⟩
    rw [hdrop]
    exact dumpLoop_chunk d mem ok.bd hm' length address k _ (Nat.le_of_lt ha) hk
  · intro hl
    rw [hdrop]
    have hlen := dumpLoop_length d mem ok.bd hm' length address (Nat.le_of_lt ha)
    have hle : (dumpLoop d mem address length).length ≤ fieldWidth d := by
      rw [hlen, ok.fw]
      have : length * (d.byteDigits + 1) ≤ 3 * (d.byteDigits + 1) := Nat.mul_le_mul_right _ hl
      omega
    rw [← List.append_assoc]
    apply List.drop_left'
    simp only [List.length_append, List.length_replicate]
    omega

/-- non-vacuity: `JMP $1234` assembled at the last cell of the 6502's memory: the listing shows
`$ffff  4c 34 12  JMP $1234` with the operand cells taken from addresses 0 and 1. -/
example :
    formatDisassembly dev6502 (fun a => if a = 0xffff then 0x4c else if a = 0 then 0x34 else if a = 1 then 0x12 else 0xea)
      0xffff 3 "JMP $1234".toList = "$ffff  4c 34 12  JMP $1234".toList := by
  repeat rw [String.toList_ofList]
  decide +kernel

/-- `cycles_shows_counter`: `cycles` prints the decimal digits of the cycle counter; reading them
back gives the counter (for every counter CPython can print at all: below `10^4300`). -/
theorem cycles_shows_counter (n : Nat) (hn : n < 10 ^ 4300) : pyIntL (cyclesText n) 10 = some (n : Int) := by
  have h := fmt_roundtrip_dec n hn
  simpa [pyInt, fmtDec, cyclesText] using h

example : cyclesText 123456 = "123456".toList := by
  rw [String.toList_ofList]
  decide +kernel

end Py65.Props.C19
