/-
C15g -- the C15 property theorems (address parsing is exact, bounded and fails only with
KeyError/OverflowError) restated for the definitions GENERATED from the current
`py65/utils/addressing.py` by `harness/py2lean_addr.py` (`Py65.Gen.AddrParserGen`).

Each theorem is obtained from its namesake in `Py65/Props/C15.lean` (about the
hand model) by rewriting with the equalities of `Py65/Proofs/AddrParserGenEq.lean`
(`number_eq`, `range_eq`, `constrain_eq`, `init_eq`, `label_for_eq`, `address_for_eq`), so a change
of the source that changes what the translation computes breaks that equality and with it every
theorem here.  Reading aids:

  * `self : Self` is the generated object (fields `radix`, `_maxwidth`, `_maxaddr`, `labels`);
    `MaxaddrInv self` is `self._maxaddr = 2 ^ self._maxwidth - 1`, established by `_set_maxwidth` (the only
    writer of the two attributes) and by `__init__` (`parser_wf`); `WF self` = every label value is
    in range (what `__init__` and the monitor store);
  * the generated functions work on `Str = List Char`; results are `Except Exc _`:
    `.ok v` = returned `v`, `.error .keyError` = raised `KeyError`, `.error .overflowError` = raised
    `OverflowError`;
  * `spelling b z m n` = `z` zeros followed by the base-`b` digits of `n`, letter cases chosen by `m`.

Beside each theorem a non-vacuity `example` (the objects `S16`/`S24`/`S32` are the generated
counterparts of C15's `P16`/`P24`/`P32`).
-/
import Py65.Props.C15
import Py65.Proofs.AddrParserGenEq

namespace Py65.Props.C15g
open Py65.Model Py65.Model.PyStr Py65.Model.AddrParser Py65.Model.PyRt Py65.Proofs.Num
open Py65.Proofs.AddrParserRep Py65.Proofs.AddrParserGenEq
open Py65.Gen
open Py65.Gen.AddrParserGen (Self)

/-- `$hex`: any number of leading zeros, any letter case, any width. -/
theorem num_hex (self : Self) (hi : MaxaddrInv self) (n z : Nat) (m : List Bool) (hn : n < 2 ^ self._maxwidth) :
    AddrParserGen.number self ("$" ++ String.ofList (spelling 16 z m n)).toList = .ok n :=
  number_ok self hi (C15.num_hex (toParser self) n z m hn)

example : MaxaddrInv S16 ∧ 255 < 2 ^ S16._maxwidth := ⟨rfl, by decide⟩
example : AddrParserGen.number S16 "$00fF".toList = .ok 255 := number_ok S16 rfl (by decide +kernel)
example : AddrParserGen.number S32 "$0000ffffffff".toList = .ok 4294967295 := number_ok S32 rfl (by decide +kernel)

/-- `+decimal`; CPython refuses more than 4300 decimal digits (`num_dec_digit_limit`). -/
theorem num_dec (self : Self) (hi : MaxaddrInv self) (n z : Nat) (hn : n < 2 ^ self._maxwidth)
    (hlim : z + (toDigits 10 n).length ≤ 4300) :
    AddrParserGen.number self ("+" ++ String.ofList (spelling 10 z [] n)).toList = .ok n :=
  number_ok self hi (C15.num_dec (toParser self) n z hn hlim)

example : AddrParserGen.number S16 "+0065535".toList = .ok 65535 := number_ok S16 rfl (by decide +kernel)
example : ∃ n z, n < 2 ^ S32._maxwidth ∧ z + (toDigits 10 n).length ≤ 4300 :=
  ⟨4294967295, 4000, by decide, C15.num_dec_limit_ok _ _ 32 (by decide) (by decide) (by decide)⟩

/-- A decimal spelling with more than 4300 digits is a `KeyError` (CPython's digit limit). -/
theorem num_dec_digit_limit (self : Self) (hi : MaxaddrInv self) (n z : Nat)
    (hlim : 4300 < z + (toDigits 10 n).length) :
    AddrParserGen.number self ("+" ++ String.ofList (spelling 10 z [] n)).toList = .error .keyError :=
  number_key self hi (C15.num_dec_digit_limit (toParser self) n z hlim)

example : 4300 < 4300 + (toDigits 10 7).length := by
  have := toDigits_ne_nil 10 7
  have : 0 < (toDigits 10 7).length := List.length_pos_iff.mpr this
  omega

/-- `%binary` -/
theorem num_bin (self : Self) (hi : MaxaddrInv self) (n z : Nat) (hn : n < 2 ^ self._maxwidth) :
    AddrParserGen.number self ("%" ++ String.ofList (spelling 2 z [] n)).toList = .ok n :=
  number_ok self hi (C15.num_bin (toParser self) n z hn)

example : AddrParserGen.number S16 "%0001111111111111111".toList = .ok 65535 := number_ok S16 rfl (by decide +kernel)

/-- Bare digits in the default radix 16 / 10 / 8 / 2, when that digit string is not a label. -/
theorem num_bare (self : Self) (hi : MaxaddrInv self) (n z : Nat) (m : List Bool)
    (hr : self.radix = 16 ∨ self.radix = 10 ∨ self.radix = 8 ∨ self.radix = 2) (hn : n < 2 ^ self._maxwidth)
    (hlim : self.radix = 10 → z + (toDigits 10 n).length ≤ 4300)
    (hnl : lookup self.labels (spelling self.radix z m n) = none) :
    AddrParserGen.number self (String.ofList (spelling self.radix z m n)).toList = .ok n :=
  number_ok self hi (C15.num_bare (toParser self) n z m hr hn hlim hnl)

example : AddrParserGen.number S16 "00Ff".toList = .ok 255 := number_ok S16 rfl (by decide +kernel)
example : AddrParserGen.number S24 "0016777215".toList = .ok 16777215 := number_ok S24 rfl (by decide +kernel)
example : AddrParserGen.number S32 "37777777777".toList = .ok 4294967295 := number_ok S32 rfl (by decide +kernel)
example : lookup S16.labels "00Ff".toList = none := by decide +kernel

/-- A defined label (whose name is not taken by a number prefix) parses to its address. -/
theorem num_label (self : Self) (hi : MaxaddrInv self) (l : String) (a : Int) (hp : NoPrefix l.toList)
    (hl : lookup self.labels l.toList = some a) : AddrParserGen.number self l.toList = .ok a :=
  number_ok self hi (C15.num_label (toParser self) l a hp hl)

example : AddrParserGen.number S16 "foo".toList = .ok 0xc000 := number_ok S16 rfl (by decide +kernel)
example : NoPrefix "foo".toList ∧ lookup S16.labels "foo".toList = some 0xc000 := by decide +kernel

/-- `C15.num_label_offset` for the generated `number`. -/
theorem num_label_offset (self : Self) (hi : MaxaddrInv self) (l b1 b2 sp : String) (sign : Char) (a m : Int)
    (hl : l.toList ≠ []) (hlc : ∀ c ∈ l.toList, isLabelChar c = true) (hlp : NoPrefix l.toList)
    (hb1 : ∀ c ∈ b1.toList, isReSpace c = true) (hb2 : ∀ c ∈ b2.toList, isReSpace c = true)
    (hs : sign = '+' ∨ sign = '-') (hsp : OffsetPat sp.toList)
    (hwhole : lookup self.labels (l ++ b1 ++ String.singleton sign ++ b2 ++ sp).toList = none)
    (ha : lookup self.labels l.toList = some a) (hm : AddrParserGen.number self sp.toList = .ok m) :
    AddrParserGen.number self (l ++ b1 ++ String.singleton sign ++ b2 ++ sp).toList
      = AddrParserGen._constrain self (if sign = '+' then a + m else a - m) :=
  number_constrain self hi
    (C15.num_label_offset (toParser self) l b1 b2 sp sign a m hl hlc hlp hb1 hb2 hs hsp hwhole ha
      (number_of_ok self hi hm))

example : AddrParserGen.number S16 "foo+$10".toList = .ok 0xc010 := number_ok S16 rfl (by decide +kernel)
example : AddrParserGen.number S16 "foo  -\t+16".toList = .ok 0xbff0 := number_ok S16 rfl (by decide +kernel)
example : AddrParserGen.number S16 "ten-11".toList = .error .overflowError :=
  number_overflow S16 rfl (by decide +kernel)
example : AddrParserGen._constrain S16 (0xc000 + 0x10) = .ok 0xc010 := by decide +kernel

/-- The inner failure of the offset, and an unknown label, propagate. -/
theorem num_label_offset_err (self : Self) (hi : MaxaddrInv self) (l b1 b2 sp : String) (sign : Char)
    (hl : l.toList ≠ []) (hlc : ∀ c ∈ l.toList, isLabelChar c = true) (hlp : NoPrefix l.toList)
    (hb1 : ∀ c ∈ b1.toList, isReSpace c = true) (hb2 : ∀ c ∈ b2.toList, isReSpace c = true)
    (hs : sign = '+' ∨ sign = '-') (hsp : OffsetPat sp.toList)
    (hwhole : lookup self.labels (l ++ b1 ++ String.singleton sign ++ b2 ++ sp).toList = none) :
    (lookup self.labels l.toList = none →
      AddrParserGen.number self (l ++ b1 ++ String.singleton sign ++ b2 ++ sp).toList = .error .keyError) ∧
    (∀ a, lookup self.labels l.toList = some a → AddrParserGen.number self sp.toList = .error .keyError →
      AddrParserGen.number self (l ++ b1 ++ String.singleton sign ++ b2 ++ sp).toList = .error .keyError) ∧
    (∀ a, lookup self.labels l.toList = some a → AddrParserGen.number self sp.toList = .error .overflowError →
      AddrParserGen.number self (l ++ b1 ++ String.singleton sign ++ b2 ++ sp).toList
        = .error .overflowError) := by
  obtain ⟨h1, h2, h3⟩ :=
    C15.num_label_offset_err (toParser self) l b1 b2 sp sign hl hlc hlp hb1 hb2 hs hsp hwhole
  exact ⟨fun h => number_key self hi (h1 h),
    fun a ha hk => number_key self hi (h2 a ha (number_of_key self hi hk)),
    fun a ha ho => number_overflow self hi (h3 a ha (number_of_overflow self hi ho))⟩

example : AddrParserGen.number S16 "bar+1".toList = .error .keyError := number_key S16 rfl (by decide +kernel)
example : AddrParserGen.number S16 "foo+$10000".toList = .error .overflowError :=
  number_overflow S16 rfl (by decide +kernel)

/-- `C15.num_label_offset_spellings` for the generated `number` (side conditions as there). -/
theorem num_label_offset_spellings (self : Self) (hi : MaxaddrInv self) (l b1 b2 : String) (sign : Char) (a : Int)
    (m z : Nat) (mask : List Bool)
    (hl : l.toList ≠ []) (hlc : ∀ c ∈ l.toList, isLabelChar c = true) (hlp : NoPrefix l.toList)
    (hb1 : ∀ c ∈ b1.toList, isReSpace c = true) (hb2 : ∀ c ∈ b2.toList, isReSpace c = true)
    (hs : sign = '+' ∨ sign = '-') (ha : lookup self.labels l.toList = some a) (hm : m < 2 ^ self._maxwidth) :
    let whole := fun (sp : String) => l ++ b1 ++ String.singleton sign ++ b2 ++ sp
    let r := AddrParserGen._constrain self (if sign = '+' then a + m else a - m)
    (∀ sp, sp = "$" ++ String.ofList (spelling 16 z mask m) →
      lookup self.labels (whole sp).toList = none → AddrParserGen.number self (whole sp).toList = r) ∧
    (∀ sp, sp = "+" ++ String.ofList (spelling 10 z [] m) → z + (toDigits 10 m).length ≤ 4300 →
      lookup self.labels (whole sp).toList = none → AddrParserGen.number self (whole sp).toList = r) ∧
    (∀ sp, sp = "%" ++ String.ofList (spelling 2 z [] m) →
      lookup self.labels (whole sp).toList = none → AddrParserGen.number self (whole sp).toList = r) ∧
    (∀ sp, sp = String.ofList (spelling self.radix z mask m) →
      (self.radix = 16 ∨ self.radix = 10 ∨ self.radix = 8 ∨ self.radix = 2) →
      (self.radix = 10 → z + (toDigits 10 m).length ≤ 4300) →
      lookup self.labels (spelling self.radix z mask m) = none →
      lookup self.labels (whole sp).toList = none → AddrParserGen.number self (whole sp).toList = r) := by
  intro whole r
  obtain ⟨h1, h2, h3, h4⟩ := C15.num_label_offset_spellings (toParser self) l b1 b2 sign a m z mask
    hl hlc hlp hb1 hb2 hs ha hm
  exact ⟨fun sp e hw => number_constrain self hi (h1 sp e hw),
    fun sp e hlim hw => number_constrain self hi (h2 sp e hlim hw),
    fun sp e hw => number_constrain self hi (h3 sp e hw),
    fun sp e hr hlim hnl hw => number_constrain self hi (h4 sp e hr hlim hnl hw)⟩

example : AddrParserGen.number S16 "foo+$1a".toList = .ok 0xc01a ∧
    AddrParserGen.number S16 "foo - FF".toList = .ok 0xbf01 ∧
    AddrParserGen.number S16 "foo++26".toList = .ok 0xc01a ∧
    AddrParserGen.number S16 "foo-%11010".toList = .ok 0xbfe6 :=
  ⟨number_ok S16 rfl (by decide +kernel), number_ok S16 rfl (by decide +kernel), number_ok S16 rfl (by decide +kernel),
    number_ok S16 rfl (by decide +kernel)⟩

/-- Any result lies in `[0, 2^width - 1]` (label table filled through `_constrain`). -/
theorem num_bounded (self : Self) (hi : MaxaddrInv self) (hwf : WF self) (s : String) (n : Int)
    (h : AddrParserGen.number self s.toList = .ok n) : 0 ≤ n ∧ n < 2 ^ self._maxwidth :=
  C15.num_bounded (toParser self) hwf s n (number_of_ok self hi h)

example : WF S16 ∧ AddrParserGen.number S16 "foo-1".toList = .ok 0xbfff :=
  ⟨exWF 16 16 (by decide), number_ok S16 rfl (by decide +kernel)⟩

/-- No input string makes the generated `number` raise anything but `KeyError` / `OverflowError`
(in particular neither the `ValueError` of `int()` nor the recursion bound escapes). -/
theorem num_errors (self : Self) (hi : MaxaddrInv self) (s : String) (e : Exc)
    (h : AddrParserGen.number self s.toList = .error e) : e = .keyError ∨ e = .overflowError := by
  have hne : toRes (AddrParserGen.number self s.toList) ≠ .other := by
    rw [number_eq self hi]; exact C15.num_errors (toParser self) s
  exact toRes_ne_other.mp hne e h

example : AddrParserGen.number S16 "a+b-1".toList = .error .keyError ∧
    AddrParserGen.number S16 "+".toList = .error .keyError ∧
    AddrParserGen.number S16 "".toList = .error .keyError :=
  ⟨number_key S16 rfl (by decide +kernel), number_key S16 rfl (by decide +kernel), number_key S16 rfl (by decide +kernel)⟩

/-- `C15.num_overflow` for the generated `number`. -/
theorem num_overflow (self : Self) (hi : MaxaddrInv self) (n z : Nat) (m : List Bool) (hn : 2 ^ self._maxwidth ≤ n) :
    AddrParserGen.number self ("$" ++ String.ofList (spelling 16 z m n)).toList = .error .overflowError ∧
    (z + (toDigits 10 n).length ≤ 4300 →
      AddrParserGen.number self ("+" ++ String.ofList (spelling 10 z [] n)).toList = .error .overflowError) ∧
    AddrParserGen.number self ("%" ++ String.ofList (spelling 2 z [] n)).toList = .error .overflowError ∧
    AddrParserGen.number self ("$-" ++ String.ofList (spelling 16 z m (n + 1))).toList
      = .error .overflowError := by
  obtain ⟨h1, h2, h3, h4⟩ := C15.num_overflow (toParser self) n z m hn
  exact ⟨number_overflow self hi h1, fun hl => number_overflow self hi (h2 hl), number_overflow self hi h3,
    number_overflow self hi h4⟩

example : AddrParserGen.number S16 "$10000".toList = .error .overflowError ∧
    AddrParserGen.number S16 "$-1".toList = .error .overflowError :=
  ⟨number_overflow S16 rfl (by decide +kernel), number_overflow S16 rfl (by decide +kernel)⟩

/-- Unknown labels and malformed text raise `KeyError`. -/
theorem num_malformed (self : Self) (hi : MaxaddrInv self) (s : String) :
    (pyInt s 16 = none → AddrParserGen.number self ("$" ++ s).toList = .error .keyError) ∧
    (pyInt s 10 = none → AddrParserGen.number self ("+" ++ s).toList = .error .keyError) ∧
    (pyInt s 2 = none → AddrParserGen.number self ("%" ++ s).toList = .error .keyError) ∧
    (NoPrefix s.toList → (∀ c ∈ s.toList, isLabelChar c = true) → lookup self.labels s.toList = none →
      pyInt s self.radix = none → AddrParserGen.number self s.toList = .error .keyError) := by
  obtain ⟨h1, h2, h3, h4⟩ := C15.num_malformed (toParser self) s
  exact ⟨fun h => number_key self hi (h1 h), fun h => number_key self hi (h2 h),
    fun h => number_key self hi (h3 h), fun a b c d => number_key self hi (h4 a b c d)⟩

example : AddrParserGen.number S16 "$xyz".toList = .error .keyError ∧
    AddrParserGen.number S16 "nosuch".toList = .error .keyError :=
  ⟨number_key S16 rfl (by decide +kernel), number_key S16 rfl (by decide +kernel)⟩

/-- `range()` returns an ordered pair of in-range addresses, whatever the input form. -/
theorem range_ordered (self : Self) (hi : MaxaddrInv self) (hwf : WF self) (s : String) (a b : Int)
    (h : AddrParserGen.range self s.toList = .ok (a, b)) : a ≤ b ∧ 0 ≤ a ∧ b < 2 ^ self._maxwidth := by
  have he := range_eq self hi s.toList
  rw [h] at he
  exact C15.range_ordered (toParser self) hwf s a b he.symm

/-- and raises nothing but `KeyError` / `OverflowError`. -/
theorem range_errors (self : Self) (hi : MaxaddrInv self) (s : String) (e : Exc)
    (h : AddrParserGen.range self s.toList = .error e) : e = .keyError ∨ e = .overflowError := by
  have hne : toRRes (AddrParserGen.range self s.toList) ≠ .other := by
    rw [range_eq self hi]; exact C15.range_errors (toParser self) s
  exact toRRes_ne_other.mp hne e h

example : AddrParserGen.range S16 "$ffff:foo".toList = .ok (0xc000, 0xffff) :=
  toRRes_ok.mp ((range_eq S16 rfl _).trans (by decide +kernel))

/-- `C15.range_pair` for the generated `range`. -/
theorem range_pair (self : Self) (x seps ws y : String)
    (hx : x.toList ≠ []) (hxc : ∀ c ∈ x.toList, isSep c = false)
    (hs : seps.toList ≠ []) (hsc : ∀ c ∈ seps.toList, isSep c = true)
    (hw : ∀ c ∈ ws.toList, isReSpace c = true)
    (hy : y.toList ≠ []) (hyc : ∀ c ∈ y.toList, isSep c = false)
    (hy0 : ∀ c, y.toList.head? = some c → isReSpace c = false) :
    AddrParserGen.range self (x ++ seps ++ ws ++ y).toList =
      (AddrParserGen.number self x.toList >>= fun a =>
       AddrParserGen.number self y.toList >>= fun b => pure (min a b, max a b)) := by
  have hm := matchRange_compose hx hxc hs hsc hw hy hyc hy0
  have hstr : (x ++ seps ++ ws ++ y).toList = x.toList ++ (seps.toList ++ (ws.toList ++ y.toList)) := by
    simp [String.toList_append]
  rw [hstr]
  exact range_some self hm

example : AddrParserGen.range S16 "$20,$10".toList = .ok (16, 32) :=
  toRRes_ok.mp ((range_eq S16 rfl _).trans (by decide +kernel))

/-- The single-address form: a string without `:` and `,`. -/
theorem range_single (self : Self) (s : String) (hs : ∀ c ∈ s.toList, isSep c = false) :
    AddrParserGen.range self s.toList = (AddrParserGen.number self s.toList >>= fun a => pure (a, a)) :=
  range_none self (matchRange_none_of_nosep hs)

example : AddrParserGen.range S16 "foo+1".toList = .ok (0xc001, 0xc001) :=
  toRRes_ok.mp ((range_eq S16 rfl _).trans (by decide +kernel))

/-- `__init__` stores width and radix, establishes `MaxaddrInv` and a well-formed label table (every value
went through `_constrain`), and the monitor's `labels[name] = number(...)` keeps it well formed. -/
theorem parser_wf (w r : Nat) (ls : List (Str × Int)) (self : Self)
    (h : AddrParserGen.__init__ w r ls = .ok self) :
    MaxaddrInv self ∧ WF self ∧ self._maxwidth = w ∧ self.radix = r ∧
    ∀ (k s : String) (v : Int), AddrParserGen.number self s.toList = .ok v →
      WF { self with labels := PyRt.dictSetItem self.labels k.toList v } := by
  obtain ⟨he, hinv, _⟩ := init_eq w r ls
  have hi := hinv self h
  rw [h] at he
  obtain ⟨h1, h2, h3, h4⟩ := C15.parser_wf w r ls (toParser self) he.symm
  exact ⟨hi, h1, h2, h3, fun k s v hv => h4 k s v (number_of_ok self hi hv)⟩

/-- The constructor raises nothing but `OverflowError` (a label value out of range). -/
theorem init_errors (w r : Nat) (ls : List (Str × Int)) (e : Exc)
    (h : AddrParserGen.__init__ w r ls = .error e) : e = .overflowError :=
  (init_eq w r ls).2.2 e h

example : AddrParserGen.__init__ 16 16 exLabels = .ok S16 := by decide +kernel
example : AddrParserGen.__init__ 16 16 [("big".toList, 65536)] = .error .overflowError := by decide +kernel

/-- Setting the `maxwidth` property stores the width and `2^width - 1` and re-establishes `MaxaddrInv`;
reading it gives the stored width. -/
theorem maxwidth_property (self : Self) (w : Nat) :
    AddrParserGen._get_maxwidth (AddrParserGen._set_maxwidth self w) = w ∧
    (AddrParserGen._set_maxwidth self w)._maxaddr = 2 ^ w - 1 ∧
    MaxaddrInv (AddrParserGen._set_maxwidth self w) ∧
    (AddrParserGen._set_maxwidth self w).labels = self.labels ∧
    (AddrParserGen._set_maxwidth self w).radix = self.radix := ⟨rfl, rfl, rfl, rfl, rfl⟩

example : (AddrParserGen._set_maxwidth S16 24)._maxaddr = 16777215 := by decide +kernel

/-- `_constrain` returns its argument when it lies in `[0, 2^width - 1]` and raises
`OverflowError` otherwise. -/
theorem constrain_spec (self : Self) (hi : MaxaddrInv self) (a : Int) :
    (0 ≤ a ∧ a < 2 ^ self._maxwidth → AddrParserGen._constrain self a = .ok a) ∧
    (a < 0 ∨ 2 ^ self._maxwidth ≤ a → AddrParserGen._constrain self a = .error .overflowError) := by
  have hm : (toParser self).maxaddr = 2 ^ self._maxwidth - 1 := rfl
  constructor
  · intro h
    exact toRes_ok.mp ((constrain_eq self hi a).trans (constrain_in h.1 (by rw [hm]; omega)))
  · intro h
    exact toRes_overflow.mp ((constrain_eq self hi a).trans (constrain_out (by rw [hm]; omega)))

example : AddrParserGen._constrain S16 65535 = .ok 65535 ∧
    AddrParserGen._constrain S16 65536 = .error .overflowError ∧
    AddrParserGen._constrain S16 (-1) = .error .overflowError := by decide +kernel

/-- `label_for` returns a label bound to that address (or the default). -/
theorem label_for_spec (self : Self) (a : Int) (l : Str) (h : AddrParserGen.label_for self a none = some l) :
    (l, a) ∈ self.labels := by
  rw [label_for_eq] at h
  apply C15.label_for_spec (toParser self) a l
  cases hl : labelFor (toParser self) a with
  | some l' => rw [hl] at h; exact h
  | none => rw [hl] at h; cases h

example : AddrParserGen.label_for S16 10 none = some "ten".toList := by decide +kernel

/-- `address_for` is the dictionary lookup with a default. -/
theorem address_for_spec (self : Self) (l : Str) (d : Option Int) :
    AddrParserGen.address_for self l d = (match lookup self.labels l with | some a => some a | none => d) :=
  address_for_eq self l d

example : AddrParserGen.address_for S16 "foo".toList none = some 0xc000 ∧
    AddrParserGen.address_for S16 "nosuch".toList (some 7) = some 7 := by decide +kernel

end Py65.Props.C15g
