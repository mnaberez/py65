/-
C10 — "ObservableMemory notifies exactly the subscribers of an address, once, in order".

The theorems are about the
hand-written model `Py65/Model/ObsMem.lean` of `py65/memory.py`; the model is tied to the real
class by the correspondence run of `harness/props/c10.py`.

Reading guide.  A *history* is a `List Op` (subscriptions with arbitrary address lists and
repeated callbacks, item reads/writes, slice reads/writes, bulk writes) executed from
`init addrWidth cells` (any address width — `> 16` selects the 256 K mask — and any initial
content).  Callback answers are an arbitrary function `reply` of (callback, call index, address,
value shown), so "returns None / 0 / v" is quantified over, including answers that change from
call to call.  The Spec (`Py65/Spec/ObsMem.lean`):

* `phys mask a = a mod (mask+1)`: the physical address;
* `subscribers k mask hist p`: callbacks of the kind-`k` subscription operations of `hist` that
  mention an address aliasing to `p`, in first-registration order, later duplicates dropped;
* `lastSome`: the last non-`None` answer;  `seen … i`: the value the `i`-th write subscriber is
  shown (the written value as replaced by the non-`None` answers of subscribers `0 … i-1`).
-/
import Py65.Proofs.ObsMemLemmas

namespace Py65.Props.C10
open Py65.Model.ObsMem Py65.Spec.ObsMem

/-- `subs_spec`: after ANY history, the subscriber lists the memory holds for ANY address `a`
(physical or not) are exactly the Spec's subscribers: the callbacks of the subscription
operations mentioning an alias of `a`, in first-registration order, each once.  The mask is the
one `__init__` chose and never changes. -/
theorem subs_spec (reply : Reply) (w : Int) (cells : Int → Int) (hist : List Op) (a : Int) :
    let m := run reply (init w cells) hist
    m.physMask = (if w > 16 then 0x3ffff else 0xffff) ∧
    m.rsubs.of a = subscribers .read m.physMask hist a ∧
    m.wsubs.of a = subscribers .write m.physMask hist a ∧
    (subscribers .read m.physMask hist a).Nodup ∧ (subscribers .write m.physMask hist a).Nodup ∧
    (∀ cb, cb ∈ subscribers .read m.physMask hist a ↔
        ∃ addrs, Op.subR addrs cb ∈ hist ∧ ∃ x ∈ addrs, phys m.physMask x = a) ∧
    (∀ cb, cb ∈ subscribers .write m.physMask hist a ↔
        ∃ addrs, Op.subW addrs cb ∈ hist ∧ ∃ x ∈ addrs, phys m.physMask x = a) := by
  intro m
  have hw := init_WF w cells
  have hm : m.physMask = (init w cells).physMask := run_physMask _ _ _
  have hs : ∀ k, (subsOf k m).of a = subscribers k m.physMask hist a := fun k => by
    show (subsOf k (run reply (init w cells) hist)).of a = _
    rw [run_subs k _ _ _ hw, hm]
    cases k <;> exact extend_nil _
  exact ⟨hm, hs .read, hs .write, keepFirst_nodup _, keepFirst_nodup _,
    mem_subscribers .read _ _ _, mem_subscribers .write _ _ _⟩

/-- non-vacuity: callback 1 registered through an alias (`65541 = 5 + 0x10000`) and a negative
address (`-65531`), callback 2 in between, callback 1 again: subscribers of 5 are `[1, 2]`. -/
example :
    subscribers .read 0xffff
      [.subR [5, 65541, -65531] 1, .subW [5] 9, .subR [4, 5] 2, .subR [5] 1, .set 5 3] 5 = [1, 2] := by
  decide +kernel

/-- `get_calls`: a read of ANY address `a` in ANY reachable state calls exactly the read
subscribers of the physical address `p = a mod size` — the call log grows by one event
`(cb, p)` per subscriber, in registration order, and the subscriber list has no duplicates, so
each is called once — and returns the last non-`None` answer (an answer `0` is an answer), else
the stored cell.  Nothing else changes. -/
theorem get_calls (reply : Reply) (w : Int) (cells : Int → Int) (hist : List Op) (a : Int) :
    let m := run reply (init w cells) hist
    let p := phys m.physMask a
    let subs := subscribers .read m.physMask hist p
    let r := get reply m a
    subs.Nodup ∧
    r.2.log = m.log ++ subs.map (fun cb => { cb := cb, addr := p, val := none }) ∧
    r.1 = (lastSome (readReplies reply subs m.log.length p)).getD (m.subject p) ∧
    r.2.subject = m.subject ∧ r.2.subjLen = m.subjLen ∧ r.2.rsubs = m.rsubs ∧ r.2.wsubs = m.wsubs ∧
    r.2.physMask = m.physMask := by
  intro m p subs r
  have hw : WF m := run_WF _ _ _ (init_WF w cells)
  have hs : m.rsubs.of p = subs := (subs_spec reply w cells hist p).2.1
  have hp : Py.land a m.physMask = p := land_physMask hw a
  refine ⟨keepFirst_nodup _, ?_, ?_, rfl, rfl, rfl, rfl, rfl⟩
  · show (get reply m a).2.log = _
    rw [get_log, hp, hs]
  · show (get reply m a).1 = _
    rw [get_val, hp, hs]

/-- non-vacuity, and "0 is a value": subscribers `[1, 2, 3]` of cell 5 (content 7) answer
`some 9`, `some 0`, `none`: the read returns 0 — not 9 (first), not 7 (the cell) — after
exactly three calls in registration order. -/
example :
    let reply : Reply := fun cb _ _ _ => if cb = 1 then some 9 else if cb = 2 then some 0 else none
    let m := run reply (init 16 fun _ => 7) [.subR [5] 1, .subR [65541] 2, .subR [5, 5] 3, .subR [5] 2]
    (get reply m (-65531)).1 = 0 ∧
    (get reply m (-65531)).2.log = [⟨1, 5, none⟩, ⟨2, 5, none⟩, ⟨3, 5, none⟩] := by
  decide +kernel

/-- `set_chain`: a write of `v` to ANY address in ANY reachable state calls exactly the write
subscribers of the physical address, once each, in registration order; the `i`-th is shown
`seen … i` — the value as replaced by the non-`None` answers of the earlier ones — and the value
finally stored at the physical address is `seen … (number of subscribers)`.  No other cell and
nothing else changes. -/
theorem set_chain (reply : Reply) (w : Int) (cells : Int → Int) (hist : List Op) (a v : Int) :
    let m := run reply (init w cells) hist
    let p := phys m.physMask a
    let subs := subscribers .write m.physMask hist p
    let m' := set reply m a v
    subs.Nodup ∧
    m'.log = m.log ++ (List.range subs.length).map (fun i =>
      { cb := subs.getD i 0, addr := p, val := some (seen reply subs m.log.length p v i) }) ∧
    m'.subject = upd m.subject p (seen reply subs m.log.length p v subs.length) ∧
    m'.subjLen = m.subjLen ∧ m'.rsubs = m.rsubs ∧ m'.wsubs = m.wsubs ∧ m'.physMask = m.physMask := by
  intro m p subs m'
  have hw : WF m := run_WF _ _ _ (init_WF w cells)
  have hs : m.wsubs.of p = subs := (subs_spec reply w cells hist p).2.2.1
  have hp : Py.land a m.physMask = p := land_physMask hw a
  refine ⟨keepFirst_nodup _, ?_, ?_, rfl, rfl, rfl, rfl⟩
  · show (set reply m a v).log = _
    rw [set_log, hp, hs]
  · show (set reply m a v).subject = _
    rw [set_subject, hp, hs]

/-- non-vacuity: write subscribers `[1, 2, 3]` of cell 5; 1 answers `None`, 2 replaces the value
by its double, 3 answers `0`: they are shown 21, 21, 42 and 0 is stored; cell 6 keeps its 7. -/
example :
    let reply : Reply := fun cb _ _ v =>
      if cb = 1 then none else if cb = 2 then v.map (· * 2) else some 0
    let m := run reply (init 32 fun _ => 7) [.subW [5] 1, .subW [5 + 0x40000] 2, .subW [5] 3, .subW [5] 1]
    (set reply m 5 21).log = [⟨1, 5, some 21⟩, ⟨2, 5, some 21⟩, ⟨3, 5, some 42⟩] ∧
    (set reply m 5 21).subject 5 = 0 ∧ (set reply m 5 21).subject 6 = 7 := by
  decide +kernel

/-- `no_subs_silent`: if no subscription operation of the history mentions an alias of the
address (equivalently: the Spec's subscriber list is empty), a read returns the cell and changes
nothing at all — the call log included — and a write stores exactly `v` and changes nothing
else. -/
theorem no_subs_silent (reply : Reply) (w : Int) (cells : Int → Int) (hist : List Op) (a : Int) :
    let m := run reply (init w cells) hist
    let p := phys m.physMask a
    ((∀ addrs cb, Op.subR addrs cb ∈ hist → ∀ x ∈ addrs, phys m.physMask x ≠ p) →
        get reply m a = (m.subject p, m)) ∧
    ((∀ addrs cb, Op.subW addrs cb ∈ hist → ∀ x ∈ addrs, phys m.physMask x ≠ p) →
        ∀ v, set reply m a v = { m with subject := upd m.subject p v }) := by
  intro m p
  have hw : WF m := run_WF _ _ _ (init_WF w cells)
  have hp : Py.land a m.physMask = p := land_physMask hw a
  obtain ⟨_, hr, hwr, _⟩ := subs_spec reply w cells hist p
  have hnil : ∀ k, (∀ addrs cb, Op.sub k addrs cb ∈ hist → ∀ x ∈ addrs, phys m.physMask x ≠ p) →
      subscribers k m.physMask hist p = [] := by
    intro k hno
    apply List.eq_nil_iff_forall_not_mem.2
    intro cb hcb
    obtain ⟨addrs, hop, x, hx, hxa⟩ := (mem_subscribers k _ _ _ cb).1 hcb
    exact hno addrs cb hop x hx hxa
  constructor
  · intro hno
    have h0 : m.rsubs.of p = [] := hr.trans (hnil .read hno)
    show get reply m a = _
    unfold Py65.Model.ObsMem.get
    simp only [hp, h0, readLoop]
  · intro hno v
    have h0 : m.wsubs.of p = [] := hwr.trans (hnil .write hno)
    show set reply m a v = _
    unfold Py65.Model.ObsMem.set
    simp only [hp, h0, writeLoop]
    rfl

/-- non-vacuity: subscribers exist on cells 4 and 6 (both kinds), none on 5: reading 5 and
writing 5 log nothing although every callback would answer 99. -/
example :
    let reply : Reply := fun _ _ _ _ => some 99
    let m := run reply (init 16 fun _ => 7) [.subR [4, 6] 1, .subW [4, 6, 65540] 2]
    (get reply m 5).1 = 7 ∧ (get reply m 5).2.log = [] ∧ (set reply m 5 3).log = [] ∧
    (set reply m 5 3).subject 5 = 3 ∧ (get reply m 4).1 = 99 := by
  decide +kernel

/-- `subscribe_idempotent`: subscribing a callback to addresses at each of which it is already
subscribed (under any alias) does not change the memory; in particular subscribing the same
callback twice to the same address collection is the same as subscribing it once. -/
theorem subscribe_idempotent (m : OM) (addrs : List Int) (cb : Nat) :
    ((∀ x ∈ addrs, cb ∈ m.rsubs.of (Py.land x m.physMask)) → subscribeRead m addrs cb = m) ∧
    ((∀ x ∈ addrs, cb ∈ m.wsubs.of (Py.land x m.physMask)) → subscribeWrite m addrs cb = m) ∧
    subscribeRead (subscribeRead m addrs cb) addrs cb = subscribeRead m addrs cb ∧
    subscribeWrite (subscribeWrite m addrs cb) addrs cb = subscribeWrite m addrs cb := by
  have again : ∀ k, ∀ x ∈ addrs, cb ∈ (subsOf k (subscribe k m addrs cb)).of (Py.land x m.physMask) := by
    intro k x hx
    rw [subscribe_of, if_pos ⟨rfl, List.mem_map.2 ⟨x, hx, rfl⟩⟩]
    exact mem_addCb _ _
  exact ⟨subscribe_same .read m addrs cb, subscribe_same .write m addrs cb,
    subscribe_same .read _ addrs cb (again .read), subscribe_same .write _ addrs cb (again .write)⟩

/-- The same on histories and in Spec terms: appending a subscription whose callback is already
a subscriber of every address it mentions leaves every subscriber list as it was. -/
theorem subscribe_idempotent_hist (k : Kind) (mask : Int) (hist : List Op) (op : Op) (a : Int)
    (h : ∀ cb, registered k mask a op = some cb → cb ∈ subscribers k mask hist a) :
    subscribers k mask (hist ++ [op]) a = subscribers k mask hist a := by
  unfold subscribers at h ⊢
  rw [List.filterMap_append]
  cases hreg : registered k mask a op with
  | none => simp [hreg]
  | some cb =>
    simp only [List.filterMap_cons, hreg, List.filterMap_nil]
    exact keepFirst_append_of_mem _ _ ((mem_keepFirst _ _).1 (h cb hreg))

/-- non-vacuity: the second, identical subscription adds no second call. -/
example :
    let reply : Reply := fun _ _ _ _ => none
    let m := run reply (init 16 fun _ => 7) [.subR [5, 6, 5] 1, .subR [5, 6, 5] 1, .subR [65541] 1]
    (get reply m 5).2.log = [⟨1, 5, none⟩] ∧ m.rsubs.of 6 = [1] := by
  decide +kernel

/-- `slice_elementwise`: a slice read / write is the element-wise sequence of item reads /
writes over Python's `range(*slice.indices(size))`: the values are collected left to right
while the state (call log!) is threaded through; a slice write pairs indices with values and
stops at the shorter (`zip`).  A zero step raises `ValueError` before anything happens.  Every
index the slice produces is a physical address `0 ≤ i ≤ physMask`, so slices never alias, and
the everyday `mem[s:e]` with `0 ≤ s ≤ e ≤ size` is `s, s+1, …, e-1`. -/
theorem slice_elementwise (reply : Reply) (m : OM) (hm : WF m) (start stop step : Option Int) :
    (step = some 0 →
        getSlice reply m start stop step = none ∧ ∀ vals, setSlice reply m start stop step vals = none) ∧
    (step ≠ some 0 → ∃ idx,
        sliceIndices (m.physMask + 1) start stop step = some idx ∧
        (∀ i ∈ idx, 0 ≤ i ∧ i ≤ m.physMask) ∧
        getSlice reply m start stop step =
          some (idx.foldl (fun (acc : List Int × OM) n =>
                  (acc.1 ++ [(get reply acc.2 n).1], (get reply acc.2 n).2)) ([], m)) ∧
        (∀ vals, setSlice reply m start stop step vals =
          some ((idx.zip vals).foldl (fun m p => set reply m p.1 p.2) m))) ∧
    (∀ s e, 0 ≤ s → s ≤ e → e ≤ m.physMask + 1 →
        sliceIndices (m.physMask + 1) (some s) (some e) none =
          some ((List.range (e - s).toNat).map fun (i : Nat) => s + (i : Int))) := by
  have hL : 0 ≤ m.physMask + 1 := by rcases hm.1 with h | h <;> rw [h] <;> omega
  refine ⟨?_, ?_, ?_⟩
  · intro h0
    have := (sliceIndices_none_iff (m.physMask + 1) start stop step).2 h0
    simp [getSlice, setSlice, this]
  · intro h0
    cases hidx : sliceIndices (m.physMask + 1) start stop step with
    | none => exact absurd ((sliceIndices_none_iff _ _ _ _).1 hidx) h0
    | some idx =>
      refine ⟨idx, rfl, ?_, ?_, ?_⟩
      · intro i hi
        have := sliceIndices_inRange _ hL _ _ _ _ hidx i hi
        omega
      · simp only [getSlice, hidx, Option.map_some, getMany_eq_foldl]
      · intro vals
        simp only [setSlice, hidx, Option.map_some, setMany_eq_foldl]
  · intro s e h0 h1 h2
    exact sliceIndices_contig _ _ _ h0 h1 h2

/-- non-vacuity: `mem[-3:-8:-2]` on the 64 K memory visits 65533, 65531, 65529; `mem[7:3:-2]` with a
read subscriber on 5 calls it once (index 5 is in `7, 5`); a slice write with too few values
stops early; step 0 is a `ValueError`. -/
example :
    let reply : Reply := fun _ _ _ _ => some 1
    let m := run reply (init 16 fun a => a) [.subR [5] 1]
    sliceIndices 0x10000 (some (-3)) (some (-8)) (some (-2)) = some [65533, 65531, 65529] ∧
    (getSlice reply m (some 7) (some 3) (some (-2))).map (·.1) = some [7, 1] ∧
    (getSlice reply m (some 7) (some 3) (some (-2))).map (·.2.log) = some [⟨1, 5, none⟩] ∧
    (setSlice reply m (some 2) (some 6) none [10, 11]).map (fun m' => (m'.subject 2, m'.subject 3, m'.subject 4))
      = some (10, 11, 4) ∧
    (getSlice reply m none none (some 0)).isNone := by
  decide +kernel

/-- `bulk_write_silent`: `write(start, bytes)` in ANY reachable state calls nobody (the call log
and both subscriber dictionaries are unchanged, whatever is subscribed on the cells written) and
stores `bytes[i]` at position `start mod size + i` of the backing list, for every `i`, changing
no other position.  Positions past `physMask` are *not* wrapped around: the Python list grows
(`subjLen`), and those positions are unreachable by item access. -/
theorem bulk_write_silent (reply : Reply) (w : Int) (cells : Int → Int) (hist : List Op)
    (start : Int) (bytes : List Int) :
    let m := run reply (init w cells) hist
    let s := phys m.physMask start
    let m' := write m start bytes
    m'.log = m.log ∧ m'.rsubs = m.rsubs ∧ m'.wsubs = m.wsubs ∧ m'.physMask = m.physMask ∧
    (∀ i : Nat, i < bytes.length → m'.subject (s + i) = bytes.getD i 0) ∧
    (∀ k, k < s ∨ s + bytes.length ≤ k → m'.subject k = m.subject k) ∧
    m'.subjLen = max m.subjLen (s + bytes.length) := by
  intro m s m'
  have hw : WF m := run_WF _ _ _ (init_WF w cells)
  have hp : Py.land start m.physMask = s := land_physMask hw start
  have hs0 : 0 ≤ s := phys_nonneg hw start
  have hs1 : s ≤ m.physMask := phys_le hw start
  have hlen : ¬ (s > m.subjLen) := by have := hw.2; omega
  refine ⟨rfl, rfl, rfl, rfl, ?_, ?_, ?_⟩
  · intro i hi
    show (write m start bytes).subject (s + i) = _
    simp only [write, hp, hlen, if_false]
    have h1 : s ≤ s + (i : Int) ∧ s + (i : Int) < s + (bytes.length : Int) := by omega
    rw [if_pos h1]
    congr 1
    omega
  · intro k hk
    show (write m start bytes).subject k = _
    simp only [write, hp, hlen, if_false]
    have h1 : ¬ (s ≤ k ∧ k < s + (bytes.length : Int)) := by omega
    rw [if_neg h1]
  · show (write m start bytes).subjLen = _
    simp only [write, hp, hlen, if_false]
    split_ifs with h <;> omega

/-- non-vacuity: read and write subscribers sit on cells 5 and 6 and would answer 99; a bulk
write over them logs nothing and stores the bytes; a bulk write at the last cell runs past the
end: the list grows to 0x10002 and cell 0 is untouched (no wrap-around). -/
example :
    let reply : Reply := fun _ _ _ _ => some 99
    let m := run reply (init 16 fun _ => 7) [.subR [5, 6] 1, .subW [5, 6] 2]
    (write m (5 + 0x10000) [1, 2, 3]).log = [] ∧
    (write m (5 + 0x10000) [1, 2, 3]).subject 6 = 2 ∧
    (write m 0xffff [1, 2, 3]).subjLen = 0x10002 ∧ (write m 0xffff [1, 2, 3]).subject 0 = 7 ∧
    (write m 0xffff [1, 2, 3]).subject 0x10001 = 3 := by
  decide +kernel

end Py65.Props.C10
