/-
C19 -- Displayed state is the true state: the number-formatting part.

`parse_r (fmt_r w n) = n` for r ∈ {2, 8, 10, 16}, every `n` and every pad width (digit-list
induction), on the models of `Py65.Model.PyStr`:
  `fmtHex w n` = `"%0<w>x" % n`      `fmtOct w n` = `"%0<w>o" % n`  (`fmtOct4` = `"%04o"`)
  `fmtDec n`   = `"%u" % n`          `fmtBin n`   = `"{0:b}".format(n)` = `itoa(n, 2)`
  `zfill s w`  = `s.zfill(w)`        `rjust s w c` = `s.rjust(w, c)`      `pyInt s b` = `int(s, b)`
and `tilde_consistent`: the four lines the monitor's `~` command prints for `n`
("+%u", "$" + byteFmt % n, "%04o", itoa(n,2).zfill(8)) all parse back to the same `n`.

Base 10 carries `n < 10^4300`: beyond that CPython's `"%u" % n` itself raises (digit limit), so
there is no text to read back.  (The other theorems of C19 -- register line, disassembly, the display
commands -- are in `Props/C19b.lean` and `Props/C19c.lean`.)
-/
import Py65.Proofs.NumLemmas

namespace Py65.Props.C19
open Py65.Model.PyStr Py65.Model.AddrParser Py65.Proofs.Num

/-- `int("%0<w>x" % n, 16) = n` -/
theorem fmt_roundtrip_hex (w n : Nat) : pyInt (fmtHex w n) 16 = some (n : Int) := by
  simp only [pyInt, fmtHex, String.toList_ofList]
  exact pyIntL_rjustL_toDigits (by decide) (by decide) rfl w n

example : fmtHex 4 0xbeef = "beef" ∧ fmtHex 4 10 = "000a" ∧ fmtHex 2 0x1234 = "1234" := by
  simp [fmtHex, fmtHexL, rjustL, toDigits, digitChar]

/-- `int("%0<w>o" % n, 8) = n` (`"%04o"` is `w = 4`) -/
theorem fmt_roundtrip_oct (w n : Nat) : pyInt (fmtOct w n) 8 = some (n : Int) := by
  simp only [pyInt, fmtOct, String.toList_ofList]
  exact pyIntL_rjustL_toDigits (by decide) (by decide) rfl w n

example : fmtOct4 8 = "0010" ∧ fmtOct4 65535 = "177777" := by
  simp [fmtOct4, fmtOct, fmtOctL, rjustL, toDigits, digitChar]

/-- `int("{0:b}".format(n).zfill(w), 2) = n` and the same with `rjust(w, '0')` -/
theorem fmt_roundtrip_bin (w n : Nat) :
    pyInt (zfill (fmtBin n) w) 2 = some (n : Int) ∧ pyInt (rjust (fmtBin n) w '0') 2 = some (n : Int) := by
  constructor
  · simp only [pyInt, zfill, fmtBin, fmtBinL, String.toList_ofList,
      zfillL_toDigits (b := 2) (by decide) (by decide)]
    exact pyIntL_spelling (by decide) (by decide) _ _ _ (Or.inl rfl)
  · simp only [pyInt, rjust, fmtBin, String.toList_ofList]
    exact pyIntL_rjustL_toDigits (by decide) (by decide) rfl w n

example : zfill (fmtBin 5) 8 = "00000101" ∧ zfill (fmtBin 256) 8 = "100000000" := by
  simp [zfill, fmtBin, fmtBinL, zfillL, toDigits, digitChar]

/-- `int("%u" % n, 10) = n`, for every `n` CPython can print in decimal at all. -/
theorem fmt_roundtrip_dec (n : Nat) (hn : n < 10 ^ 4300) : pyInt (fmtDec n) 10 = some (n : Int) := by
  have hlen := toDigits_length_le (b := 10) (by decide) 4299 n hn
  have hsp : toDigits 10 n = spelling 10 0 [] n := by simp [spelling, mixCase_nil]
  simp only [pyInt, fmtDec, fmtDecL, String.toList_ofList]
  rw [hsp]
  exact pyIntL_spelling (by decide) (by decide) 0 [] n (Or.inr (by simpa [maxStrDigits] using hlen))

example : fmtDec 65535 = "65535" ∧ fmtDec 0 = "0" := by
  simp [fmtDec, fmtDecL, toDigits, digitChar]

/-- Every address (any width up to 14 000 bits) is below the decimal printing limit. -/
theorem addr_below_dec_limit (n w : Nat) (hw : w ≤ 14000) (hn : n < 2 ^ w) : n < 10 ^ 4300 := by
  have h1 : 2 ^ w ≤ 2 ^ 14000 := Nat.pow_le_pow_right (by decide) hw
  have h2 : (2 : Nat) ^ 14000 ≤ 16 ^ 3500 := by
    have : (16 : Nat) ^ 3500 = (2 ^ 4) ^ 3500 := rfl
    rw [this, ← Nat.pow_mul]
    exact Nat.le_refl _
  have h3 : (16 : Nat) ^ 3500 ≤ 10 ^ 4300 := by
    have a : (16 : Nat) ^ 3500 = (16 ^ 35) ^ 100 := by rw [← Nat.pow_mul]
    have b : (10 : Nat) ^ 4300 = (10 ^ 43) ^ 100 := by rw [← Nat.pow_mul]
    rw [a, b]
    exact Nat.pow_le_pow_left (by decide) 100
  omega

/-- Fixed columns: a value below `16^w` (`w ≥ 1`) is printed by `"%0<w>x"` with exactly `w`
characters (what the register line and `mem` rely on when they are read back by column). -/
theorem fmt_hex_width (w n : Nat) (hn : n < 16 ^ (w + 1)) : (fmtHex (w + 1) n).toList.length = w + 1 := by
  simp only [fmtHex, fmtHexL, String.toList_ofList]
  exact rjustL_toDigits_length (by decide) w n hn

example : (fmtHex 4 0xab).toList.length = 4 := fmt_hex_width 3 0xab (by decide)

/-- The four renderings of `~ n` parse (dec, hex, oct, bin) to the same `n`; `bw` is the width of
the device's `BYTE_FORMAT` (2 or 4). -/
theorem tilde_consistent (bw n : Nat) (hn : n < 10 ^ 4300) :
    pyInt (fmtDec n) 10 = some (n : Int) ∧
    pyInt (fmtHex bw n) 16 = some (n : Int) ∧
    pyInt (fmtOct4 n) 8 = some (n : Int) ∧
    pyInt (zfill (fmtBin n) 8) 2 = some (n : Int) :=
  ⟨fmt_roundtrip_dec n hn, fmt_roundtrip_hex bw n, fmt_roundtrip_oct 4 n, (fmt_roundtrip_bin 8 n).1⟩

example : (65535 : Nat) < 10 ^ 4300 := addr_below_dec_limit 65535 16 (by decide) (by decide)

/-- ... and the two lines that carry a prefix read back through the address parser itself:
`number("+%u" % n) = number("$" + byteFmt % n) = n` for every address of the parser. -/
theorem tilde_reparse (P : Parser) (bw n : Nat) (hw : P.width ≤ 64) (hn : n < 2 ^ P.width) :
    number P ("+" ++ fmtDec n) = .ok n ∧ number P ("$" ++ fmtHex bw n) = .ok n := by
  have h10 := fmt_roundtrip_dec n (addr_below_dec_limit n P.width (by omega) hn)
  have h16 := fmt_roundtrip_hex bw n
  simp only [pyInt] at h10 h16
  rw [(number_prefix P _).2.1, (number_prefix P _).1, h10, h16]
  exact ⟨(constrain_natCast P n).trans (if_pos hn), (constrain_natCast P n).trans (if_pos hn)⟩

example : number P16 ("+" ++ fmtDec 4660) = .ok 4660 ∧ number P16 ("$" ++ fmtHex 2 4660) = .ok 4660 :=
  tilde_reparse P16 2 4660 (by decide) (by decide)

end Py65.Props.C19
