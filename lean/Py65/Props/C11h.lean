/-
C11h -- "observation is transparent FOR PROGRAMS" (device-level statement of C11; own namespace
`Py65.Props.C11h`).

`Props/C11.lean` is about lists of memory events (`replay_equiv`).  That a device run IS such a list is
proved here, the way `Proofs/IoProg.lean` (C18h) does it for the monitor's two observers, but for ARBITRARY
subscribers (callback ids + the reply oracle of `Model/ObsMem.lean`) and
without importing anything of the monitor (imports: the C11 theorems, C05h's closure of `step()`, and the
log-completeness of the generated CPU, `Proofs/IoProgCoh.lean` -- all CPU-only).

The machine (`ObsM`): the registers of a generated device (`cpu`; its `mem` / `log` fields are scratch) and
the `ObservableMemory` model `mem` that is the device's `self.memory`.
* `viewO reply m a`   what `memory[a]` WOULD return now (value of `ObsMem.get`), on the indices `0 … physMask`
                      the backing list has; `0` outside (a plain list raises IndexError there; no access of
                      an 8-bit device reaches it: `in_range_8bit`);
* `obsStepM`          one instruction: the GENERATED `step()` (`Hist.Dev.step`: exactly what the driver runs)
                      on the plain function `viewO` with an empty log; the step's access log (every
                      `memory[e]`, `memory[e] = v`, in program order, values written included) is then
                      replayed on the memory object (`replayObs`: subscribers are called, the log of calls
                      grows, the oracle's answers are honoured);
* `Consistent`        the CHECK that makes this a `step()` ON the memory object: every load of the
                      instruction is answered by the memory object exactly as the plain function the CPU ran
                      on answered it.  (A device talks to its memory only through item access and the log
                      records every one, so a `step()` whose every load got the same answer is the same
                      `step()`.)  Nothing is assumed about it: `transparent_run` PROVES it for quiet memories;
* `plainRun d n s`    `n` times `step()` on the plain memory function `s.mem` (the model's recording `log`
                      is emptied before each instruction on both sides: it is the measuring device, not
                      state of the Python object);
* `cellsOf m`         the backing list of `m` as the plain memory function (`0` outside `0 … physMask`).

Theorems (every device, every `n`, every register file, every placement of subscribers):
* `transparent_run`         `Quiet reply m` (all subscribers answer `None`, or there are none) + every access in
                            range ⇒ registers, all cycle counters, `waiting` and ALL cells after `n` instructions
                            equal those of the plain run; every instruction is `Consistent`; subscriptions
                            untouched; the call log grew by exactly one call per subscriber of each accessed
                            address, in program order (`callsOf`) -- observers ARE called, nothing changes;
* `transparent_run_unobserved`  the no-subscriber case spelled out (call log unchanged);
* `in_range_8bit`           for the 6502 / 65C02 on a 64 K memory the range hypothesis holds along the whole run
                            (C05h), hence
* `transparent_run_8bit`    the property as quantified ("forall 8-bit device"), no range hypothesis.
For the 65Org16 (`physMask = 0x3ffff` but 32-bit addresses) `transparent_run` applies to runs whose accesses
stay below `0x40000`; beyond, the ObservableMemory aliases where a plain list raises IndexError -- outside
C11's quantifier.
-/
import Py65.Props.C11
import Py65.Proofs.StepReplay

namespace Py65.Props.C11h
open Py65 Py65.Model.ObsMem Py65.Spec.ObsMem
open Py65.Proofs.Hist (Dev)

/-- What `memory[a]` would return now on the memory object `m`. -/
def viewO (reply : Reply) (m : OM) (a : Int) : Int :=
  if 0 ≤ a ∧ a ≤ m.physMask then (Py65.Model.ObsMem.get reply m a).1 else 0

/-- The backing list of `m` as a plain memory function. -/
def cellsOf (m : OM) (a : Int) : Int := if 0 ≤ a ∧ a ≤ m.physMask then m.subject a else 0

/-- A device (registers and bookkeeping: `cpu`; `cpu.mem`, `cpu.log` are scratch) and its memory object. -/
structure ObsM where
  cpu : St
  mem : OM

/-- What the properties observe of a device besides its memory: A X Y SP P PC, `processorCycles`,
`excycles`, `addcycles`, `waiting`. -/
structure Regs where
  a : Int
  x : Int
  y : Int
  sp : Int
  p : Int
  pc : Int
  cycles : Int
  excycles : Int
  addcycles : Int
  waiting : Bool
  deriving DecidableEq, Repr

def regs (s : St) : Regs :=
  { a := s.a, x := s.x, y := s.y, sp := s.sp, p := s.p, pc := s.pc, cycles := s.cycles,
    excycles := s.excycles, addcycles := s.addcycles, waiting := s.waiting }

def startOf (reply : Reply) (M : ObsM) : St := { M.cpu with mem := viewO reply M.mem, log := [] }

/-- The item accesses of the next instruction, in program order. -/
def traceOf (reply : Reply) (d : Dev) (M : ObsM) : List MemEv := (d.step (startOf reply M)).log.reverse

/-- What the loads of the next instruction returned to the CPU. -/
def seenOf (reply : Reply) (d : Dev) (M : ObsM) : List (Option Int) :=
  (replayPlain (viewO reply M.mem) (traceOf reply d M)).1

/-- One instruction on the observed memory. -/
def obsStepM (reply : Reply) (d : Dev) (M : ObsM) : ObsM :=
  { cpu := d.step (startOf reply M), mem := (replayObs reply M.mem (traceOf reply d M)).2 }

/-- The memory object answers every load of the instruction as the plain function the CPU ran on did. -/
def Consistent (reply : Reply) (d : Dev) (M : ObsM) : Prop :=
  (replayObs reply M.mem (traceOf reply d M)).1 = seenOf reply d M

instance (reply : Reply) (d : Dev) (M : ObsM) : Decidable (Consistent reply d M) := by
  unfold Consistent; exact inferInstance

def obsRun (reply : Reply) (d : Dev) : Nat → ObsM → ObsM
  | 0, M => M
  | n + 1, M => obsRun reply d n (obsStepM reply d M)

/-- All item accesses of `n` instructions, in program order. -/
def traces (reply : Reply) (d : Dev) : Nat → ObsM → List MemEv
  | 0, _ => []
  | n + 1, M => traceOf reply d M ++ traces reply d n (obsStepM reply d M)

def AllConsistent (reply : Reply) (d : Dev) : Nat → ObsM → Prop
  | 0, _ => True
  | n + 1, M => Consistent reply d M ∧ AllConsistent reply d n (obsStepM reply d M)

instance (reply : Reply) (d : Dev) : (n : Nat) → (M : ObsM) → Decidable (AllConsistent reply d n M)
  | 0, _ => isTrue trivial
  | n + 1, M =>
    have : Decidable (AllConsistent reply d n (obsStepM reply d M)) :=
      instDecidableAllConsistent reply d n (obsStepM reply d M)
    by unfold AllConsistent; exact inferInstance

/-- Every access of the next `n` instructions is at an index the backing list has. -/
def AllInRange (reply : Reply) (d : Dev) : Nat → ObsM → Prop
  | 0, _ => True
  | n + 1, M => (∀ e ∈ traceOf reply d M, InRange M.mem.physMask e) ∧ AllInRange reply d n (obsStepM reply d M)

instance (reply : Reply) (d : Dev) : (n : Nat) → (M : ObsM) → Decidable (AllInRange reply d n M)
  | 0, _ => isTrue trivial
  | n + 1, M =>
    have : Decidable (AllInRange reply d n (obsStepM reply d M)) :=
      instDecidableAllInRange reply d n (obsStepM reply d M)
    by unfold AllInRange; exact inferInstance

/-- `n` times `step()` on the plain memory function of `s`. -/
def plainRun (d : Dev) : Nat → St → St
  | 0, s => s
  | n + 1, s => plainRun d n (d.step { s with log := [] })

/-- The callback calls C10 prescribes for an access list: one call per subscriber of the accessed address,
in subscription order, read subscribers with the address, write subscribers with address and value. -/
def callsOf (rs ws : Subs) (T : List MemEv) : List Ev :=
  T.flatMap fun
    | .r a => (rs.of a).map fun cb => { cb := cb, addr := a, val := none }
    | .w a v => (ws.of a).map fun cb => { cb := cb, addr := a, val := some v }

private theorem viewO_quiet (reply : Reply) (m : OM) (hm : WF m) (hq : Quiet reply m) :
    viewO reply m = cellsOf m := by
  funext a
  unfold viewO cellsOf
  by_cases h : 0 ≤ a ∧ a ≤ m.physMask
  · rw [if_pos h, if_pos h]; exact (C11.obs_transparent_get reply m hm hq a h.1 h.2).1
  · rw [if_neg h, if_neg h]

private theorem replayPlain_outside (mask : Int) (T : List MemEv) :
    ∀ pm : Int → Int, (∀ e ∈ T, InRange mask e) → ∀ k, ¬ (0 ≤ k ∧ k ≤ mask) →
      (replayPlain pm T).2 k = pm k := by
  induction T with
  | nil => intro pm _ k _; rfl
  | cons e es ih =>
    intro pm hin k hk
    have hin' : ∀ e' ∈ es, InRange mask e' := fun e' he' => hin e' (List.mem_cons_of_mem _ he')
    have he := hin e List.mem_cons_self
    cases e with
    | r a => simpa [replayPlain, plainStep] using ih pm hin' k hk
    | w a v =>
      have : k ≠ a := by rintro rfl; exact hk he
      simp only [replayPlain, plainStep]
      rw [ih (upd pm a v) hin' k hk]
      unfold upd; rw [if_neg this]

/-- The call log of a replay on a quiet memory. -/
private theorem replayObs_log (reply : Reply) (T : List MemEv) :
    ∀ m : OM, WF m → Quiet reply m → (∀ e ∈ T, InRange m.physMask e) →
      (replayObs reply m T).2.log = m.log ++ callsOf m.rsubs m.wsubs T := by
  induction T with
  | nil => intro m _ _ _; simp [replayObs, callsOf]
  | cons e es ih =>
    intro m hm hq hin
    have hin' : ∀ e' ∈ es, InRange m.physMask e' := fun e' he' => hin e' (List.mem_cons_of_mem _ he')
    have he := hin e List.mem_cons_self
    cases e with
    | r a =>
      have hg := (C11.obs_transparent_get reply m hm hq a he.1 he.2).2
      simp only [replayObs, obsStep]
      rw [ih (Py65.Model.ObsMem.get reply m a).2 (by rw [hg]; exact hm) (by rw [hg]; exact hq)
        (by rw [hg]; exact hin'), hg]
      simp [callsOf, List.append_assoc]
    | w a v =>
      have hs := C11.obs_transparent_set reply m hm hq a v he.1 he.2
      have hr : (Py65.Model.ObsMem.set reply m a v).rsubs = m.rsubs := rfl
      have hw : (Py65.Model.ObsMem.set reply m a v).wsubs = m.wsubs := rfl
      have hp : (Py65.Model.ObsMem.set reply m a v).physMask = m.physMask := rfl
      simp only [replayObs, obsStep]
      rw [ih (Py65.Model.ObsMem.set reply m a v) ⟨hm.1, hm.2⟩ hq hin', hs.2, hr, hw]
      simp [callsOf, List.append_assoc]

/-- One instruction on a quiet memory. -/
private theorem step_quiet (reply : Reply) (d : Dev) (M : ObsM) (hm : WF M.mem) (hq : Quiet reply M.mem)
    (hin : ∀ e ∈ traceOf reply d M, InRange M.mem.physMask e) :
    (obsStepM reply d M).cpu = d.step { M.cpu with mem := cellsOf M.mem, log := [] } ∧
    cellsOf (obsStepM reply d M).mem = (obsStepM reply d M).cpu.mem ∧
    Consistent reply d M ∧
    (obsStepM reply d M).mem.rsubs = M.mem.rsubs ∧ (obsStepM reply d M).mem.wsubs = M.mem.wsubs ∧
    (obsStepM reply d M).mem.physMask = M.mem.physMask ∧ (obsStepM reply d M).mem.subjLen = M.mem.subjLen ∧
    (obsStepM reply d M).mem.log = M.mem.log ++ callsOf M.mem.rsubs M.mem.wsubs (traceOf reply d M) := by
  have hv := viewO_quiet reply M.mem hm hq
  have hsame : ∀ k, 0 ≤ k → k ≤ M.mem.physMask → cellsOf M.mem k = M.mem.subject k := by
    intro k h0 h1; unfold cellsOf; rw [if_pos ⟨h0, h1⟩]
  obtain ⟨e1, e2, e3, e4, e5, e6⟩ :=
    C11.replay_equiv reply (traceOf reply d M) (cellsOf M.mem) M.mem hm hq hin hsame
  have hmem : (d.step (startOf reply M)).mem = (replayPlain (cellsOf M.mem) (traceOf reply d M)).2 := by
    rw [← hv]
    exact Py65.Proofs.step_mem_replay d (startOf reply M) rfl
  refine ⟨by unfold obsStepM startOf; rw [hv], ?_, ?_, e3, e4, e5, e6,
    replayObs_log reply _ M.mem hm hq hin⟩
  · funext k
    show cellsOf (replayObs reply M.mem (traceOf reply d M)).2 k = (d.step (startOf reply M)).mem k
    rw [hmem]
    unfold cellsOf
    rw [e5]
    by_cases h : 0 ≤ k ∧ k ≤ M.mem.physMask
    · rw [if_pos h]; exact (e2 k h.1 h.2).symm
    · rw [if_neg h, replayPlain_outside M.mem.physMask _ _ hin k h, if_neg h]
  · unfold Consistent seenOf
    rw [e1, hv]

private theorem callsOf_append (rs ws : Subs) (T1 T2 : List MemEv) :
    callsOf rs ws (T1 ++ T2) = callsOf rs ws T1 ++ callsOf rs ws T2 := by
  unfold callsOf; exact List.flatMap_append

/-- **Observation is transparent for programs.**  Any device `d`, any register file, any memory object `M.mem`
of one of the two sizes `ObservableMemory` configures (`WF`) whose subscribers -- any number, anywhere --
all answer `None` (`Quiet`; in particular: no subscribers), any `n`: if every access of the `n` instructions
is at an index the backing list has, then after the `n` instructions on the observed memory
 (1) registers, `processorCycles` / `excycles` / `addcycles` and `waiting` are those of `n` times `step()` on the
     plain memory function holding the same cells,
 (2) so are ALL cells,
 (3) every instruction was `Consistent` (each load answered by the memory object as by the plain function),
 (4) the subscriptions, the mask and the list length are untouched,
 (5) the call log grew by exactly the calls of the subscribers of the accessed addresses, in program order. -/
theorem transparent_run (reply : Reply) (d : Dev) (n : Nat) :
    ∀ (M : ObsM), WF M.mem → Quiet reply M.mem → AllInRange reply d n M →
    regs (obsRun reply d n M).cpu = regs (plainRun d n { M.cpu with mem := cellsOf M.mem }) ∧
    cellsOf (obsRun reply d n M).mem = (plainRun d n { M.cpu with mem := cellsOf M.mem }).mem ∧
    AllConsistent reply d n M ∧
    ((obsRun reply d n M).mem.rsubs = M.mem.rsubs ∧ (obsRun reply d n M).mem.wsubs = M.mem.wsubs ∧
     (obsRun reply d n M).mem.physMask = M.mem.physMask ∧ (obsRun reply d n M).mem.subjLen = M.mem.subjLen) ∧
    (obsRun reply d n M).mem.log = M.mem.log ++ callsOf M.mem.rsubs M.mem.wsubs (traces reply d n M) := by
  induction n with
  | zero => intro M _ _ _; exact ⟨rfl, rfl, trivial, ⟨rfl, rfl, rfl, rfl⟩, by simp [obsRun, traces, callsOf]⟩
  | succ n ih =>
    intro M hm hq hin
    obtain ⟨s1, s2, s3, s4, s5, s6, s7, s8⟩ := step_quiet reply d M hm hq hin.1
    have hm' : WF (obsStepM reply d M).mem := ⟨by rw [s6]; exact hm.1, by rw [s6, s7]; exact hm.2⟩
    have hq' : Quiet reply (obsStepM reply d M).mem := by
      intro a cb h; rw [s4, s5] at h; exact hq a cb h
    obtain ⟨i1, i2, i3, ⟨i4, i5, i6, i7⟩, i8⟩ := ih (obsStepM reply d M) hm' hq' hin.2
    have hcpu : { (obsStepM reply d M).cpu with mem := cellsOf (obsStepM reply d M).mem } =
        d.step { ({ M.cpu with mem := cellsOf M.mem } : St) with log := [] } := by
      rw [s2, ← s1]
    rw [hcpu] at i1 i2
    refine ⟨i1, i2, ⟨s3, i3⟩, ⟨i4.trans s4, i5.trans s5, i6.trans s6, i7.trans s7⟩, ?_⟩
    show (obsRun reply d n (obsStepM reply d M)).mem.log = _
    rw [i8, s8, s4, s5]
    simp only [traces, callsOf_append, List.append_assoc]

/-- The no-subscriber case: nothing at all happens to the memory object but the stores. -/
theorem transparent_run_unobserved (reply : Reply) (d : Dev) (n : Nat) (M : ObsM) (hm : WF M.mem)
    (hr : ∀ a, M.mem.rsubs.of a = []) (hw : ∀ a, M.mem.wsubs.of a = [])
    (hin : AllInRange reply d n M) :
    regs (obsRun reply d n M).cpu = regs (plainRun d n { M.cpu with mem := cellsOf M.mem }) ∧
    cellsOf (obsRun reply d n M).mem = (plainRun d n { M.cpu with mem := cellsOf M.mem }).mem ∧
    AllConsistent reply d n M ∧ (obsRun reply d n M).mem.log = M.mem.log := by
  have hq : Quiet reply M.mem := by
    intro a cb h
    rw [hr a, hw a] at h
    rcases h with h | h <;> cases h
  obtain ⟨t1, t2, t3, -, t5⟩ := transparent_run reply d n M hm hq hin
  refine ⟨t1, t2, t3, ?_⟩
  rw [t5]
  have : callsOf M.mem.rsubs M.mem.wsubs (traces reply d n M) = [] := by
    unfold callsOf
    rw [List.flatMap_eq_nil_iff]
    intro e _
    cases e with
    | r a => simp [hr a]
    | w a v => simp [hw a]
  rw [this, List.append_nil]

/-- **8-bit devices never leave the list** (C05h along the run): a 6502 / 65C02 with well-formed registers (the
6502 not waiting: `Hist.Inv`) on a quiet 64 K memory object whose cells are bytes only produces accesses at
`0 … $FFFF`, at every one of the `n` instructions. -/
theorem in_range_8bit (reply : Reply) (d : Dev) (hd : d ≠ .org16) (n : Nat) :
    ∀ (M : ObsM), WF M.mem → Quiet reply M.mem → M.mem.physMask = 0xffff →
    Py65.Proofs.Hist.Inv d { M.cpu with mem := cellsOf M.mem } → AllInRange reply d n M := by
  induction n with
  | zero => intro _ _ _ _ _; trivial
  | succ n ih =>
    intro M hm hq hp hi
    have hv := viewO_quiet reply M.mem hm hq
    have hi0 : Py65.Proofs.Hist.Inv d (startOf reply M) := by
      unfold startOf; rw [hv]
      exact ⟨⟨hi.1.a, hi.1.x, hi.1.y, hi.1.sp, hi.1.p, hi.1.pc, hi.1.mem⟩, hi.2⟩
    have hin1 : ∀ e ∈ traceOf reply d M, InRange M.mem.physMask e := by
      intro e he
      rw [hp]
      exact Py65.Proofs.step_inRange8 d hd (startOf reply M) hi0 rfl e (List.mem_reverse.mp he)
    obtain ⟨s1, s2, -, s4, s5, s6, s7, -⟩ := step_quiet reply d M hm hq hin1
    have hi1 : Py65.Proofs.Hist.Inv d (d.step (startOf reply M)) :=
      C05h.closed_step d (startOf reply M) hi0 (fun h => absurd h hd)
    refine ⟨hin1, ih (obsStepM reply d M) ⟨by rw [s6]; exact hm.1, by rw [s6, s7]; exact hm.2⟩
      (by intro a cb h; rw [s4, s5] at h; exact hq a cb h) (s6.trans hp) ?_⟩
    rw [s2]
    exact hi1

/-- **C11 as quantified**: every 8-bit device (`d ≠ .org16`: 6502, 65C02), every well-formed register file,
every 64 K `ObservableMemory` holding bytes, with any number of `None`-answering subscribers anywhere (or
none), every `n`: registers, cycle counters, `waiting` and all cells after `n` instructions equal those of
the plain run; every load was answered alike; the subscribers were called (call log = `callsOf`). -/
theorem transparent_run_8bit (reply : Reply) (d : Dev) (hd : d ≠ .org16) (n : Nat) (M : ObsM)
    (hm : WF M.mem) (hq : Quiet reply M.mem) (hp : M.mem.physMask = 0xffff)
    (hi : Py65.Proofs.Hist.Inv d { M.cpu with mem := cellsOf M.mem }) :
    regs (obsRun reply d n M).cpu = regs (plainRun d n { M.cpu with mem := cellsOf M.mem }) ∧
    cellsOf (obsRun reply d n M).mem = (plainRun d n { M.cpu with mem := cellsOf M.mem }).mem ∧
    AllConsistent reply d n M ∧
    (obsRun reply d n M).mem.log = M.mem.log ++ callsOf M.mem.rsubs M.mem.wsubs (traces reply d n M) := by
  obtain ⟨t1, t2, t3, -, t5⟩ :=
    transparent_run reply d n M hm hq (in_range_8bit reply d hd n M hm hq hp hi)
  exact ⟨t1, t2, t3, t5⟩

/-- `INC $F001 ; LDA $F004 ; STA $0010` at `$0200`. -/
def demoCells : Int → Int := fun a =>
  if a = 0x200 then 0xEE else if a = 0x201 then 0x01 else if a = 0x202 then 0xF0 else
  if a = 0x203 then 0xAD else if a = 0x204 then 0x04 else if a = 0x205 then 0xF0 else
  if a = 0x206 then 0x85 else if a = 0x207 then 0x10 else
  if a = 0xF001 then 0x41 else if a = 0xF004 then 0x07 else 0

def demoReply : Reply := fun _ _ _ _ => none

/-- Read subscriber 1 on `$F004`, `$F001`; write subscriber 2 on `$F001`; read subscriber 3 on the code. -/
def demoMem : OM :=
  run demoReply (init 16 demoCells) [.subR [0xf004, 0xf001] 1, .subW [0xf001] 2, .subR [0x200] 3]

def demoM : ObsM := ⟨{ (default : St) with pc := 0x200, sp := 0xff, p := 0x30 }, demoMem⟩

/-- The hypotheses of `transparent_run_8bit` hold of the demo machine ... -/
theorem demo_hyps : WF demoM.mem ∧ Quiet demoReply demoM.mem ∧ demoM.mem.physMask = 0xffff ∧
    Py65.Proofs.Hist.Inv .nmos { demoM.cpu with mem := cellsOf demoM.mem } := by
  refine ⟨run_WF _ _ _ (init_WF _ _), fun _ _ _ _ _ _ => rfl, rfl,
    ⟨⟨by decide, by decide, by decide, by decide, by decide, by decide, fun k => ?_⟩, fun _ => rfl⟩⟩
  refine (C05h.inB_W .nmos _).1 ?_
  -- every branch of the `if` chains is a byte literal
  unfold cellsOf
  refine Py65.Proofs.inB_ite ?_ ⟨by decide, by decide⟩
  show Py65.Proofs.InB 8 (demoCells k)
  unfold demoCells
  repeat' apply Py65.Proofs.inB_ite
  all_goals exact ⟨by decide, by decide⟩

/-- ... and the run really calls the observers: three instructions on the 6502, the registers / cells are the
plain run's, `$F001` was incremented through the write subscriber, `A` was loaded through the read
subscriber, and the call log shows the opcode-fetch observer, the read and the write observer. -/
example :
    regs (obsRun demoReply .nmos 3 demoM).cpu = regs (plainRun .nmos 3 { demoM.cpu with mem := cellsOf demoM.mem }) ∧
    (obsRun demoReply .nmos 3 demoM).cpu.a = 7 ∧ (obsRun demoReply .nmos 3 demoM).cpu.pc = 0x208 ∧
    (obsRun demoReply .nmos 3 demoM).cpu.cycles = 13 ∧
    (obsRun demoReply .nmos 3 demoM).mem.subject 0xF001 = 0x42 ∧
    (obsRun demoReply .nmos 3 demoM).mem.subject 0x10 = 7 ∧
    (plainRun .nmos 3 { demoM.cpu with mem := cellsOf demoM.mem }).mem 0xF001 = 0x42 ∧
    (obsRun demoReply .nmos 3 demoM).mem.log =
      [⟨3, 0x200, none⟩, ⟨1, 0xF001, none⟩, ⟨2, 0xF001, some 0x42⟩, ⟨1, 0xF004, none⟩] ∧
    decide (AllConsistent demoReply .nmos 3 demoM) = true ∧
    decide (AllInRange demoReply .nmos 3 demoM) = true := by
  decide +kernel

/-- The check `Consistent` is not a tautology: with a read subscriber that ANSWERS (here: `$55` on its second
call, which is the load of `$F004` by `BIT $F004`, the first being the opcode fetch) the memory object and a
plain function differ and the check fails -- such subscribers are exactly what `Quiet` excludes. -/
example :
    let reply : Reply := fun cb i _ _ => if cb = 1 ∧ i = 1 then some 0x55 else none
    let M : ObsM := ⟨{ (default : St) with pc := 0x203, sp := 0xff, p := 0x30 },
      run reply (init 16 fun a => if a = 0x203 then 0x2C else if a = 0x204 then 0x04 else if a = 0x205 then 0xF0
        else if a = 0xF004 then 7 else 0) [.subR [0x203, 0xf004] 1]⟩
    decide (Consistent reply .nmos M) = false := by
  decide +kernel

/-- 65C02 (same program) and 65Org16 (`STA $10`: accesses below `$40000`): the general theorem's hypotheses
are decidable on concrete machines and hold there. -/
example :
    decide (AllInRange demoReply .cmos 3 demoM) = true ∧
    decide (AllInRange demoReply .org16 1 ⟨{ demoM.cpu with pc := 0x206 }, run demoReply (init 32 demoCells) [.subR [0x200] 3]⟩) = true := by
  decide +kernel

end Py65.Props.C11h
