/-
C05h -- execution is CLOSED over histories (second C05 file, own namespace `Py65.Props.C05h`).

C05 has the one-step facts for undeclared opcodes, PC, reset and nmi; here, for lists of calls
`step() / irq() / nmi() / reset(start)` folded over the generated device operations (`Hist.run`), on all
three devices: every state a history passes through, and the state it ends in, is well-formed, and every
access the recording memory sees along it is at an address inside the address space, every value written
fits the byte (`LogOK`; the generated model logs each `memory[e]` / `memory[e] = v` with its value).
How the one-step closure is obtained (`Proofs/HistStep.lean`): declared opcodes other than ADC/SBC/JSR from
C01/C02/C03 (`abs (step s) = Spec.step (abs s)`) and the closure of the programming model, proved once
per Spec operation, width-generic (`Proofs/HistSpecClosed.lean`: `exec_closed`, `interrupt_closed`, ...);
ADC/SBC (both modes) and JSR (no side condition) directly on the generated helpers
(`Proofs/HistArith.lean`); undeclared bytes from C05's `undeclared_dev*`.

What is quantified over (`Hist.OpOK`, per call, on the state it is applied to), and nothing else:
  * `reset(start)`: `start` is an address (`0 ≤ start ≤ addrMask`) - `reset` stores it unmasked;
  * 65Org16 `step()`: the opcode cell holds a byte 0..255 (a cell above 255 makes the real `step()` raise
    IndexError: recorded in DESIGN 0.5, outside C05's quantifier "every opcode byte 0..255").
The initial state is well-formed and, on the 6502 / 65Org16, not waiting (`Hist.Inv`; those classes have
no WAI, `waiting` is only ever set by the 65C02's WAI, and the invariant proves it stays false).
-/
import Py65.Proofs.HistLogSteps

namespace Py65.Props.C05h
open Py65 Py65.Gen Py65.Spec Py65.Proofs Py65.Proofs.Hist

/-- ONE `step()` at EVERY opcode byte 0..255 - declared or not, binary and decimal mode, JSR wherever the
stack lies, a waiting 65C02 - of a well-formed state gives a well-formed state, on every device: A X Y SP P
inside the byte, PC inside the address space, every memory cell inside the byte (and a 6502 / 65Org16 still
does not wait). -/
theorem closed_step (d : Dev) (s : St) (hi : Inv d s) (hok : OpOK d .step s) : Inv d (d.step s) :=
  apply_inv d .step s hi hok

/-- The three devices separately, hypotheses spelled out. -/
theorem closed_step_6502 (s : St) (hs : WF dev6502.cfg s) (hw : s.waiting = false) :
    WF dev6502.cfg (dev6502.step s) ∧ (dev6502.step s).waiting = false := step_inv_nmos s hs hw

theorem closed_step_65c02 (s : St) (hs : WF dev65c02.cfg s) : WF dev65c02.cfg (dev65c02.step s) :=
  (step_inv .cmos s ⟨hs, fun h => absurd rfl h⟩ (fun h => Dev.noConfusion h)).1

theorem closed_step_65org16 (s : St) (hs : WF dev65org16.cfg s) (hw : s.waiting = false)
    (hop : s.mem s.pc < 256) :
    WF dev65org16.cfg (dev65org16.step s) ∧ (dev65org16.step s).waiting = false :=
  have h := step_inv .org16 s ⟨hs, fun _ => hw⟩ (fun _ => hop)
  ⟨h.1, h.2 (by decide)⟩

/-- The same for every call (`irq()`, `nmi()`, `reset(start)`). -/
theorem closed_call (d : Dev) (o : Op) (s : St) (hi : Inv d s) (hok : OpOK d o s) : Inv d (apply d o s) :=
  apply_inv d o s hi hok

/-- **Closure over histories**: every state a history passes through, and the state it ends in, is
well-formed. -/
theorem closed_history (d : Dev) (ops : List Op) (s : St) (hi : Inv d s) (hok : Along d (OpOK d) ops s) :
    Along d (fun _ s' => Inv d s') ops s ∧ Inv d (run d ops s) := run_inv d ops s hi hok

/-- All reset start addresses of the list are addresses of the device. -/
def ResetsOK (c : Cfg) (ops : List Op) : Prop := ∀ a, Op.reset (some a) ∈ ops → 0 ≤ a ∧ a ≤ c.addrMask

theorem along_of_resetsOK (d : Dev) (hd : d ≠ .org16) (ops : List Op) (s : St) (hr : ResetsOK d.cfg ops) :
    Along d (OpOK d) ops s := by
  induction ops generalizing s with
  | nil => trivial
  | cons o ops ih =>
    refine ⟨?_, ih _ (fun a ha => hr a (List.mem_cons_of_mem _ ha))⟩
    cases o with
    | step => intro h; exact absurd h hd
    | irq => trivial
    | nmi => trivial
    | reset a =>
      cases a with
      | none => trivial
      | some a => exact hr a List.mem_cons_self

/-- 6502: any well-formed start state, ANY list of calls whose reset addresses are addresses. -/
theorem closed_history_6502 (ops : List Op) (s : St) (hs : WF dev6502.cfg s) (hw : s.waiting = false)
    (hr : ResetsOK dev6502.cfg ops) : WF dev6502.cfg (run .nmos ops s) :=
  (run_inv .nmos ops s ⟨hs, fun _ => hw⟩ (along_of_resetsOK .nmos (by decide) ops s hr)).2.1

/-- 65C02: any well-formed start state (waiting or not), any list of calls whose reset addresses are
addresses. -/
theorem closed_history_65c02 (ops : List Op) (s : St) (hs : WF dev65c02.cfg s)
    (hr : ResetsOK dev65c02.cfg ops) : WF dev65c02.cfg (run .cmos ops s) :=
  (run_inv .cmos ops s ⟨hs, fun h => absurd rfl h⟩ (along_of_resetsOK .cmos (by decide) ops s hr)).2.1

/-- 65Org16: additionally every opcode cell executed holds a byte 0..255 (`OpOK`). -/
theorem closed_history_65org16 (ops : List Op) (s : St) (hs : WF dev65org16.cfg s) (hw : s.waiting = false)
    (hok : Along .org16 (OpOK .org16) ops s) : WF dev65org16.cfg (run .org16 ops s) :=
  (run_inv .org16 ops s ⟨hs, fun _ => hw⟩ hok).2.1

/-- **Every access along a history is inside the address space, every written value fits the byte**
(stated on the log of the recording memory: if the log was fine before, it is fine after). -/
theorem accesses_closed_history (d : Dev) (ops : List Op) (s : St) (hi : Inv d s)
    (hok : Along d (OpOK d) ops s) (hl : LogOK d.W s.log) : LogOK d.W (run d ops s).log :=
  run_log d ops s hi hok hl

theorem accesses_closed_call (d : Dev) (o : Op) (s : St) (hi : Inv d s) (hl : LogOK d.W s.log) :
    LogOK d.W (apply d o s).log := apply_log d o s hi hl

theorem inB_W (d : Dev) (v : Int) : InB d.W v ↔ (0 ≤ v ∧ v ≤ d.cfg.byteMask) := d.inB_iff v

/-- Unfolded, for a recording that starts empty: every WRITE the history performs is at an address
`0 ≤ a ≤ addrMask` with a value `0 ≤ v ≤ byteMask`. -/
theorem writes_closed_history (d : Dev) (ops : List Op) (s : St) (hi : Inv d s)
    (hok : Along d (OpOK d) ops s) (hl : s.log = []) (a v : Int)
    (hev : MemEv.w a v ∈ (run d ops s).log) :
    (0 ≤ a ∧ a ≤ d.cfg.addrMask) ∧ (0 ≤ v ∧ v ≤ d.cfg.byteMask) := by
  have h := run_log d ops s hi hok (hl ▸ LogOK_nil _) _ hev
  exact ⟨(d.inA_iff a).1 h.1, (d.inB_iff v).1 h.2⟩

/-- ... and every READ (opcode, operand, pointer, vector, stack, data) is at an address `0 ≤ a ≤ addrMask`. -/
theorem reads_closed_history (d : Dev) (ops : List Op) (s : St) (hi : Inv d s)
    (hok : Along d (OpOK d) ops s) (hl : s.log = []) (a : Int)
    (hev : MemEv.r a ∈ (run d ops s).log) : 0 ≤ a ∧ a ≤ d.cfg.addrMask :=
  (d.inA_iff a).1 (run_log d ops s hi hok (hl ▸ LogOK_nil _) _ hev)

/-- A 6502 in DECIMAL mode with SP = `$00`: `ADC #$99` (decimal), an undeclared opcode byte `$02`, `JSR $0300`
(pushes wrap from `$0100` to `$01FF`), then irq(), nmi() and a reset to `$0300`. -/
def demoState : St :=
  { (default : St) with a := 0x99, sp := 0, p := 0x39, mem := fun k => if k = 0 then 0x69 else if k = 1 then 0x99 else if k = 2 then 0x02 else if k = 4 then 0x20 else if k = 6 then 0x03 else 0x00 }

def demoOps : List Op := [.step, .step, .step, .irq, .nmi, .reset (some 0x300)]

theorem demo_inv : Inv .nmos demoState := by
  refine ⟨⟨by decide, by decide, by decide, by decide, by decide, by decide, ?_⟩, fun _ => rfl⟩
  intro k; simp only [demoState]; repeat' apply ite_range
  all_goals decide

theorem demo_ok : Along .nmos (OpOK .nmos) demoOps demoState :=
  along_of_resetsOK .nmos (by decide) _ _ (by
    intro a ha
    simp only [demoOps, List.mem_cons, List.mem_nil_iff, or_false, reduceCtorEq, false_or, Op.reset.injEq,
      Option.some.injEq] at ha
    subst ha; decide)

/-- What the generated 6502 logs for the first three calls (kernel evaluation of the generated code): the
decimal ADC reads its operand, the undeclared byte only its opcode, the JSR writes `$00` to `$0100` and
`$06` to `$01FF` (stack wrap) and reads its operand bytes. -/
example : (run .nmos [.step, .step, .step] demoState).log.reverse =
    [.r 0, .r 1, .r 2, .r 4, .w 0x100 0x00, .w 0x1ff 0x06, .r 5, .r 6] := by decide +kernel

/-- ... and the theorems apply to the whole history. -/
example : WF dev6502.cfg (run .nmos demoOps demoState) := (closed_history .nmos demoOps demoState demo_inv demo_ok).2.1
example : LogOK 8 (run .nmos demoOps demoState).log :=
  accesses_closed_history .nmos demoOps demoState demo_inv demo_ok (LogOK_nil _)

end Py65.Props.C05h
