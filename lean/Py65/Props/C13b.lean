/-
C13 (second file, same namespace) -- the per-opcode assembly: for every declared opcode of every
device and every well-formed state, one `step()` of the regenerated model advances the cycle
counter by exactly `Spec.stepCycles` (documented base count, +1 for an indexed READ that crosses a
page, +1 for a taken branch, +1 more when the branch lands in another page).  The only exclusion is
the 65C02's BRA ($80), the recorded known finding (`bra_deviation` in Props/C13.lean).

A declared opcode names a table row; the device's table holds the row's
`stdHandler` there (`Proofs.row_*`), `Proofs.stdHandler_cyc` gives the handler's variable cycles,
and the two table entries (`cycletime`, `extracycles`) are read off the table theorems of
Props/C13.lean.
-/
import Py65.Proofs.CycHandlers
import Py65.Props.C13

namespace Py65.Props.C13
open Py65 Py65.Gen Py65.Spec Py65.Proofs Py

set_option linter.unusedSimpArgs false

/-- One `step()` with any tables that hold the row's `stdHandler`, its base count, and an
`extracycles` entry that marks the reads. -/
theorem step_cyc {c : Cfg} (hc : IsDev c) (t : Tbl) {v : Variant} (s : St) (hs : WF c s)
    {mn : Mn} {mo : Mode} (hr : stdHandler c v mn mo = some (t.instruct (s.mem s.pc))) (hnb : mn ≠ .BRA)
    (hbase : t.cycletime (s.mem s.pc) = baseCycles v mn mo)
    (hadd : ((t.extracycles (s.mem s.pc) ≠ 0) = (mn.isRead = true)) ∨
      ∀ a, readCrosses c.BYTE_WIDTH mo a = false) :
    (Mpu6502.step c t s).cycles =
      s.cycles + instrCycles c.BYTE_WIDTH v mn mo { core s with pc := (s.pc + 1) % AM c.BYTE_WIDTH } := by
  obtain ⟨h1, h2⟩ := stdHandler_cyc hc hr hnb (afterFetch c t s) (afterFetch_WF c hc t s hs)
  rw [Py65.Proofs.step_cycles, h1, h2, afterFetch_core hc t s, hbase]
  have e1 : (afterFetch c t s).cycles = s.cycles := rfl
  have e2 : (afterFetch c t s).excycles = 0 := rfl
  have e3 : (afterFetch c t s).addcycles = t.extracycles (s.mem s.pc) := rfl
  rw [e1, e2, e3]
  simp only [instrCycles, varCycles, hnb, if_false]
  rcases hadd with ha | ha
  · simp only [ha]; omega
  · simp only [ha, Bool.false_eq_true, and_false, if_false]; omega

/-- `Spec.stepCycles` of a non-waiting state at a declared opcode. -/
theorem stepCycles_decl (W : Nat) (v : Variant) (a : AState) (mn : Mn) (mo : Mode)
    (hw : a.waiting = false) (hd : decode v (a.mem a.pc) = some (mn, mo)) :
    stepCycles W v a = instrCycles W v mn mo { a with pc := (a.pc + 1) % AM W } := by
  simp [stepCycles, hw, hd]

theorem getD_of_map_range {α : Type} {L : List α} {f : Nat → α} {n : Nat}
    (hL : L = (List.range n).map f) (d : α) {k : Nat} (h : k < n) : L.getD k d = f k := by
  subst hL
  simp [List.getD, h]

section
variable {v : Variant} {op : Int} {mn : Mn} {mo : Mode} (hd : decode v op = some (mn, mo))
include hd

theorem toNat_decode : op.toNat < 256 ∧ Int.ofNat op.toNat = op := by
  have := decode_lt hd
  exact ⟨by omega, by rw [Int.ofNat_eq_natCast, Int.toNat_of_nonneg this.1]⟩

theorem expBase_decode : expBase v op.toNat = baseCycles v mn mo := by
  simp only [expBase, (toNat_decode hd).2, hd]

theorem expExtra_decode :
    expExtra v op.toNat = ((mn.isRead && (mo == .abx || mo == .aby || mo == .iny)) || isBranch mn) := by
  simp only [expExtra, (toNat_decode hd).2, hd]

/-- The `cycletime` entry, from the entry of the device's list. -/
theorem cycletime_decode {L : List Int} (hL : L.getD op.toNat 0 = expBase v op.toNat) :
    (if 0 ≤ op ∧ op < 256 then L.getD op.toNat 0 else 0) = baseCycles v mn mo := by
  rw [if_pos (decode_lt hd), hL, expBase_decode hd]

/-- The `extracycles` entry is non-zero exactly for the reads, wherever a page can be crossed:
the other non-zero entries are the branches', and those are in relative mode. -/
theorem extracycles_decode {L : List Int} (W : Nat) (hrel : isBranch mn = true → mo = .rel)
    (hL : L.map (· != 0) = (List.range 256).map (expExtra v)) :
    (((if 0 ≤ op ∧ op < 256 then L.getD op.toNat 0 else 0) ≠ 0) = (mn.isRead = true)) ∨
      ∀ a, readCrosses W mo a = false := by
  have he : (L.getD op.toNat 0 != 0) =
      ((mn.isRead && (mo == .abx || mo == .aby || mo == .iny)) || isBranch mn) := by
    rw [← List.getD_map L 0 (· != 0), getD_of_map_range hL _ (toNat_decode hd).1, expExtra_decode hd]
  rw [if_pos (decode_lt hd)]
  by_cases hb : isBranch mn = true
  · rw [hrel hb]
    exact Or.inr fun _ => rfl
  · cases mo with
    | abx | aby | iny =>
      left
      simpa [hb] using congrArg (· = true) he
    | _ => exact Or.inr fun _ => rfl

end

theorem bra_rows : ∀ r ∈ cmosExtTable ++ nmosTable, r.2.1 = .BRA → r.1 = 0x80 := by decide +kernel

/-- dev6502: Δcycles = Spec.stepCycles, all 151 declared opcodes, every well-formed state. -/
theorem cycles_nmos6502 (s : St) (hs : WF dev6502.cfg s) (hw : s.waiting = false)
    (mn : Mn) (mo : Mode) (hd : decode .nmos (s.mem s.pc) = some (mn, mo)) :
    (dev6502.step s).cycles = s.cycles + stepCycles 8 .nmos (core s) := by
  have hr := row_6502 hd
  have hnb : mn ≠ .BRA := by
    rintro rfl
    cases hr
  rw [stepCycles_decl 8 .nmos (core s) mn mo hw hd]
  exact step_cyc (.inl rfl) dev6502.tbl s hs hr hnb
    (cycletime_decode hd (getD_of_map_range cycles_table_6502 0 (toNat_decode hd).1))
    (extracycles_decode hd 8 (stdHandler_rel hr) extracycles_table_6502)

/-- dev65org16: Δcycles = Spec.stepCycles, all 151 declared opcodes, every well-formed state. -/
theorem cycles_org16 (s : St) (hs : WF dev65org16.cfg s) (hw : s.waiting = false)
    (mn : Mn) (mo : Mode) (hd : decode .nmos (s.mem s.pc) = some (mn, mo)) :
    (dev65org16.step s).cycles = s.cycles + stepCycles 16 .nmos (core s) := by
  have hr := row_65org16 hd
  have hnb : mn ≠ .BRA := by
    rintro rfl
    cases hr
  rw [step_65org16 hw, stepCycles_decl 16 .nmos (core s) mn mo hw hd]
  exact step_cyc (.inr rfl) dev65org16.tbl s hs hr hnb
    (cycletime_decode hd (getD_of_map_range cycles_table_65org16 0 (toNat_decode hd).1))
    (extracycles_decode hd 16 (stdHandler_rel hr) extracycles_table_65org16)

/-- dev65c02: Δcycles = Spec.stepCycles for every declared opcode except BRA ($80, known finding). -/
theorem cycles_cmos_partial (s : St) (hs : WF dev65c02.cfg s) (hw : s.waiting = false)
    (mn : Mn) (mo : Mode) (hd : decode .cmos (s.mem s.pc) = some (mn, mo)) (hbra : s.mem s.pc ≠ 0x80) :
    (dev65c02.step s).cycles = s.cycles + stepCycles 8 .cmos (core s) := by
  have hr := row_65c02 hd
  have hnb : mn ≠ .BRA := fun e =>
    hbra (bra_rows _ (List.mem_append.2 ((decode_row hd).imp And.right id)) e)
  have hn : (s.mem s.pc).toNat ≠ 0x80 := by
    have := (toNat_decode hd).2
    omega
  rw [step_65c02 hw, stepCycles_decl 8 .cmos (core s) mn mo hw hd]
  exact step_cyc (.inl rfl) dev65c02.tbl s hs hr hnb
    (cycletime_decode hd (cycles_table_65c02_partial _ (toNat_decode hd).1 hn))
    (extracycles_decode hd 8 (stdHandler_rel hr) extracycles_table_65c02)

/-- Non-vacuity: LDA $12FF,X with X=1 (page crossing) on the 6502 costs 5. -/
example : ∃ s : St, WF dev6502.cfg s ∧ s.waiting = false ∧ decode .nmos (s.mem s.pc) = some (.LDA, .abx) ∧
    stepCycles 8 .nmos (core s) = 5 := by
  refine ⟨{ (default : St) with x := 1, mem := fun k => if k = 0 then 0xbd else if k = 1 then 0xff else 0x12 }, ?_, rfl, by decide, by decide⟩
  refine ⟨by decide, by decide, by decide, by decide, by decide, by decide, ?_⟩
  intro k; dsimp only; split <;> (try split) <;> decide

end Py65.Props.C13
