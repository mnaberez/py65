/-
C18 — "Character I/O maps at the configured addresses, once per access, across resets".

The theorems are about the
hand-written model `Py65/Model/MonIO.lean` of the monitor's observers on top of the
`ObservableMemory` model of C10; the model is tied to the real `Monitor` by the correspondence
run of `harness/props/c18.py`.

Reading guide.  `Sess` is the part of a `Monitor` the mapping depends on (address width of the
current device, `getc_addr`, `putc_addr`, whether the observers are installed); `construct` is the
constructor (keyword arguments, then `-i` / `-o` parsed as hex); `applyCmds` runs any sequence of
`reset` / `mpu <name>` commands.  `replay s st evs` replays an access log `evs` (the ordered item
accesses of a running program: C12) on the session's memory from cells `st.cells`, pending input
`st.io.pending` and output `st.io.output`.  The Spec (`Py65/Spec/MonIO.lean`) is the same replay on
"a plain memory of `size` cells + an input queue + an output text", written from the property text.
-/
import Py65.Proofs.MonIOLemmas

namespace Py65.Props.C18
open Py65 Py65.Model.ObsMem Py65.Model.MonIO Py65.Spec.ObsMem Py65.Proofs.MonIO
open Py65.Spec.MonIO (SState deliver storesTo loadsFrom)

/-- `io_trace`: with the observers installed at `I` and `O`, replaying ANY access log from ANY
cells, pending input and output is the Spec's replay: every load from an address congruent to `I`
(mod the physical size) returns the next pending byte — LF as CR — or 0 when none is pending, and
consumes exactly that byte; every other load returns the cell and consumes nothing; every store
lands in its cell.  In closed form: the output grows by exactly the values stored to addresses
congruent to `O`, in order, each once; the input shrinks by exactly the number of loads from
addresses congruent to `I`. -/
theorem io_trace (s : Sess) (I O : Int) (ho : s.observed = true) (hI : s.getcAddr = some I)
    (hO : s.putcAddr = some O) (st : MState) (evs : List MemEv) :
    let r := replay s st evs
    let sp := Py65.Spec.MonIO.replay (physSize s) I O (toSpec st) evs
    r.1 = sp.1 ∧ toSpec r.2 = sp.2 ∧
    r.2.io.output = st.io.output ++ storesTo (physSize s) O evs ∧
    r.2.io.pending = st.io.pending.drop (loadsFrom (physSize s) I evs) := by
  intro r sp
  have key := replay_spec s I O ho hI hO st evs
  obtain ⟨c1, c2⟩ := spec_closed (physSize s) I O (toSpec st) evs
  exact ⟨key.1, key.2, (congrArg SState.output key.2).trans c1, (congrArg SState.pending key.2).trans c2⟩

/-- A session built by the constructor with integer addresses, as a term. -/
def exSess : Sess := { addrWidth := 16, getcAddr := some 0xe000, putcAddr := some 0xe001, observed := true }

/-- non-vacuity: I = $e000, O = $e001, input "A\nB": the program stores 'H' to O, loads I, stores
'i' to O through the alias $1e001, loads the neighbour $e002 (cell, 0), loads I twice more and once
again with nothing pending, stores to the neighbour $e002.  Output = "Hi"; the loads return
65, 13 (LF as CR), 66, 0; nothing is left pending. -/
example :
    let st : MState := { cells := fun _ => 0, io := { pending := [65, 10, 66], output := [] } }
    let r := replay exSess st [.w 0xe001 72, .r 0xe000, .w 0x1e001 105, .r 0xe002, .r 0xe000, .r 0xe000,
                               .r 0xe000, .w 0xe002 33]
    r.1 = [none, some 65, none, some 0, some 13, some 66, some 0, none] ∧
    r.2.io.output = [72, 105] ∧ r.2.io.pending = [] ∧ r.2.cells 0xe002 = 33 := by
  decide +kernel

/-- `io_mapping_stable`: the constructor takes the addresses from its keyword arguments and
overrides them with `-i` / `-o` parsed as hexadecimal; after ANY sequence of `reset` / `mpu`
commands the configured addresses are unchanged and the observers are installed exactly when both
are integers (`None`, possible only through the keyword arguments, switches character I/O off);
and then, on the memory of the session — whatever device the commands selected — the read
subscribers of ANY address are exactly `[getc]` when the address is congruent to `I` and none
otherwise, the write subscribers exactly `[putc]` when it is congruent to `O` and none otherwise. -/
theorem io_mapping_stable (aw : Int) (kg kp : Option Int) (i o : Option Py65.Model.PyStr.Str) (s0 : Sess)
    (hc : construct aw kg kp i o = some s0) (cmds : List Cmd) :
    let s := applyCmds s0 cmds
    s0.getcAddr = chosen kg i ∧ s0.putcAddr = chosen kp o ∧
    s.getcAddr = s0.getcAddr ∧ s.putcAddr = s0.putcAddr ∧
    s.observed = (s0.getcAddr.isSome && s0.putcAddr.isSome) ∧
    ∀ I O, s0.getcAddr = some I → s0.putcAddr = some O → ∀ (reply : Reply) (cells : Int → Int) (a : Int),
      let m := memOf s reply cells
      m.physMask = maskOf s.addrWidth ∧
      m.rsubs.of (phys m.physMask a) = (if phys m.physMask a = phys m.physMask I then [getcId] else []) ∧
      m.wsubs.of (phys m.physMask a) = (if phys m.physMask a = phys m.physMask O then [putcId] else []) := by
  intro s
  -- the configured addresses and the installed flag are invariant under every command
  have inv : ∀ (cmds : List Cmd) (t : Sess), t.observed = (t.getcAddr.isSome && t.putcAddr.isSome) →
      (applyCmds t cmds).getcAddr = t.getcAddr ∧ (applyCmds t cmds).putcAddr = t.putcAddr ∧
      (applyCmds t cmds).observed = (t.getcAddr.isSome && t.putcAddr.isSome) := by
    intro cmds
    induction cmds with
    | nil => intro t ht; exact ⟨rfl, rfl, ht⟩
    | cons c cs ih =>
      intro t ht
      have step : applyCmd t c = t ∨ ∃ w, applyCmd t c = resetWith t w t.getcAddr t.putcAddr := by
        cases c with
        | reset => exact Or.inr ⟨_, rfl⟩
        | mpu name =>
          simp only [applyCmd]
          split
          · exact Or.inl rfl
          · split
            · exact Or.inl rfl
            · exact Or.inr ⟨_, rfl⟩
      rw [show applyCmds t (c :: cs) = applyCmds (applyCmd t c) cs from rfl]
      rcases step with h | ⟨w, h⟩ <;> rw [h]
      · exact ih t ht
      · exact ih (resetWith t w t.getcAddr t.putcAddr) rfl
  -- the constructor
  have h0 : s0.getcAddr = chosen kg i ∧ s0.putcAddr = chosen kp o ∧
      s0.observed = (s0.getcAddr.isSome && s0.putcAddr.isSome) := by
    rw [construct_eq] at hc
    obtain ⟨g, hg, hc⟩ := Option.bind_eq_some_iff.1 hc
    obtain ⟨p, hp, rfl⟩ := Option.map_eq_some_iff.1 hc
    exact ⟨(chosen_of_optAddr hg).symm, (chosen_of_optAddr hp).symm, rfl⟩
  obtain ⟨g1, g2, g3⟩ := h0
  obtain ⟨i1, i2, i3⟩ := inv cmds s0 g3
  refine ⟨g1, g2, i1, i2, i3, ?_⟩
  intro I O hI hO reply cells a m
  have ho : s.observed = true := by
    show (applyCmds s0 cmds).observed = true
    rw [i3, hI, hO]; rfl
  have hI' : s.getcAddr = some I := by show (applyCmds s0 cmds).getcAddr = _; rw [i1, hI]
  have hO' : s.putcAddr = some O := by show (applyCmds s0 cmds).putcAddr = _; rw [i2, hO]
  have hm : m = _ := memOf_installed ho hI' hO' reply cells
  rw [hm, land_maskOf, land_maskOf]
  exact ⟨rfl, rfl, rfl⟩

/-- non-vacuity: `-i e000 -o 0` (address 0 is an address) on the 6502, then `reset`, `mpu 65Org16`,
`mpu z80` (unknown: ignored), `reset`: the observers sit at $e000 and 0 of the 256 K memory. -/
example :
    (construct 16 (some 0xF004) (some 0xF001) (some "e000".toList) (some "0".toList)).map
        (fun s0 => applyCmds s0 [.reset, .mpu "65Org16".toList, .mpu "z80".toList, .reset]) =
      some { addrWidth := 32, getcAddr := some 0xe000, putcAddr := some 0, observed := true } := by
  decide +kernel

/-- … and `None` through the keyword arguments means no character I/O, before and after `reset`. -/
example :
    (construct 16 none none none none).map (fun s0 => (applyCmds s0 [.reset]).observed) = some false := by
  decide +kernel

/-- `io_session`: the two theorems composed.  For a monitor built by the constructor with integer
addresses `I` and `O` (keyword arguments or `-i` / `-o`), after ANY sequence of `reset` / `mpu`
commands, replaying ANY access log of a running program writes exactly the values stored to
addresses congruent to `O` (mod the physical size of the current device's memory), in order, each
once, and consumes exactly one pending byte per load from an address congruent to `I`. -/
theorem io_session (aw : Int) (kg kp : Option Int) (i o : Option Py65.Model.PyStr.Str) (s0 : Sess)
    (hc : construct aw kg kp i o = some s0) (cmds : List Cmd) (I O : Int)
    (hI : s0.getcAddr = some I) (hO : s0.putcAddr = some O) (st : MState) (evs : List MemEv) :
    let s := applyCmds s0 cmds
    let r := replay s st evs
    r.1 = (Py65.Spec.MonIO.replay (physSize s) I O (toSpec st) evs).1 ∧
    r.2.io.output = st.io.output ++ storesTo (physSize s) O evs ∧
    r.2.io.pending = st.io.pending.drop (loadsFrom (physSize s) I evs) := by
  intro s r
  obtain ⟨-, -, g1, g2, g3, -⟩ := io_mapping_stable aw kg kp i o s0 hc cmds
  have ho : s.observed = true := by
    show (applyCmds s0 cmds).observed = true
    rw [g3, hI, hO]; rfl
  have hI' : s.getcAddr = some I := by show (applyCmds s0 cmds).getcAddr = _; rw [g1, hI]
  have hO' : s.putcAddr = some O := by show (applyCmds s0 cmds).putcAddr = _; rw [g2, hO]
  obtain ⟨t1, -, t3, t4⟩ := io_trace s I O ho hI' hO' st evs
  exact ⟨t1, t3, t4⟩

end Py65.Props.C18
