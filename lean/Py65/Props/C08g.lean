/-
C08g -- the main theorems of C08 ("disassembly re-assembles to the original bytes for every encoding
and address") restated for the GENERATED `Disassembler.instruction_at` (`Py65/Gen/DisasmGen.lean`,
translated from `py65/disassembler.py` by `harness/py2lean_dis.py` on every run), composed with the
assembler model `Model.Asm.assembleL`.

`disOf d P mem` is `Disassembler(mpu, address_parser)` built by the
generated `__init__` (see `Py65/Proofs/DisasmGenEq.lean`, which proves `Gen.instruction_at =
Model.Disasm.instructionAt`); every theorem here is the C08 theorem rewritten with that equality.
-/
import Py65.Props.C08
import Py65.Proofs.DisasmGenEq

namespace Py65.Props.C08g
open Py65.Model Py65.Model.PyStr Py65.Model.AddrParser Py65.Model.Asm Py65.Model.Disasm
open Py65.Proofs.Asm Py65.Proofs.DisasmGenEq Py65.Gen.DisasmGen
open Py65.Spec (Mode Mn Variant decode)
open Py65.Spec.Asm (instrBytes)
open Py65.Props.C08 (exP memOf)

variable {d : Dev} {v : Variant} {W : Nat}

/-- `C08.roundtrip` with the generated `instruction_at`, which returns the tuple `(documented length, text)`. -/
theorem roundtrip (hd : IsDevice d v W) {P : Parser} (hg : GoodLabels P W) (mem : Int → Int) (pc : Int)
    (n : Nat) (hn : n < 256) (hop : byteAt d mem pc = (n : Int)) (mn : Mn) (mo : Mode)
    (hdec : decode v (n : Int) = some (mn, mo))
    (hb1 : 0 ≤ byteAt d mem (pc + 1) ∧ byteAt d mem (pc + 1) < 2 ^ W)
    (hb2 : 0 ≤ byteAt d mem (pc + 2) ∧ byteAt d mem (pc + 2) < 2 ^ W)
    (hfit : pc + mo.len ≤ 2 ^ (2 * W)) :
    ∃ text r, (disOf d P mem).instruction_at pc = .ok (mo.len, text) ∧ assembleL d P text pc = .ok r ∧
      RoundTrip v mn mo n (byteAt d mem (pc + 1)) (byteAt d mem (pc + 2)) r := by
  obtain ⟨text, r, h1, h2, h3⟩ := C08.roundtrip hd hg mem pc n hn hop mn mo hdec hb1 hb2 hfit
  exact ⟨text, r, gen_of_model_len (.of_devOK hd.ok) h1, h2, h3⟩

/-- `C08.roundtrip_exact` with the generated `instruction_at`. -/
theorem roundtrip_exact (hd : IsDevice d v W) {P : Parser} (hg : GoodLabels P W) (mem : Int → Int) (pc : Int)
    (n : Nat) (hn : n < 256) (hop : byteAt d mem pc = (n : Int)) (mn : Mn) (mo : Mode)
    (hdec : decode v (n : Int) = some (mn, mo))
    (hb1 : 0 ≤ byteAt d mem (pc + 1) ∧ byteAt d mem (pc + 1) < 2 ^ W)
    (hb2 : 0 ≤ byteAt d mem (pc + 2) ∧ byteAt d mem (pc + 2) < 2 ^ W)
    (hfit : pc + mo.len ≤ 2 ^ (2 * W))
    (hnt : zpTwin mo = none ∨ byteAt d mem (pc + 2) ≠ 0) :
    ∃ text, (disOf d P mem).instruction_at pc = .ok (mo.len, text) ∧
      assembleL d P text pc =
        .ok (instrBytes mo n (byteAt d mem (pc + 1)) (byteAt d mem (pc + 2))) := by
  obtain ⟨text, h1, h2⟩ := C08.roundtrip_exact hd hg mem pc n hn hop mn mo hdec hb1 hb2 hfit hnt
  exact ⟨text, gen_of_model_len (.of_devOK hd.ok) h1, h2⟩

/-! ### non-vacuity: concrete round trips, the generated function evaluated by the kernel -/

example : (disOf dev6502 ⟨16, 16, []⟩ (memOf 0x300 0xbd 0x34 0x12)).instruction_at 0x300
      = .ok (3, "LDA $1234,X".toList) ∧
    assembleL dev6502 ⟨16, 16, []⟩ "LDA $1234,X".toList 0x300 = .ok [0xbd, 0x34, 0x12] := by decide +kernel
example : (disOf dev6502 exP (memOf 0x300 0xb1 0x10 0)).instruction_at 0x300 = .ok (2, "LDA (zp_ptr),Y".toList) ∧
    assembleL dev6502 exP "LDA (zp_ptr),Y".toList 0x300 = .ok [0xb1, 0x10] := by decide +kernel
-- a backward branch at the start of memory: the target wraps to the top, shown as a label
example : (disOf dev6502 exP (memOf 0x0 0xd0 0xee 0)).instruction_at 0x0 = .ok (2, "BNE top".toList) ∧
    assembleL dev6502 exP "BNE top".toList 0x0 = .ok [0xd0, 0xee] := by decide +kernel
example : (disOf dev65org16 ⟨32, 16, []⟩
      (fun a => if a = 5 then 0x4c else if a = 6 then 0x5678 else 0x1234)).instruction_at 5
      = .ok (3, "JMP $12345678".toList) ∧
    assembleL dev65org16 ⟨32, 16, []⟩ "JMP $12345678".toList 5 = .ok [0x4c, 0x5678, 0x1234] := by decide +kernel

/-- An instruction that straddles the top of memory is refused on re-assembly with
`OverflowError`, as C07 demands of code running past the top. -/
theorem roundtrip_past_top :
    (disOf dev6502 ⟨16, 16, []⟩ (memOf 0xffff 0xa9 0x42 0)).instruction_at 0xffff = .ok (2, "LDA #$42".toList) ∧
    assembleL dev6502 ⟨16, 16, []⟩ "LDA #$42".toList 0xffff = .overflow := by decide +kernel

end Py65.Props.C08g
