/-
C02 -- 65C02: CMOS additions and changed behaviours execute per the W65C02S model.

A declared opcode names a row of `Spec.cmosExtTable` (the opcodes the 65C02 adds) or of
`Spec.nmosTable` (inherited); the device's table holds the row's `stdHandler` there
(`Proofs.row_65c02`), and `Proofs.stdHandler_ok` is the same theorem as for C01, which is
"instructions inherited from the NMOS part behave as on the 6502 device"; the 65C02's own BRK and
JMP (ind) are cases of it.
-/
import Py65.Proofs.Handlers

namespace Py65.Props.C02
open Py65 Py65.Gen Py65.Spec Py65.Proofs

/-- Opcodes `C02_partial` leaves out.  The list is empty, so `C02_partial` is the full property. -/
def unproved : List Int := []

/-- The full statement of C02: that of C01 at the 65C02, over the opcodes `decode .cmos` declares. -/
def Statement : Prop :=
  ∀ (s : St), WF dev65c02.cfg s → s.waiting = false →
  ∀ (mn : Mn) (mo : Mode), decode .cmos (s.mem s.pc) = some (mn, mo) →
  ((mn = .ADC ∨ mn = .SBC) → flag s.p bitD = false) →
  (mn = .JSR → NoSelfOverwriteJSR dev65c02.cfg (afterFetch dev65c02.cfg dev65c02.tbl s)) →
  abs (dev65c02.step s) = Spec.step 8 .cmos (abs s)

/-- A 65C02 that is not waiting steps like the shared `step`. -/
theorem step_not_waiting (s : St) (hw : s.waiting = false) :
    dev65c02.step s = Mpu6502.step dev65c02.cfg dev65c02.tbl s := step_65c02 hw

theorem C02_partial (s : St) (hs : WF dev65c02.cfg s) (hw : s.waiting = false)
    (mn : Mn) (mo : Mode) (hd : decode .cmos (s.mem s.pc) = some (mn, mo))
    (hproved : s.mem s.pc ∉ unproved)
    (hdec : (mn = .ADC ∨ mn = .SBC) → flag s.p bitD = false)
    (hjsr : mn = .JSR → NoSelfOverwriteJSR dev65c02.cfg (afterFetch dev65c02.cfg dev65c02.tbl s)) :
    abs (dev65c02.step s) = Spec.step 8 .cmos (abs s) := by
  rw [step_not_waiting s hw]
  exact step_row (.inl rfl) dev65c02.tbl s hs hw hd (row_65c02 hd) (fun _ => rfl) ⟨hdec, hjsr⟩

/-- C02 in full: `unproved` is empty, so the partial theorem is the statement. -/
theorem C02_full : Statement := fun s hs hw mn mo hd hdec hjsr =>
  C02_partial s hs hw mn mo hd (by simp [unproved]) hdec hjsr

/-- Non-vacuity: a well-formed state executing STZ $80 (a CMOS-only opcode). -/
example : ∃ s : St, WF dev65c02.cfg s ∧ s.waiting = false ∧
    decode .cmos (s.mem s.pc) = some (.STZ, .zpg) ∧ s.mem s.pc ∉ unproved := by
  refine ⟨{ (default : St) with mem := fun k => if k = 0 then 0x64 else 0x80 }, ?_, rfl, by decide, by decide⟩
  refine ⟨by decide, by decide, by decide, by decide, by decide, by decide, ?_⟩
  intro k; dsimp only; split <;> decide

end Py65.Props.C02
