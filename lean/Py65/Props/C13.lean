/-
C13 -- The cycle counter advances by the documented cycle count of each instruction.

Here, for every state, the parts of the count: the generated `cycletime` / `extracycles` tables against
`Spec.Cycles.baseCycles`, what step() adds, where `excycles` is bumped, and irq / nmi / reset / WAI.
KNOWN FINDING (recorded, not repaired: two existing tests pin it): 65C02 BRA counts 2 (+1 page)
instead of the documented 3 (+1).  `cycles_table_65c02_partial` excludes exactly opcode $80 and
`bra_deviation` proves the deviation, so the exclusion is not wider than the defect.
The per-opcode assembly `Δcycles = Spec.stepCycles` for every declared opcode is in the second file
Props/C13b.lean (`cycles_nmos6502`, `cycles_org16`, `cycles_cmos_partial`).
-/
import Py65.Proofs.CycOps
import Py65.Gen.Tables
import Py65.Proofs.DecodeAll

namespace Py65.Props.C13
open Py65 Py65.Gen Py65.Spec Py65.Proofs

def expBase (v : Variant) (n : Nat) : Int :=
  match decode v (Int.ofNat n) with
  | some (mn, mo) => baseCycles v mn mo
  | none => 0

/-- is the opcode an indexed read (abs,X / abs,Y / (zp),Y of a read instruction) or a branch? -/
def expExtra (v : Variant) (n : Nat) : Bool :=
  match decode v (Int.ofNat n) with
  | some (mn, mo) => (mn.isRead && (mo == .abx || mo == .aby || mo == .iny)) || isBranch mn
  | none => false

/- The expected tables, computed from `decodeAll` (one pass over the instruction tables). -/
theorem expBase_table (v : Variant) :
    ((decodeAll v).map fun
      | some (mn, mo) => baseCycles v mn mo
      | none => 0) = (List.range 256).map (expBase v) :=
  map_decode v _

theorem expExtra_table (v : Variant) :
    ((decodeAll v).map fun
      | some (mn, mo) => (mn.isRead && (mo == .abx || mo == .aby || mo == .iny)) || isBranch mn
      | none => false) = (List.range 256).map (expExtra v) :=
  map_decode v _

/-- The generated `cycletime` tables = the documented base counts of `Spec.Cycles.baseCycles` for all 256
opcodes of every device - finite tables, decided by kernel evaluation. -/
theorem cycles_table_6502 : dev6502.cycletimeL = (List.range 256).map (expBase .nmos) := by
  rw [← expBase_table]; decide +kernel
theorem cycles_table_65org16 : dev65org16.cycletimeL = (List.range 256).map (expBase .nmos) :=
  cycles_table_6502

/-- 65C02: every opcode except BRA ($80). -/
theorem cycles_table_65c02_partial :
    ∀ n < 256, n ≠ 0x80 → dev65c02.cycletimeL.getD n 0 = expBase .cmos n := by
  -- the table with BRA's entry put right is the documented one
  have key : dev65c02.cycletimeL.set 0x80 3 = (List.range 256).map (expBase .cmos) := by
    rw [← expBase_table]; decide +kernel
  intro n hn h80
  have := congrArg (fun l => l.getD n 0) key
  simpa [List.getD, List.getElem?_set_ne (Ne.symm h80), hn] using this

/-- The recorded deviation, with its witness: the table holds 1 and the branch helper adds the
taken-branch cycle, 2 (+1 for a page crossing) in all; the documented 3 (+1) has the taken cycle in
its base count (`Spec.instrCycles` adds none for BRA). -/
theorem bra_deviation : dev65c02.cycletimeL.getD 0x80 0 = 1 ∧ expBase .cmos 0x80 = 3 := by decide +kernel

/-- The `extracycles` entries are non-zero exactly for the indexed reads (and the branches). -/
theorem extracycles_table_6502 :
    (dev6502.extracyclesL.map (· != 0)) = (List.range 256).map (expExtra .nmos) := by
  rw [← expExtra_table]; decide +kernel
theorem extracycles_table_65org16 :
    (dev65org16.extracyclesL.map (· != 0)) = (List.range 256).map (expExtra .nmos) :=
  extracycles_table_6502
theorem extracycles_table_65c02 :
    (dev65c02.extracyclesL.map (· != 0)) = (List.range 256).map (expExtra .cmos) := by
  rw [← expExtra_table]; decide +kernel

/-- step() adds exactly `cycletime[opcode] + excycles` (all devices share this `step`). -/
theorem step_cycles (c : Cfg) (t : Tbl) (s : St) :
    (Mpu6502.step c t s).cycles =
      (t.instruct (s.mem s.pc) (afterFetch c t s)).cycles + t.cycletime (s.mem s.pc) +
        (t.instruct (s.mem s.pc) (afterFetch c t s)).excycles := Py65.Proofs.step_cycles c t s

/-- The only places that bump `excycles` (the three indexed reads and `branch_cycles`) do so exactly when the
documented page-crossing / branch-taken conditions of the Spec hold. -/
theorem indexed_read_abx (c : Cfg) (hc : IsDev c) (s : St) (hs : WF c s) :
    (Mpu6502.AbsoluteXAddr c s).2.excycles =
      s.excycles + (if s.addcycles ≠ 0 ∧ readCrosses c.BYTE_WIDTH .abx (core s) then 1 else 0) :=
  (AbsoluteXAddr_cyc c hc s hs).2
theorem indexed_read_aby (c : Cfg) (hc : IsDev c) (s : St) (hs : WF c s) :
    (Mpu6502.AbsoluteYAddr c s).2.excycles =
      s.excycles + (if s.addcycles ≠ 0 ∧ readCrosses c.BYTE_WIDTH .aby (core s) then 1 else 0) :=
  (AbsoluteYAddr_cyc c hc s hs).2
theorem indexed_read_iny (c : Cfg) (hc : IsDev c) (s : St) (hs : WF c s) :
    (Mpu6502.IndirectYAddr c s).2.excycles =
      s.excycles + (if s.addcycles ≠ 0 ∧ readCrosses c.BYTE_WIDTH .iny (core s) then 1 else 0) :=
  (IndirectYAddr_cyc c hc s hs).2

/-- A taken branch: +1, and +1 more when the target is in another page than the next instruction
(PC wrap at the top of memory included). -/
theorem branch_cycles (c : Cfg) (hc : IsDev c) (s : St) (hs : WF c s) :
    (Mpu6502.BranchRelAddr c s).excycles =
      s.excycles + 1 +
        (if page c.BYTE_WIDTH (branchTarget c.BYTE_WIDTH (core s)) ≠
            page c.BYTE_WIDTH (nextPc c.BYTE_WIDTH .rel (core s)) then 1 else 0) :=
  BranchRelAddr_cyc c hc s hs

/-- Operation helpers leave `excycles` to the addressing-mode helper (nine of them; every helper:
`opX_cyc` in `Proofs/CycOps.lean`). -/
theorem op_keeps_excycles_partial (c : Cfg) (x : St → Int × St) (s : St) :
    (Mpu6502.opLDA c x s).excycles = (x s).2.excycles ∧ (Mpu6502.opLDX c x s).excycles = (x s).2.excycles ∧
    (Mpu6502.opLDY c x s).excycles = (x s).2.excycles ∧ (Mpu6502.opORA c x s).excycles = (x s).2.excycles ∧
    (Mpu6502.opAND c x s).excycles = (x s).2.excycles ∧ (Mpu6502.opEOR c x s).excycles = (x s).2.excycles ∧
    (Mpu6502.opSTA c x s).excycles = (x s).2.excycles ∧ (Mpu6502.opSTX c x s).excycles = (x s).2.excycles ∧
    (Mpu6502.opSTY c x s).excycles = (x s).2.excycles :=
  ⟨(opLDA_cyc c x s).2, (opLDX_cyc c x s).2, (opLDY_cyc c x s).2, (opORA_cyc c x s).2,
   (opAND_cyc c x s).2, (opEOR_cyc c x s).2, (opSTA_cyc c x s).2, (opSTX_cyc c x s).2,
   (opSTY_cyc c x s).2⟩

theorem irq_cycles (c : Cfg) (hc : IsDev c) (s : St) :
    (Mpu6502.irq c s).cycles = s.cycles + irqCycles (abs s) := Py65.Proofs.irq_cycles c hc s
theorem nmi_cycles (c : Cfg) (s : St) : (Mpu6502.nmi c s).cycles = s.cycles + 7 :=
  Py65.Proofs.nmi_cycles c s
theorem reset_cycles (c : Cfg) (a : Int) (s : St) :
    (Mpu6502.reset_at c a s).cycles = 0 ∧ (Mpu6502.reset_vec c s).cycles = 0 :=
  Py65.Proofs.reset_cycles c a s
theorem wai_cycles (s : St) (hw : s.waiting = true) : (dev65c02.step s).cycles = s.cycles + 1 := by
  show (Mpu65c02.step dev65c02.cfg dev65c02.tbl s).cycles = _
  rw [Py65.Proofs.wai_halts dev65c02.cfg dev65c02.tbl s hw]

/-- irq() and nmi() never decrease the counter. -/
theorem cycles_monotone_events (c : Cfg) (hc : IsDev c) (s : St) :
    s.cycles ≤ (Mpu6502.irq c s).cycles ∧ s.cycles ≤ (Mpu6502.nmi c s).cycles := by
  rw [irq_cycles c hc s]
  refine ⟨?_, by rw [nmi_cycles]; omega⟩
  simp only [irqCycles]; split <;> omega

/-- Non-vacuity of the table statements: LDA abs,X is 4 (+1), DEC abs is 6, BRK is 7. -/
example : dev6502.cycletimeL.getD 0xbd 0 = 4 ∧ dev6502.cycletimeL.getD 0xce 0 = 6 ∧
    dev6502.cycletimeL.getD 0x00 0 = 7 ∧ dev6502.extracyclesL.getD 0xbd 0 ≠ 0 := by decide +kernel

end Py65.Props.C13
