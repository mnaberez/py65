/-
C19 — "What the monitor displays is the machine's true state": the two display COMMANDS whose
control flow `Props/C19b.lean` does not cover -- `~ <number>` as a whole and the range walk of
`disassemble <range>` (hand model `Py65/Model/Show.lean`; the texts are those of `Model/Fmt.lean`).
Same namespace as `Props/C19.lean` / `C19b.lean`.  The model is tied to py65/monitor.py by regeneration
(`Py65/Proofs/ReprGenEq.lean`: `do_tilde_eq`, `do_disassemble_eq`); `Props/C19g.lean` restates these
theorems for the generated functions.
-/
import Py65.Proofs.ShowLemmas
import Py65.Props.C19b

namespace Py65.Props.C19
open Py65.Model.PyStr Py65.Model.AddrParser Py65.Model.Fmt Py65.Model.Show Py65.Proofs.Show Py65.Proofs.Num

/-- `tilde_shows_number`: for an argument the address parser reads as the number `n`, `~` prints
exactly four lines -- `+` and decimal digits, `$` and hex digits, octal digits, binary digits -- and
every one of them denotes `n` (read back by `int(text, base)`).  `bw` is the `N` of `BYTE_FORMAT`. -/
theorem tilde_shows_number (bw : Nat) (P : Parser) (args : Str) (n : Nat) (hn : n < 10 ^ 4300)
    (hargs : args ≠ []) (hp : numberL P args = .ok (n : Int)) :
    ∃ t1 t2 t3 t4, doTilde bw P args = .lines ['+' :: t1, '$' :: t2, t3, t4] ∧
      pyIntL t1 10 = some (n : Int) ∧ pyIntL t2 16 = some (n : Int) ∧
      pyIntL t3 8 = some (n : Int) ∧ pyIntL t4 2 = some (n : Int) := by
  obtain ⟨h1, h2, h3, h4⟩ := tilde_consistent bw n hn
  refine ⟨fmtDecL n, fmtHexL bw n, fmtOctL 4 n, zfillL (fmtBinL n) 8, ?_, ?_, ?_, ?_, ?_⟩
  · simp only [doTilde, hargs, if_false, hp, tildeLines_nat]
  · simpa [pyInt, fmtDec] using h1
  · simpa [pyInt, fmtHex] using h2
  · simpa [pyInt, fmtOct4, fmtOct] using h3
  · simpa [pyInt, zfill, fmtBin] using h4

/-- non-vacuity: `~ $ff` on a 6502 monitor (`BYTE_FORMAT = "%02x"`). -/
example : doTilde 2 P16 "$ff".toList =
    .lines ["+255".toList, "$ff".toList, "0377".toList, "11111111".toList] := by
  -- hand the kernel each literal as its list of characters: it then compares lists instead of decoding UTF-8
  repeat rw [String.toList_ofList]
  decide +kernel

/-- `tilde_rejects`: an argument the parser refuses with `KeyError` / `OverflowError` prints one
message line naming the argument and no number at all. -/
theorem tilde_rejects (bw : Nat) (P : Parser) (args : Str) (hargs : args ≠ []) :
    (numberL P args = .key → doTilde bw P args = .lines ["Bad label: ".toList ++ args]) ∧
    (numberL P args = .overflow → doTilde bw P args = .lines ["Overflow error: ".toList ++ args]) := by
  constructor <;> intro h <;> simp only [doTilde, hargs, if_false, h]

example : doTilde 2 P16 "nosuch".toList = .lines ["Bad label: nosuch".toList] ∧
    doTilde 2 P16 "$10000".toList = .lines ["Overflow error: $10000".toList] := by
  repeat rw [String.toList_ofList]
  decide +kernel

/-- The display property of ONE line `t` of `disassemble` output for the instruction of `length`
cells at `address` with the text `disasm` (the conclusion of `disasm_shows_bytes`). -/
def ShowsBytes (d : Dev) (mem : Nat → Nat) (address length : Nat) (disasm t : Str) : Prop :=
  t.head? = some '$' ∧
  pyIntL ((t.drop 1).take d.addrDigits) 16 = some (address : Int) ∧
  (∀ k, k < length →
    ((t.drop (1 + d.addrDigits + 2 + k * (d.byteDigits + 1))).take (d.byteDigits + 1) =
        fmtHexL d.byteDigits (mem ((address + k) % 2 ^ d.addrWidth)) ++ [' '] ∧
     pyIntL (fmtHexL d.byteDigits (mem ((address + k) % 2 ^ d.addrWidth))) 16 =
        some ((mem ((address + k) % 2 ^ d.addrWidth) : Nat) : Int))) ∧
  (length ≤ 3 → t.drop (1 + d.addrDigits + 2 + fieldWidth d) = disasm)

theorem showsBytes_format (d : Dev) (hd : d ∈ devices) (mem : Nat → Nat) (hm : ∀ a, mem a < 2 ^ d.byteWidth)
    (address length : Nat) (ha : address < 2 ^ d.addrWidth) (disasm : Str) :
    ShowsBytes d mem address length disasm (formatDisassembly d mem address length disasm) :=
  disasm_shows_bytes d hd mem hm address length ha disasm

/-- `disasm_walk`: what a completed `disassemble <range>` printed, for ANY disassembler `iat` and line
formatter `fmt`: one line per visited instruction, in order; the first visited address is `cur`
(`start`), each instruction is what `iat` returns at its address, the next address is its length
further on (`Visits` / `advance`), and the walk ends at the first address beyond `end`. -/
theorem disasm_walk {ε : Type} (iat : Int → Except ε (Int × Str)) (fmt : Int → Int → Str → Except ε Str)
    (maxA start end_ : Int) (fuel : Nat) (cur : Int) (nw : Bool) (lines : List Str)
    (h : walk iat fmt maxA start end_ fuel cur nw = (lines, .done)) :
    ∃ vs, Visits iat maxA start end_ cur nw vs ∧
      List.Forall₂ (fun v line => fmt v.1 v.2.1 v.2.2 = .ok line) vs lines :=
  walk_visits iat fmt maxA start end_ fuel cur nw lines h

/-- `disasm_walk_plain`: in an ordinary range (`start ≤ end`) the visited instructions are
consecutive: each starts where the previous one ended (address + length), the first at `start`,
the last is the one that reaches beyond `end`. -/
theorem disasm_walk_plain {ε : Type} (iat : Int → Except ε (Int × Str)) (fmt : Int → Int → Str → Except ε Str)
    (maxA start end_ : Int) (hse : start ≤ end_) (fuel : Nat) (lines : List Str)
    (h : walk iat fmt maxA start end_ fuel start (decide (start > end_)) = (lines, .done)) :
    ∃ vs, Steps iat end_ start vs ∧ List.Forall₂ (fun v line => fmt v.1 v.2.1 v.2.2 = .ok line) vs lines := by
  have hd : decide (start > end_) = false := by simp; omega
  rw [hd] at h
  obtain ⟨vs, hv, hf⟩ := walk_visits iat fmt maxA start end_ fuel start false lines h
  exact ⟨vs, visits_plain iat maxA start end_ (by omega) vs start hv, hf⟩

/-- `disasm_walk_wraps`: in a wrapping range (`start > end`) the next address is taken modulo the
size of the address space, and passing the top ends the wrap phase. -/
theorem disasm_walk_wraps (maxA : Int) (n : Nat) (cur : Int) (nw : Bool) (h0 : 0 ≤ cur) (h1 : cur ≤ maxA)
    (hn : (n : Int) ≤ maxA + 1) :
    advance maxA true n cur nw = if cur + n > maxA then (cur + n - (maxA + 1), false) else (cur + n, nw) :=
  advance_wrap maxA n cur nw h0 h1 hn

/-- `disasm_walk_complete`: the hypothesis of `disasm_walk` is satisfiable -- an ordinary range whose
instructions have lengths `1 … L` and printable lines is walked to its end within
`cells + L + 1` units of fuel. -/
theorem disasm_walk_complete {ε : Type} (iat : Int → Except ε (Int × Str)) (fmt : Int → Int → Str → Except ε Str)
    (maxA start end_ : Int) (hse : start ≤ end_) (L : Nat)
    (hi : ∀ a, a ≤ end_ → ∃ len text line, iat a = .ok (len, text) ∧ 1 ≤ len ∧ len ≤ (L : Int) ∧
      fmt a len text = .ok line)
    (fuel : Nat) (hf : (end_ - start + 1).toNat + L + 1 ≤ fuel) :
    ∃ lines, walk iat fmt maxA start end_ fuel start (decide (start > end_)) = (lines, .done) := by
  have hd : decide (start > end_) = false := by simp; omega
  rw [hd]
  exact ⟨_, Prod.ext rfl (walk_complete iat fmt maxA start end_ (by omega) L start (fun a _ => hi a) fuel start
    (Int.le_refl _) hf)⟩

/-- The line formatter of the display model as the walk's `fmt` (it never raises). -/
def fmtOf {ε : Type} (d : Dev) (mem : Nat → Nat) : Int → Int → Str → Except ε Str :=
  fun a len text => .ok (formatDisassembly d mem a.toNat len.toNat text)

/-- `disasm_walk_shows_bytes`: every line of a completed `disassemble <range>` inside the address
space (`0 ≤ start ≤ maxA`, `end ≤ maxA`, `maxA = 2^ADDR_WIDTH - 1`; ordinary or wrapping) shows the
address the walk is at and the cells in memory at that address (`ShowsBytes`), for ANY disassembler and
for every line formatter that is the display model's `formatDisassembly` on addresses and lengths that
are not negative (`fmtOf`; the generated `Monitor._format_disassembly`: `format_disassembly_eq`). -/
theorem disasm_walk_shows_bytes {ε : Type} (d : Dev) (hd : d ∈ devices) (mem : Nat → Nat)
    (hm : ∀ a, mem a < 2 ^ d.byteWidth) (iat : Int → Except ε (Int × Str)) (fmt : Int → Int → Str → Except ε Str)
    (hfmt : ∀ (a len : Nat) (text : Str), fmt (a : Int) (len : Int) text = .ok (formatDisassembly d mem a len text))
    (start end_ : Int) (fuel : Nat)
    (lines : List Str) (h0 : 0 ≤ start) (h1 : start ≤ (2 : Int) ^ d.addrWidth - 1) (h2 : end_ ≤ (2 : Int) ^ d.addrWidth - 1)
    (h : walk iat fmt ((2 : Int) ^ d.addrWidth - 1) start end_ fuel start (decide (start > end_)) =
      (lines, .done)) :
    ∃ vs, Visits iat ((2 : Int) ^ d.addrWidth - 1) start end_ start (decide (start > end_)) vs ∧
      List.Forall₂ (fun v line => ∃ a len : Nat, v.1 = (a : Int) ∧ v.2.1 = (len : Int) ∧
        ShowsBytes d mem a len v.2.2 line) vs lines := by
  obtain ⟨vs, hv, hf⟩ := walk_visits iat fmt _ start end_ fuel start _ lines h
  refine ⟨vs, hv, ?_⟩
  have hnn := visits_nonneg iat _ start end_ vs start _ h0 hv
  have hle := visits_le iat _ start end_ h2 vs start _ (fun hw => ⟨hw, h1⟩) hv
  have hq := forall₂_and_left hf (Q := fun v => (0 ≤ v.1 ∧ 0 ≤ v.2.1) ∧ v.1 ≤ (2 : Int) ^ d.addrWidth - 1)
    (fun v hv' => ⟨hnn v hv', hle v hv'⟩)
  refine hq.imp ?_
  rintro ⟨a, len, text⟩ line ⟨⟨⟨ha0, hl0⟩, hamax⟩, hline⟩
  obtain ⟨an, rfl⟩ := Int.eq_ofNat_of_zero_le ha0
  obtain ⟨ln, rfl⟩ := Int.eq_ofNat_of_zero_le hl0
  refine ⟨an, ln, rfl, rfl, ?_⟩
  simp only [hfmt, Except.ok.injEq] at hline
  rw [← hline]
  have han : an < 2 ^ d.addrWidth := by
    have : (an : Int) < (2 : Int) ^ d.addrWidth := by simp only at hamax; omega
    exact_mod_cast this
  exact showsBytes_format d hd mem hm an ln han text

theorem fmtOf_spec {ε : Type} (d : Dev) (mem : Nat → Nat) (a len : Nat) (text : Str) :
    fmtOf (ε := ε) d mem (a : Int) (len : Int) text = .ok (formatDisassembly d mem a len text) := by
  simp [fmtOf]

/-- non-vacuity: `disassemble fffe:0001` on a 6502 whose memory holds `LDA #$42` at `$fffe` and NOPs
elsewhere (a toy two-opcode disassembler): three lines, the walk wraps past the top of memory. -/
example :
    let mem : Nat → Nat := fun a => if a = 0xfffe then 0xa9 else if a = 0xffff then 0x42 else 0xea
    let iat : Int → Except Unit (Int × Str) := fun a =>
      if mem a.toNat = 0xa9 then .ok (2, "LDA #$42".toList) else .ok (1, "NOP".toList)
    walk iat (fmtOf dev6502 mem) 0xffff 0xfffe 1 10 0xfffe true =
      (["$fffe  a9 42     LDA #$42".toList, "$0000  ea        NOP".toList, "$0001  ea        NOP".toList], .done) := by
  repeat rw [String.toList_ofList]
  decide +kernel

end Py65.Props.C19
