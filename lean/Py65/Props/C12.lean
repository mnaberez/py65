/-
C12 -- every instruction performs exactly the memory accesses its definition implies.

The generated model of the devices (regenerated from the Python source on every run) logs every
`memory[...]` read and write.
For every declared opcode and every well-formed state, the events one `step()` appends to that log
are - as a multiset - the opcode fetch, the operand bytes `Spec.fetched` (each at most once, a
sub-list of the instruction's own operand bytes) and the data accesses `Spec.dataAccesses`
(loads/compares/ALU: one read of the effective address; stores: one write, no read;
read-modify-write: one read then one write; pushes/pulls: the stack cells involved; pointer and
vector bytes once each) - and nothing else.  No opcode is excluded and no side condition on the
state is needed (decimal mode, self-overwriting instructions included).

A declared opcode names a table row; the device's table holds the row's `stdHandler` there
(`Proofs.row_*`), and `Proofs.stdHandler_acc` is the statement about handlers.
-/
import Py65.Proofs.AccHandlers

namespace Py65.Props.C12
open Py65 Py65.Gen Py65.Spec Py65.Proofs Py

set_option linter.unusedSimpArgs false

/-- What one `step()` may do to memory: the opcode fetch, then `Spec.instrAccesses` evaluated on the
state after the opcode fetch (PC at the first operand byte), as a multiset. -/
def StepAccesses (W : Nat) (v : Variant) (mn : Mn) (mo : Mode) (s : St) (s' : St) : Prop :=
  ∃ T : List Acc, acl s' = T.reverse ++ acl s ∧
    T.Perm (Acc.r s.pc :: instrAccesses W v mn mo { core s with pc := (s.pc + 1) % AM W })

/-- The operand bytes an instruction fetches are among its own operand bytes, each at most once. -/
theorem fetched_sublist (W : Nat) (mn : Mn) (mo : Mode) (s : AState) :
    (fetched W mn mo s).Sublist (operandAddrs W mo s) ∨ (mo = .rel ∧ (fetched W mn mo s).Sublist [s.pc]) := by
  cases mo <;> simp [fetched, operandAddrs, Mode.len]
  split <;> simp

/-- One `step()` with any table that holds the row's `stdHandler` at the opcode. -/
theorem step_acc {c : Cfg} (hc : IsDev c) (t : Tbl) {v : Variant} (s : St) (hs : WF c s)
    {mn : Mn} {mo : Mode} (hr : stdHandler c v mn mo = some (t.instruct (s.mem s.pc)))
    (hv : v = .cmos → c = dev6502.cfg) :
    StepAccesses c.BYTE_WIDTH v mn mo s (Mpu6502.step c t s) := by
  obtain ⟨T, h1, h2⟩ := stdHandler_acc hc hr hv (afterFetch c t s) (afterFetch_WF c hc t s hs)
  rw [afterFetch_core hc t s] at h2
  exact ⟨Acc.r s.pc :: T, step_acl c t s T h1, h2.cons _⟩

/-- dev6502: every one of the 151 declared opcodes, every well-formed state. -/
theorem accesses_nmos6502 (s : St) (hs : WF dev6502.cfg s) (hw : s.waiting = false)
    (mn : Mn) (mo : Mode) (hd : decode .nmos (s.mem s.pc) = some (mn, mo)) :
    StepAccesses 8 .nmos mn mo s (dev6502.step s) := by
  exact step_acc (.inl rfl) dev6502.tbl s hs (row_6502 hd) nofun

/-- dev65org16: every one of the 151 declared opcodes, every well-formed state. -/
theorem accesses_org16 (s : St) (hs : WF dev65org16.cfg s) (hw : s.waiting = false)
    (mn : Mn) (mo : Mode) (hd : decode .nmos (s.mem s.pc) = some (mn, mo)) :
    StepAccesses 16 .nmos mn mo s (dev65org16.step s) := by
  rw [step_65org16 hw]
  exact step_acc (.inr rfl) dev65org16.tbl s hs (row_65org16 hd) nofun

/-- dev65c02: every one of the 195 declared opcodes (44 added or overridden rows, the rest
inherited from the NMOS part), every well-formed state. -/
theorem accesses_cmos (s : St) (hs : WF dev65c02.cfg s) (hw : s.waiting = false)
    (mn : Mn) (mo : Mode) (hd : decode .cmos (s.mem s.pc) = some (mn, mo)) :
    StepAccesses 8 .cmos mn mo s (dev65c02.step s) := by
  rw [step_65c02 hw]
  exact step_acc (.inl rfl) dev65c02.tbl s hs (row_65c02 hd) fun _ => rfl

theorem irq_accesses (c : Cfg) (hc : IsDev c) (s : St) (hs : WF c s) :
    acl (Mpu6502.irq c s) =
      if land s.p c.INTERRUPT ≠ 0 then acl s
      else (interruptAccesses c.BYTE_WIDTH irqVector (core s)).reverse ++ acl s := by
  have hsp := hs.sp
  inst_acl [Mpu6502.irq]
  split
  · rfl
  · rcases hc with rfl | rfl <;>
    · simp [accOf, interruptAccesses, stackAddr, core, irqVector, BM, pyarith] at hsp ⊢
      try omega

theorem nmi_accesses (c : Cfg) (hc : IsDev c) (s : St) (hs : WF c s) :
    acl (Mpu6502.nmi c s) = (interruptAccesses c.BYTE_WIDTH nmiVector (core s)).reverse ++ acl s := by
  have hsp := hs.sp
  inst_acl [Mpu6502.nmi]
  rcases hc with rfl | rfl <;>
  · simp [interruptAccesses, stackAddr, core, nmiVector, BM, pyarith] at hsp ⊢
    try omega

theorem reset_accesses (c : Cfg) (hc : IsDev c) (s : St) :
    acl (Mpu6502.reset_vec c s) = [Acc.r (resetVector + 1), Acc.r resetVector] ++ acl s := by
  inst_acl [Mpu6502.reset_vec]
  rcases hc with rfl | rfl <;> simp [resetVector, pyarith]

/-- The 65C02 wrappers (which clear `waiting`) perform the same accesses. -/
theorem irq_accesses_cmos (s : St) (hs : WF dev65c02.cfg s) :
    acl (Mpu65c02.irq dev65c02.cfg s) =
      if land s.p dev65c02.cfg.INTERRUPT ≠ 0 then acl s
      else (interruptAccesses 8 irqVector (core s)).reverse ++ acl s :=
  irq_accesses dev65c02.cfg (Or.inl rfl) { s with waiting := false } ⟨hs.a, hs.x, hs.y, hs.sp, hs.p, hs.pc, hs.mem⟩
theorem nmi_accesses_cmos (s : St) (hs : WF dev65c02.cfg s) :
    acl (Mpu65c02.nmi dev65c02.cfg s) = (interruptAccesses 8 nmiVector (core s)).reverse ++ acl s :=
  nmi_accesses dev65c02.cfg (Or.inl rfl) { s with waiting := false } ⟨hs.a, hs.x, hs.y, hs.sp, hs.p, hs.pc, hs.mem⟩

/-- A waiting 65C02 touches no memory at all. -/
theorem accesses_waiting (s : St) (hw : s.waiting = true) : acl (dev65c02.step s) = acl s := by
  simp only [dev65c02.step, Mpu65c02.step, hw]; rfl

/-- Non-vacuity: well-formed states executing `INC $80,X` (6502), `TRB $80` (65C02), `JSR` (65Org16). -/
example : ∃ s : St, WF dev6502.cfg s ∧ s.waiting = false ∧ decode .nmos (s.mem s.pc) = some (.INC, .zpx) := by
  refine ⟨{ (default : St) with mem := fun k => if k = 0 then 0xf6 else 0x80 }, ?_, rfl, by decide⟩
  refine ⟨by decide, by decide, by decide, by decide, by decide, by decide, ?_⟩
  intro k; dsimp only; split <;> decide
example : ∃ s : St, WF dev65c02.cfg s ∧ s.waiting = false ∧ decode .cmos (s.mem s.pc) = some (.TRB, .zpg) := by
  refine ⟨{ (default : St) with mem := fun k => if k = 0 then 0x14 else 0x80 }, ?_, rfl, by decide⟩
  refine ⟨by decide, by decide, by decide, by decide, by decide, by decide, ?_⟩
  intro k; dsimp only; split <;> decide
example : ∃ s : St, WF dev65org16.cfg s ∧ s.waiting = false ∧ decode .nmos (s.mem s.pc) = some (.JSR, .abs) := by
  refine ⟨{ (default : St) with mem := fun k => if k = 0 then 0x20 else 0x80 }, ?_, rfl, by decide⟩
  refine ⟨by decide, by decide, by decide, by decide, by decide, by decide, ?_⟩
  intro k; dsimp only; split <;> decide

/-- The specification's list, spelled out on three instructions (what the theorems promise). -/
example (s : AState) : instrAccesses 8 .nmos .INC .zpx s =
    [Acc.r s.pc, Acc.r ((s.mem s.pc + s.x) % 256), Acc.w ((s.mem s.pc + s.x) % 256)] := rfl
example (s : AState) : instrAccesses 8 .nmos .STA .abs s =
    [Acc.r s.pc, Acc.r ((s.pc + 1) % 65536), Acc.w (s.mem s.pc + s.mem ((s.pc + 1) % 65536) * 256)] := rfl
example (s : AState) : instrAccesses 8 .nmos .PHA .imp s = [Acc.w (256 + (s.sp - 0) % 256)] := rfl

end Py65.Props.C12
