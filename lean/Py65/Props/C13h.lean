/-
C13h -- the cycle counter over HISTORIES (third C13 file, own namespace `Py65.Props.C13h`).

C13b proves, for ONE `step()` of a well-formed state, `Δcycles = Spec.stepCycles`.  Here the statement is
lifted to every list of calls `step() / irq() / nmi() / reset()` folded over the generated device
operations (`Hist.run`): the counter at the end is the counter at the start (0 at the LAST reset) plus the
DOCUMENTED cycles of each call along the run (`docCycles`), and it never decreases along a reset-free history.
65C02 including BRA: documented sum minus one per executed BRA (the recorded known finding, here as an exact
count over the whole history, `cycles_history_65c02_exact`).

Hypotheses.  Well-formedness of the states along the run and "not waiting" on the 6502/65Org16 are NOT
assumed along the run: they are an invariant (`Hist.Inv`) proved to be preserved by every call at every
opcode byte (Proofs/HistStep.lean, the C05h closure), so only the INITIAL state is assumed well-formed.
What is quantified over histories (`CycOK`, stated per call on the state it is applied to):
  * 65C02: a non-waiting step does not execute BRA `$80` (exactly C13b's exclusion; see `cycles_history_65c02_exact`);
  * 65Org16: the opcode cell executed holds a byte 0..255 (above 255 the real `step()` raises IndexError,
    DESIGN 0.5, outside the quantifier).
Undeclared opcode bytes are INCLUDED (they cost 0: `Spec.stepCycles` of an undeclared byte is 0).
-/
import Py65.Props.C13
import Py65.Props.C13b
import Py65.Proofs.HistStep

namespace Py65.Props.C13h
open Py65 Py65.Gen Py65.Spec Py65.Proofs Py65.Proofs.Hist

/-- Documented cycles of one call applied to the state `s`.  `core s` for a step and `abs s` for `irq()` are the
forms in which C13b and C13 `irq_cycles` state the one-call facts; the counts read only flag bits that `normP`
leaves alone. -/
def opCycles (d : Dev) (o : Op) (s : St) : Int :=
  match o with
  | .step => stepCycles d.W d.variant (core s)
  | .irq => irqCycles (abs s)
  | .nmi => nmiCycles
  | .reset _ => 0

/-- Documented cycles of a history: the sum over its calls, each taken at the state the generated
device is in when the call is made. -/
def docCycles (d : Dev) : List Op → St → Int
  | [], _ => 0
  | o :: ops, s => opCycles d o s + docCycles d ops (apply d o s)

/-- What C13 quantifies over, per call (see the file header). -/
def CycOK (d : Dev) (o : Op) (s : St) : Prop :=
  match o with
  | .step => (d = .cmos → s.waiting = false → s.mem s.pc ≠ 0x80) ∧ (d = .org16 → s.mem s.pc < 256)
  | _ => True

theorem CycOK.toOpOK {d : Dev} {o : Op} {s : St} (h : CycOK d o s) (hr : Op.isReset o = false) :
    OpOK d o s := by
  cases o with
  | step => exact h.2
  | irq => trivial
  | nmi => trivial
  | reset a => simp [Op.isReset] at hr

/-- C13b for a `Hist.Dev`: a step at a declared opcode (65C02: any but BRA `$80`). -/
theorem cycles_decl (d : Dev) (s : St) (hs : WF d.cfg s) (hw : s.waiting = false) (mn : Mn) (mo : Mode)
    (hd : decode d.variant (s.mem s.pc) = some (mn, mo)) (hbra : d = .cmos → s.mem s.pc ≠ 0x80) :
    (d.step s).cycles = s.cycles + stepCycles d.W d.variant (core s) := by
  cases d with
  | nmos => exact Py65.Props.C13.cycles_nmos6502 s hs hw mn mo hd
  | cmos => exact Py65.Props.C13.cycles_cmos_partial s hs hw mn mo hd (hbra rfl)
  | org16 => exact Py65.Props.C13.cycles_org16 s hs hw mn mo hd

/-- Reset-free calls inside C13's quantifiers are inside C05's. -/
theorem opOK_of_cycOK {d : Dev} : ∀ (ops : List Op) (s : St), NoReset ops → Along d (CycOK d) ops s →
    Along d (OpOK d) ops s
  | [], _, _, _ => trivial
  | _ :: ops, _, hnr, ⟨h1, h2⟩ => ⟨h1.toOpOK hnr.head, opOK_of_cycOK ops _ hnr.tail h2⟩

/-- One `step()` of any device at any opcode byte (declared or not), waiting or not. -/
theorem step_cycles_dev (d : Dev) (s : St) (hi : Inv d s) (hok : CycOK d .step s) :
    (d.step s).cycles = s.cycles + stepCycles d.W d.variant (core s) := by
  obtain ⟨hbra, h256⟩ := hok
  cases hw : s.waiting with
  | true =>
    obtain rfl := hi.cmos_of_waiting hw
    rw [show (Dev.step .cmos s).cycles = s.cycles + 1 from Py65.Props.C13.wai_cycles s hw]
    simp [stepCycles, show (core s).waiting = true from hw]
  | false =>
    cases hd : decode d.variant (s.mem s.pc) with
    | some r => exact cycles_decl d s hi.1 hw r.1 r.2 hd (fun h => hbra h hw)
    | none =>
      -- an undeclared byte costs nothing, in the device (C05) and in the documented count
      rw [(step_undeclared d s hi.1 hw (opcode_byte hi.1 h256) hd).2]
      have e : (core s).waiting = false := hw
      have e2 : (core s).mem (core s).pc = s.mem s.pc := rfl
      simp [stepCycles, e, e2, hd]

theorem irqCycles_waiting (s : St) : irqCycles (abs { s with waiting := false }) = irqCycles (abs s) := rfl

theorem op_cycles (d : Dev) (o : Op) (s : St) (hi : Inv d s) (hok : CycOK d o s)
    (hr : Op.isReset o = false) : (apply d o s).cycles = s.cycles + opCycles d o s := by
  cases o with
  | step => exact step_cycles_dev d s hi hok
  | irq =>
    cases d with
    | nmos => exact Py65.Props.C13.irq_cycles _ (Or.inl rfl) s
    | org16 => exact Py65.Props.C13.irq_cycles _ (Or.inr rfl) s
    | cmos => exact Py65.Props.C13.irq_cycles _ (Or.inl rfl) { s with waiting := false }
  | nmi =>
    cases d with
    | nmos => exact Py65.Props.C13.nmi_cycles _ s
    | org16 => exact Py65.Props.C13.nmi_cycles _ s
    | cmos => exact Py65.Props.C13.nmi_cycles _ { s with waiting := false }
  | reset a => simp [Op.isReset] at hr

/-- **C13 over histories.**  For every device and every reset-free list of calls, started in a
well-formed state: the cycle counter ends at its initial value plus the documented cycles of every
call along the run (`docCycles`: `Spec.stepCycles` for a step - declared opcode: base count, +1
page-crossing indexed read, +1/+2 taken branch; undeclared opcode byte: 0; waiting 65C02: 1 -, 7 for a
taken irq and for nmi, 0 for a masked irq). -/
theorem cycles_history (d : Dev) (ops : List Op) (s : St) (hi : Inv d s) (hnr : NoReset ops)
    (hok : Along d (CycOK d) ops s) :
    (run d ops s).cycles = s.cycles + docCycles d ops s := by
  induction ops generalizing s with
  | nil => simp [docCycles]
  | cons o ops ih =>
    obtain ⟨h1, h2⟩ := hok
    have hr := hnr.head
    rw [run_cons, ih _ (apply_inv d o s hi (h1.toOpOK hr)) hnr.tail h2, op_cycles d o s hi h1 hr]
    simp only [docCycles]; omega

/-- The 6502: no side condition at all - any well-formed start state (any memory contents: declared and
undeclared opcodes, binary and decimal mode) and any reset-free list of calls. -/
theorem cycles_history_6502 (ops : List Op) (s : St) (hs : WF dev6502.cfg s) (hw : s.waiting = false)
    (hnr : NoReset ops) :
    (run .nmos ops s).cycles = s.cycles + docCycles .nmos ops s := by
  refine cycles_history .nmos ops s ⟨hs, fun _ => hw⟩ hnr (Along.of_forall (fun o _ => ?_) ops s)
  cases o <;> simp [CycOK]

/-- Every leaf of the table `baseCycles` is a numeral. -/
theorem baseCycles_nonneg (v : Variant) (mn : Mn) (mo : Mode) : 0 ≤ baseCycles v mn mo := by
  unfold baseCycles
  repeat' split
  all_goals decide

theorem instrCycles_nonneg (W : Nat) (v : Variant) (mn : Mn) (mo : Mode) (a : AState) :
    0 ≤ instrCycles W v mn mo a := by
  have := baseCycles_nonneg v mn mo
  unfold instrCycles
  split_ifs <;> omega

theorem stepCycles_nonneg (W : Nat) (v : Variant) (a : AState) : 0 ≤ stepCycles W v a := by
  unfold stepCycles
  split
  · decide
  · split
    · exact instrCycles_nonneg _ _ _ _ _
    · decide

theorem opCycles_nonneg (d : Dev) (o : Op) (s : St) : 0 ≤ opCycles d o s := by
  cases o with
  | step => exact stepCycles_nonneg _ _ _
  | irq => simp only [opCycles, irqCycles]; split <;> decide
  | nmi => simp [opCycles, nmiCycles]
  | reset a => simp [opCycles]

theorem docCycles_nonneg (d : Dev) (ops : List Op) (s : St) : 0 ≤ docCycles d ops s := by
  induction ops generalizing s with
  | nil => simp [docCycles]
  | cons o ops ih =>
    have := opCycles_nonneg d o s
    have := ih (apply d o s)
    simp only [docCycles]; omega

/-- The counter never decreases along a reset-free history. -/
theorem cycles_monotone_history (d : Dev) (ops : List Op) (s : St) (hi : Inv d s) (hnr : NoReset ops)
    (hok : Along d (CycOK d) ops s) : s.cycles ≤ (run d ops s).cycles := by
  rw [cycles_history d ops s hi hnr hok]
  have := docCycles_nonneg d ops s
  omega

/-- More finely, the counter is non-decreasing from EVERY intermediate point to the end: for every
split of the history, the counter after the first part is at most the counter at the end. -/
theorem cycles_monotone_prefix (d : Dev) (ops₁ ops₂ : List Op) (s : St) (hi : Inv d s)
    (hnr : NoReset (ops₁ ++ ops₂)) (hok : Along d (CycOK d) (ops₁ ++ ops₂) s) :
    s.cycles ≤ (run d ops₁ s).cycles ∧ (run d ops₁ s).cycles ≤ (run d (ops₁ ++ ops₂) s).cycles := by
  have hnr1 : NoReset ops₁ := fun o ho => hnr o (List.mem_append_left _ ho)
  have hnr2 : NoReset ops₂ := fun o ho => hnr o (List.mem_append_right _ ho)
  obtain ⟨hok1, hok2⟩ := (Along.append ops₁ ops₂ s).1 hok
  have hop1 := opOK_of_cycOK ops₁ s hnr1 hok1
  have hi1 := (run_inv d ops₁ s hi hop1).2
  refine ⟨cycles_monotone_history d ops₁ s hi hnr1 hok1, ?_⟩
  rw [run_append]
  exact cycles_monotone_history d ops₂ _ hi1 hnr2 hok2

theorem reset_cycles_dev (d : Dev) (a : Option Int) (s : St) : (d.reset a s).cycles = 0 := by
  cases d <;> cases a <;> rfl

/-- With `reset()` anywhere in the history: if the calls after some reset are reset-free (i.e. it is
the LAST reset), the counter at the end is exactly the documented sum of the calls since that reset -
whatever the counter was before.  (`OpOK`: the earlier calls are inside the quantifiers of C05, so
that the state the reset leaves is well-formed.) -/
theorem cycles_since_reset (d : Dev) (pre post : List Op) (a : Option Int) (s : St) (hi : Inv d s)
    (hpre : Along d (OpOK d) (pre ++ [Op.reset a]) s) (hnr : NoReset post)
    (hok : Along d (CycOK d) post (run d (pre ++ [Op.reset a]) s)) :
    (run d (pre ++ Op.reset a :: post) s).cycles =
      docCycles d post (run d (pre ++ [Op.reset a]) s) := by
  have e : pre ++ Op.reset a :: post = (pre ++ [Op.reset a]) ++ post := by simp
  have hi1 := (run_inv d _ s hi hpre).2
  rw [e, run_append, cycles_history d post _ hi1 hnr hok]
  have : (run d (pre ++ [Op.reset a]) s).cycles = 0 := by
    rw [run_append]; exact reset_cycles_dev d a _
  omega

/-- BRA ($80) on the 65C02 adds one cycle less than documented (2, or 3 when the target is in another
page; the data sheet says 3 / 4): the known finding, as a statement about `step()`. -/
theorem bra_step_cycles (s : St) (hs : WF dev65c02.cfg s) (hw : s.waiting = false)
    (hop : s.mem s.pc = 0x80) :
    (dev65c02.step s).cycles = s.cycles + stepCycles 8 .cmos (core s) - 1 := by
  have hc : IsDev dev65c02.cfg := Or.inl rfl
  rw [Py65.Props.C02.step_not_waiting s hw, Py65.Proofs.step_cycles, hop]
  have hinst : dev65c02.tbl.instruct 0x80 = Mpu65c02.inst_0x80 dev65c02.cfg := dev65c02.instruct_80
  have hct : dev65c02.tbl.cycletime 0x80 = 1 := by decide +kernel
  rw [hinst, hct]
  have hf := afterFetch_WF _ hc dev65c02.tbl s hs
  have e1 : (Mpu65c02.inst_0x80 dev65c02.cfg (afterFetch dev65c02.cfg dev65c02.tbl s)).cycles = s.cycles :=
    BranchRelAddr_cycles _ _
  have e2 := BranchRelAddr_cyc _ hc _ hf
  have e3 : (afterFetch dev65c02.cfg dev65c02.tbl s).excycles = 0 := rfl
  have e4 : core (afterFetch dev65c02.cfg dev65c02.tbl s) = { core s with pc := (s.pc + 1) % AM 8 } :=
    afterFetch_core hc _ s
  have hd : decode .cmos (s.mem s.pc) = some (.BRA, .rel) := by rw [hop]; decide
  rw [e1, show Mpu65c02.inst_0x80 dev65c02.cfg = Mpu6502.BranchRelAddr dev65c02.cfg from rfl, e2, e3, e4,
    Py65.Props.C13.stepCycles_decl 8 .cmos (core s) .BRA .rel hw hd]
  have eb : dev65c02.cfg.BYTE_WIDTH = 8 := rfl
  simp only [instrCycles, baseCycles, Mn.isRead, isBranch, branchCond, eb]
  simp
  simp only [show (core s).pc = s.pc from rfl]
  split_ifs <;> omega

/-- How many BRA instructions a history executes (non-waiting 65C02 steps at opcode `$80`). -/
def braCount : List Op → St → Int
  | [], _ => 0
  | o :: ops, s =>
    (if o = Op.step ∧ s.waiting = false ∧ s.mem s.pc = 0x80 then 1 else 0) + braCount ops (apply .cmos o s)

/-- 65C02, EVERY reset-free history (BRA included): documented sum minus one per executed BRA. -/
theorem cycles_history_65c02_exact (ops : List Op) (s : St) (hs : WF dev65c02.cfg s) (hnr : NoReset ops) :
    (run .cmos ops s).cycles = s.cycles + docCycles .cmos ops s - braCount ops s := by
  induction ops generalizing s with
  | nil => simp [docCycles, braCount]
  | cons o ops ih =>
    have hr := hnr.head
    have hi : Inv .cmos s := ⟨hs, fun h => absurd rfl h⟩
    have hop : OpOK .cmos o s := by
      cases o with
      | step => exact fun h => Dev.noConfusion h
      | reset a => exact Bool.noConfusion hr
      | _ => trivial
    rw [run_cons, ih _ (apply_inv .cmos o s hi hop).1 hnr.tail]
    simp only [docCycles, braCount]
    split
    · rename_i hb
      obtain ⟨rfl, hw, h80⟩ := hb
      have h1 : (apply .cmos .step s).cycles = s.cycles + opCycles .cmos .step s - 1 :=
        bra_step_cycles s hs hw h80
      omega
    · rename_i hb
      have hok : CycOK .cmos o s := by
        cases o with
        | step => exact ⟨fun _ hw h80 => hb ⟨rfl, hw, h80⟩, fun h => Dev.noConfusion h⟩
        | _ => trivial
      have := op_cycles .cmos o s hi hok hr
      omega

/-- The documented count of a BRA is at least 3, so the deviation never makes the counter go back. -/
theorem bra_doc_ge (s : St) (hw : s.waiting = false) (hop : s.mem s.pc = 0x80) :
    3 ≤ stepCycles 8 .cmos (core s) := by
  have hd : decode .cmos (s.mem s.pc) = some (.BRA, .rel) := by rw [hop]; decide
  rw [Py65.Props.C13.stepCycles_decl 8 .cmos (core s) .BRA .rel hw hd]
  simp only [instrCycles, baseCycles, Mn.isRead, isBranch, branchCond]
  simp
  split_ifs <;> omega

theorem braCount_le_docCycles (ops : List Op) (s : St) : braCount ops s ≤ docCycles .cmos ops s := by
  induction ops generalizing s with
  | nil => exact Int.le_refl _
  | cons o ops ih =>
    have h1 := ih (apply .cmos o s)
    have h2 := opCycles_nonneg .cmos o s
    simp only [docCycles, braCount]
    split
    · rename_i hb
      obtain ⟨rfl, hw, h80⟩ := hb
      have : 3 ≤ opCycles .cmos .step s := bra_doc_ge s hw h80
      omega
    · omega

/-- 65C02: the counter never decreases along ANY reset-free history (BRA included, no side condition). -/
theorem cycles_monotone_history_65c02 (ops : List Op) (s : St) (hs : WF dev65c02.cfg s) (hnr : NoReset ops) :
    s.cycles ≤ (run .cmos ops s).cycles := by
  rw [cycles_history_65c02_exact ops s hs hnr]
  have := braCount_le_docCycles ops s
  omega

/-- A concrete 6502 history: `LDA $12FF,X` with X = 1 (page crossing, 5 cycles), then `nmi()` (7), then an
undeclared opcode byte (0), then a masked `irq()` (0: nmi set I): the documented sum is 12, and the
generated device's counter, started at 100, ends at 112. -/
def demoState : St :=
  { (default : St) with x := 1, cycles := 100, mem := fun k => if k = 0 then 0xbd else if k = 1 then 0xff else if k = 2 then 0x12 else if k = 0xfffa then 0x00 else if k = 0xfffb then 0x80 else 0x02 }

def demoOps : List Op := [.step, .nmi, .step, .irq]

example : docCycles .nmos demoOps demoState = 12 ∧ (run .nmos demoOps demoState).cycles = 112 := by
  decide +kernel

example : WF dev6502.cfg demoState ∧ demoState.waiting = false ∧ NoReset demoOps := by
  refine ⟨⟨by decide, by decide, by decide, by decide, by decide, by decide, ?_⟩, rfl, ?_⟩
  · intro k; simp only [demoState]; repeat' apply ite_range
    all_goals decide
  · intro o ho; simp only [demoOps, List.mem_cons, List.mem_nil_iff, or_false] at ho
    rcases ho with rfl | rfl | rfl | rfl <;> rfl

/-- The 65C02 exact theorem is not vacuous either: `BRA +0` executed once costs 2 where 3 is documented. -/
def braState : St := { (default : St) with mem := fun k => if k = 0 then 0x80 else 0x00 }

example : docCycles .cmos [.step] braState = 3 ∧ braCount [.step] braState = 1 ∧
    (run .cmos [.step] braState).cycles = 2 := by decide +kernel

end Py65.Props.C13h
