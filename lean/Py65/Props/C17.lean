/-
C17 -- "Monitor run control equals stepping the bare device and stops where documented".

The theorems are about the
hand-written model `Py65/Model/MonRun.lean` of `Monitor._run / do_goto / do_return / do_step /
do_add_breakpoint / do_delete_breakpoint`; the model is tied to the real monitor by the
correspondence of `harness/props/c17.py` (driver lines `run …`, instantiated with the GENERATED
device step functions `Py65.Gen.devXXXX.step`, and `mon …` for breakpoint histories).

Reading guide.  `step : St → St` is ANY function: every theorem holds in particular for the three
generated devices, and "stepping a bare device `n` times" is literally `step^[n] s` (registers,
cycle count, memory function and access log are all fields of `St`).  A breakpoint list is
`List (Option Int)` (`none` = the slot of a deleted breakpoint).  `fuel` only bounds the model's
loop (the Python loop may not terminate); `run … = some r` means the loop ended.
-/
import Py65.Proofs.MonRunLemmas

namespace Py65.Props.C17
open Py65 Py65.Model.MonRun

/-- `run_is_iterate` (generic loop): the do-while loop ends after `n` iterations in `s'` iff `n`
is the LEAST number `≥ 1` of steps after which the exit test holds (and `n ≤ fuel`); then
`s' = step^[n] s`. -/
theorem runLoop_is_iterate (step : St → St) (stop : St → Bool) (fuel : Nat) (s : St) (n : Nat) (s' : St) :
    runLoop step stop fuel s = some (n, s') ↔
      (1 ≤ n ∧ n ≤ fuel ∧ s' = step^[n] s ∧ stop (step^[n] s) = true ∧
        ∀ m, 0 < m → m < n → stop (step^[m] s) = false) := by
  constructor
  · intro h
    obtain ⟨h1, h2, h3, h4, h5⟩ := runLoop_sound step stop fuel s n s' h
    exact ⟨h1, h2, h3, h3 ▸ h4, h5⟩
  · rintro ⟨h1, h2, rfl, h4, h5⟩
    exact runLoop_complete step stop fuel s n h1 h2 h4 h5

/-- non-vacuity: a "device" that only counts (`pc := pc + 1`), stop test `pc = 3`, from `pc = 0`:
the loop ends after exactly 3 steps; started AT the stop state (`pc = 3`) it still takes a step
first and so never stops again (within any fuel). -/
example :
    let step : St → St := fun s => { s with pc := s.pc + 1 }
    let stop : St → Bool := fun s => s.pc == 3
    ((runLoop step stop 10 { (default : St) with pc := 0 }).map fun r => (r.1, r.2.pc)) = some (3, 3) ∧
    ((runLoop step stop 10 { (default : St) with pc := 3 }).map fun r => (r.1, r.2.pc)) = none := by
  decide

/-- `run_is_iterate`: if `_run(stopcodes)` with the breakpoint list `bps` ends, then it made
`n ≥ 1` calls of `mpu.step()`, the device is exactly `step^[n] s` -- what stepping the bare device
`n` times from the same state gives --, the stop condition (the cell at PC is a stop code, or PC
is an active breakpoint) holds there and held after no earlier `0 < m < n` steps; "Breakpoint k
reached." is printed iff the stop was not a stop code, and `k` is the first position of PC in
the list. -/
theorem run_is_iterate (step : St → St) (codes : List Int) (bps : List (Option Int)) (fuel : Nat)
    (s : St) (r : RunRes) (h : run step codes bps fuel s = some r) :
    1 ≤ r.steps ∧ r.steps ≤ fuel ∧ r.st = step^[r.steps] s ∧
    (atStopcode codes r.st = true ∨ atBreakpoint bps r.st = true) ∧
    (∀ m, 0 < m → m < r.steps →
      atStopcode codes (step^[m] s) = false ∧ atBreakpoint bps (step^[m] s) = false) ∧
    r.hit = (if atStopcode codes r.st then none else some (indexOf bps r.st.pc)) := by
  rw [run_eq_loop] at h
  obtain ⟨⟨n, t⟩, hr, rfl⟩ := Option.map_eq_some_iff.1 h
  obtain ⟨h1, h2, h3, h4, h5⟩ := runLoop_sound _ _ _ _ _ _ hr
  simp only [stopBp, Bool.or_eq_true] at h4
  refine ⟨h1, h2, h3, h4, fun m a b => ?_, ?_⟩
  · simpa [stopBp, Bool.or_eq_false_iff] using h5 m a b
  · simp only [hitReport]
    cases hc : atStopcode codes t with
    | true => simp
    | false =>
      have : atBreakpoint bps t = true := by simpa [hc] using h4
      simp [this]

/-- ... and conversely: if after `n ≥ 1` steps the stop condition holds for the first time, the
run ends exactly there, for every fuel `≥ n` (so the result does not depend on the fuel). -/
theorem run_complete (step : St → St) (codes : List Int) (bps : List (Option Int)) (fuel : Nat)
    (s : St) (n : Nat) (h1 : 1 ≤ n) (h2 : n ≤ fuel)
    (hstop : stopBp codes bps (step^[n] s) = true)
    (hfirst : ∀ m, 0 < m → m < n → stopBp codes bps (step^[m] s) = false) :
    ∃ r, run step codes bps fuel s = some r ∧ r.steps = n ∧ r.st = step^[n] s := by
  rw [run_eq_loop, runLoop_complete step _ fuel s n h1 h2 hstop hfirst]
  exact ⟨_, rfl, rfl, rfl⟩

/-- `goto a` is `_run([BRK])` from the same state with PC set to `a`; `return` is
`_run([RTS, RTI])`; `step` is exactly one `mpu.step()`.  (Definitional: the model's commands ARE
these compositions, so `run_is_iterate` applies to each.) -/
theorem commands_are_runs (step : St → St) (bps : List (Option Int)) (fuel : Nat) (a : Int) (s : St) :
    goto step bps fuel a s = run step [0x00] bps fuel { s with pc := a } ∧
    ret step bps fuel s = run step [0x60, 0x40] bps fuel s ∧
    (stepCmd step s).steps = 1 ∧ (stepCmd step s).st = step^[1] s ∧ (stepCmd step s).hit = none :=
  ⟨rfl, rfl, rfl, rfl, rfl⟩

/-- non-vacuity for `goto` with a breakpoint: counting device over a memory that holds BRK (0) only
at address 5; breakpoints `[none, some 3]` (number 0 deleted, number 1 at $3).  `goto 1` stops
after 2 steps at PC = 3 and reports breakpoint 1; with that breakpoint deleted too it runs on to
the BRK at 5 (4 steps) and reports nothing. -/
example :
    let step : St → St := fun s => { s with pc := s.pc + 1, cycles := s.cycles + 2 }
    let s0 : St := { (default : St) with mem := fun k => if k = 5 then 0 else 0xea }
    ((goto step [none, some 3] 20 1 s0).map fun r => (r.steps, r.st.pc, r.st.cycles, r.hit)) = some (2, 3, 4, some 1) ∧
    ((goto step [none, none] 20 1 s0).map fun r => (r.steps, r.st.pc, r.st.cycles, r.hit)) = some (4, 5, 8, none) := by
  decide

/-- `run_variants_agree`: with no ACTIVE breakpoint (the list is empty or holds only deleted
slots) the two loops of `_run` compute the same: same number of steps, same device state, and
nothing is reported. -/
theorem run_variants_agree (step : St → St) (codes : List Int) (bps : List (Option Int)) (fuel : Nat)
    (s : St) (hno : ∀ b ∈ bps, b = none) :
    runLoop step (stopBp codes bps) fuel s = runLoop step (stopPlain codes) fuel s ∧
    (∀ t, hitReport codes bps t = none) ∧
    (run step codes bps fuel s).map (fun r => (r.steps, r.hit)) =
      (run step codes [] fuel s).map (fun r => (r.steps, r.hit)) ∧
    (run step codes bps fuel s).map (·.st.pc) = (run step codes [] fuel s).map (·.st.pc) ∧
    ∀ r r', run step codes bps fuel s = some r → run step codes [] fuel s = some r' →
      r.steps = r'.steps ∧ r.st = r'.st ∧ r.hit = r'.hit := by
  have hbp := atBreakpoint_inactive hno
  have hstop : stopBp codes bps = stopPlain codes := by
    funext t; simp [stopBp, stopPlain, hbp t]
  have hrun := run_inactive step codes hno fuel s
  refine ⟨by rw [hstop], fun t => by simp [hitReport, hbp t], by rw [hrun], by rw [hrun], fun r r' h1 h2 => ?_⟩
  rw [hrun, h2] at h1
  cases h1
  exact ⟨rfl, rfl, rfl⟩

/-- non-vacuity: `[none, none]` (two deleted breakpoints) takes the second loop of `_run`. -/
example : ([none, none] : List (Option Int)).isEmpty = false ∧ ∀ b ∈ ([none, none] : List (Option Int)), b = none := by
  decide

/-- `bp_numbers_fresh`: over ANY history of add / delete commands (adds of present addresses,
deletes of deleted, negative, out-of-range numbers included) started from the empty list, with
`adds` = the `(number, address)` pairs of the "Breakpoint n added" messages in order:

* the `j`-th successful add was given number `j` -- the list length at that moment --, so
  numbers are `0, 1, 2, …`: never reused;
* the list is as long as the number of successful adds, and slot `j` holds the address of the
  add that was given number `j`, or `None` once deleted: a slot is never given to another address;
* no address is active twice, hence for every active slot `i ↦ a` the number printed by
  "Breakpoint %d reached." (`_breakpoints.index(a)`) is `i`, the number it was given. -/
theorem bp_numbers_fresh (h : List BpCmd) :
    let r := runBps [] h
    let adds := addsOf r.1
    (∀ j (hj : j < adds.length), (adds[j]).1 = j) ∧
    r.2.length = adds.length ∧
    (∀ j (hj : j < adds.length), r.2[j]? = some (some (adds[j]).2) ∨ r.2[j]? = some none) ∧
    ActiveNodup r.2 ∧
    (∀ (i : Nat) (a : Int), r.2[i]? = some (some a) → indexOf r.2 a = i ∧
      ∃ hi : i < adds.length, adds[i] = (i, a)) := by
  intro r adds
  obtain ⟨i1, i2, i3, _, i5⟩ := runBps_inv h [] activeNodup_nil
  simp only [List.length_nil, Nat.zero_add] at i2 i3 i5
  refine ⟨i3, i2, i5, i1, ?_⟩
  intro i a hia
  refine ⟨indexOf_of_nodup _ i1 a i hia, ?_⟩
  have hil : i < r.2.length := (List.getElem?_eq_some_iff.1 hia).1
  have hi : i < adds.length := by rw [← i2]; exact hil
  refine ⟨hi, ?_⟩
  have h3 := i3 i hi
  have h5 := i5 i hi
  unfold SlotIs at h5
  rcases h5 with h5 | h5
  · rw [hia] at h5
    have : a = (adds[i]).2 := by simpa using h5
    rw [Prod.ext_iff]
    exact ⟨h3, this.symm⟩
  · rw [hia] at h5
    cases h5

/-- non-vacuity : add $10, add $20, add $10 again (refused),
delete 0, add $10 (gets the NEW number 2, not the free slot 0), delete 3 (`IndexError`: the bound
is off by one), delete 4 and delete -1 (`TypeError` of the two-argument `_output`), delete 0
again: the list ends as `[None, $20, $10]`. -/
example :
    runBps [] [.add 0x10, .add 0x20, .add 0x10, .del 0, .add 0x10, .del 3, .del 4, .del (-1), .del 0] =
      ([.added 0 0x10, .added 1 0x20, .present 0x10, .removed 0, .added 2 0x10, .indexError, .typeError,
        .typeError, .already 0], [none, some 0x20, some 0x10]) := by
  decide

/-- The failing commands of `do_delete_breakpoint` (number `< 0`, `> len` → `TypeError`;
`= len` → `IndexError`, the off-by-one) leave the list as it was. -/
theorem delete_bad_number_unchanged (bps : List (Option Int)) (k : Int) (h : k < 0 ∨ k ≥ bps.length) :
    (delBp bps k).2 = bps ∧ ((delBp bps k).1 = .typeError ∨ (delBp bps k).1 = .indexError) := by
  unfold delBp
  by_cases h1 : k < 0 ∨ k > bps.length
  · simp [h1]
  · have hk : k.toNat = bps.length := by omega
    simp only [h1, if_false, hk]
    simp

/-- `bp_deleted_inert`: after "Breakpoint k removed" the address `a` that slot `k` held is active
nowhere in the list, and a breakpoint that is not active never stops the loop: whenever a run with
a list in which `a` is not active ends with PC = `a`, it ended because the cell at PC is a stop
code -- the stop condition ignores `a` altogether -- and nothing is reported; every state the
loop passed through (and the end state) is treated exactly as by the list with the slot removed. -/
theorem bp_deleted_inert (step : St → St) (codes : List Int) (bps : List (Option Int)) (k : Nat) (a : Int)
    (hn : ActiveNodup bps) (hk : bps[k]? = some (some a)) :
    let bps' := (delBp bps k).2
    (delBp bps k).1 = .removed k ∧ bps' = bps.set k none ∧
    (∀ i : Nat, bps'[i]? ≠ some (some a)) ∧
    (∀ t : St, t.pc = a → atBreakpoint bps' t = false ∧ stopBp codes bps' t = atStopcode codes t) ∧
    (∀ t : St, stopBp codes bps' t = stopBp codes (bps.eraseIdx k) t) ∧
    (∀ fuel s, runLoop step (stopBp codes bps') fuel s = runLoop step (stopBp codes (bps.eraseIdx k)) fuel s) ∧
    (∀ fuel s r, run step codes bps' fuel s = some r → r.st.pc = a →
      atStopcode codes r.st = true ∧ r.hit = none) := by
  intro bps'
  have hkl : k < bps.length := (List.getElem?_eq_some_iff.1 hk).1
  have hdel : delBp bps k = (.removed k, bps.set k none) := by
    unfold delBp
    have h1 : ¬ ((k : Int) < 0 ∨ (k : Int) > bps.length) := by omega
    simp only [h1, if_false, Int.toNat_natCast, hk]
  have hb' : bps' = bps.set k none := by simp [bps', hdel]
  have hnot : ∀ i : Nat, bps'[i]? ≠ some (some a) := by
    intro i hi
    rw [hb'] at hi
    obtain ⟨h1, h2⟩ := set_none_getElem? _ _ _ _ hi
    exact h2 (hn i k a h1 hk)
  have hbp : ∀ t : St, t.pc = a → atBreakpoint bps' t = false := by
    intro t ht
    unfold atBreakpoint
    cases hc : bps'.contains (some t.pc) with
    | false => rfl
    | true =>
      obtain ⟨i, hi⟩ := (contains_some_iff bps' t.pc).1 hc
      rw [ht] at hi
      exact absurd hi (hnot i)
  have hsame : ∀ t : St, atBreakpoint bps' t = atBreakpoint (bps.eraseIdx k) t := by
    intro t
    unfold atBreakpoint
    rw [Bool.eq_iff_iff, List.contains_iff_mem, List.contains_iff_mem, List.mem_eraseIdx_iff_getElem?, hb',
      List.mem_iff_getElem?]
    constructor
    · rintro ⟨i, hi⟩
      obtain ⟨h1, h2⟩ := set_none_getElem? _ _ _ _ hi
      exact ⟨i, h2, h1⟩
    · rintro ⟨i, hik, hi⟩
      exact ⟨i, by rw [List.getElem?_set_ne (Ne.symm hik)]; exact hi⟩
  have hstop : ∀ t : St, stopBp codes bps' t = stopBp codes (bps.eraseIdx k) t := by
    intro t; simp [stopBp, hsame t]
  refine ⟨by rw [hdel], hb', hnot, fun t ht => ⟨hbp t ht, by simp [stopBp, hbp t ht]⟩, hstop,
    fun fuel s => by rw [funext hstop], ?_⟩
  intro fuel s r hr hpc
  obtain ⟨_, _, _, h4, _, h6⟩ := run_is_iterate step codes bps' fuel s r hr
  have hc : atStopcode codes r.st = true := by
    rcases h4 with h4 | h4
    · exact h4
    · rw [hbp r.st hpc] at h4; cases h4
  exact ⟨hc, by rw [h6]; simp [hc]⟩

/-- non-vacuity: breakpoint 0 at $3 deleted from `[some 3, some 7]`; counting device, BRK only at 5:
`goto 1` passes $3 (4 steps to the BRK), whereas before the deletion it stopped at $3 after 2. -/
example :
    let step : St → St := fun s => { s with pc := s.pc + 1 }
    let s0 : St := { (default : St) with mem := fun k => if k = 5 then 0 else 0xea }
    (delBp [some 3, some 7] 0).2 = [none, some 7] ∧
    ((goto step (delBp [some 3, some 7] 0).2 20 1 s0).map fun r => (r.steps, r.st.pc, r.hit)) = some (4, 5, none) ∧
    ((goto step [some 3, some 7] 20 1 s0).map fun r => (r.steps, r.st.pc, r.hit)) = some (2, 3, some 0) := by
  decide

end Py65.Props.C17
