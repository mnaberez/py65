/-
C04 -- Decimal-mode ADC/SBC give the documented BCD results on 6502 and 65C02.

`nmos_adc` / `nmos_sbc`: for ALL 256 x 256 accumulator/operand pairs and both
carry-in values, the decimal branch of the generated `opADC` / `opSBC` (run on a minimal state with
D set) yields exactly the accumulator, C, N, V and Z of Bruce Clark's NMOS sequences
(`Spec.Decimal`).  Both follow from `Proofs/DecimalLift.lean`: the generated branch computes the digit
arithmetic `adcDigits` / `sbcDigits` (`opADC_dec_core`, `opSBC_dec_core`), and that arithmetic is
Clark's on every pair of bytes (`adcDigits_eq`, `sbcDigits_eq`).
`valid_bcd_is_decimal_sum`: on valid BCD operands Clark's result is the
two-digit decimal sum with decimal carry (what the Spec means).
65C02: the device inherits the NMOS code, so A, C and V agree with the 65C02 sequences on valid
BCD (`cmos_acv`), but N and Z follow the NMOS rule instead of the decimal result - a recorded
KNOWN FINDING (existing tests pin the NMOS flags on the 65C02): `cmos_nz_deviation` proves it with
the witness $99 + $01.
The lifting of the kernel to every addressing mode and machine state (frame condition) is proved in
`Props/C04b.lean` (`decimal_step_6502`, `decimal_step_65c02`, `adc/sbc_decimal_any_mode`); the decimal difference for
valid BCD and the definitional part of `cmos_acv` are in `Props/C04c.lean`.
-/
import Py65.Proofs.DecimalLift
import Py65.Props.C04c

namespace Py65.Props.C04
open Py65.Proofs.Dec Py65.Spec.Decimal

theorem byte_ofNat {n : Nat} (h : n < 256) : 0 ≤ Int.ofNat n ∧ Int.ofNat n ≤ 255 := by
  simp only [Int.ofNat_eq_natCast]; omega

theorem nmos_adc (a m : Nat) (ha : a < 256) (hm : m < 256) (c : Bool) :
    pyAdc (Int.ofNat a) (Int.ofNat m) c = adcNmos (Int.ofNat a) (Int.ofNat m) c :=
  Proofs.pyAdc_clark _ _ (byte_ofNat ha) (byte_ofNat hm) c

theorem nmos_sbc (a m : Nat) (ha : a < 256) (hm : m < 256) (c : Bool) :
    pySbc (Int.ofNat a) (Int.ofNat m) c = sbcNmos (Int.ofNat a) (Int.ofNat m) c :=
  Proofs.pySbc_clark _ _ (byte_ofNat ha) (byte_ofNat hm) c

/-- A valid BCD byte from its two decimal digits. -/
def bcd (h l : Fin 10) : Int := Int.ofNat (16 * h.val + l.val)

theorem bcd_eq (h l : Fin 10) : bcd h l = C04c.bcd h l := rfl

/-- What the Spec means: on valid BCD operands the NMOS ADC result is the decimal sum. -/
theorem valid_bcd_is_decimal_sum : ∀ ah al mh ml : Fin 10, ∀ c : Bool,
    bcdVal (adcNmos (bcd ah al) (bcd mh ml) c).a + (if (adcNmos (bcd ah al) (bcd mh ml) c).c then 100 else 0) =
      bcdVal (bcd ah al) + bcdVal (bcd mh ml) + (if c then 1 else 0) := by
  intro ah al mh ml c
  obtain ⟨ah, al, hah, hal, -, -, -, eah, eal⟩ := C04c.bcd_digits ah al
  obtain ⟨mh, ml, hmh, hml, -, -, -, emh, eml⟩ := C04c.bcd_digits mh ml
  have hci : (if c then (1 : Int) else 0) = 0 ∨ (if c then (1 : Int) else 0) = 1 := by
    cases c <;> simp
  simp only [adcNmos, bcdVal, bcd_eq, eah, eal, emh, eml, decide_eq_true_eq]
  generalize (if c then (1 : Int) else 0) = ci at *
  -- the sequence and the claim only look at the two digit sums
  have e1 : ah * 16 + mh * 16 = 16 * (ah + mh) := by omega
  have e2 : ah * 10 + al + (mh * 10 + ml) + ci = 10 * (ah + mh) + (al + ml + ci) := by omega
  have hn0 : 0 ≤ al + ml + ci ∧ al + ml + ci ≤ 19 := by omega
  have hn1 : 0 ≤ ah + mh ∧ ah + mh ≤ 18 := by omega
  rw [e1, e2]
  generalize al + ml + ci = n0 at hn0 ⊢
  generalize ah + mh = n1 at hn1 ⊢
  clear e1 e2 hah hal hmh hml hci
  -- a digit sum is at most 19, so `(· + 6) % 16` is `· - 10` whenever it is applied
  split_ifs <;> omega

/-- 65C02 (it runs the same code): A, C and V are those of the 65C02 sequences on valid BCD. -/
theorem cmos_acv : ∀ ah al mh ml : Fin 10, ∀ c : Bool,
    (adcNmos (bcd ah al) (bcd mh ml) c).a = (adcCmos (bcd ah al) (bcd mh ml) c).a ∧
    (adcNmos (bcd ah al) (bcd mh ml) c).c = (adcCmos (bcd ah al) (bcd mh ml) c).c ∧
    (adcNmos (bcd ah al) (bcd mh ml) c).v = (adcCmos (bcd ah al) (bcd mh ml) c).v ∧
    (sbcNmos (bcd ah al) (bcd mh ml) c).a = (sbcCmos (bcd ah al) (bcd mh ml) c).a ∧
    (sbcNmos (bcd ah al) (bcd mh ml) c).c = (sbcCmos (bcd ah al) (bcd mh ml) c).c ∧
    (sbcNmos (bcd ah al) (bcd mh ml) c).v = (sbcCmos (bcd ah al) (bcd mh ml) c).v := by
  intro ah al mh ml c
  obtain ⟨ha, hc, hv, hc', hv'⟩ := C04c.cmos_acv_definitional_part (bcd ah al) (bcd mh ml) c
  exact ⟨ha, hc, hv, C04c.seq3_eq_seq4 ah al mh ml c, hc', hv'⟩

/-- The recorded deviation (known finding): on the 65C02, $99 + $01 leaves Z clear and N set, while the
decimal result $00 says Z set, N clear. -/
theorem cmos_nz_deviation :
    (pyAdc 0x99 0x01 false).z = false ∧ (adcCmos 0x99 0x01 false).z = true ∧
    (pyAdc 0x99 0x01 false).n = true ∧ (adcCmos 0x99 0x01 false).n = false := by decide +kernel

example : (pyAdc 0x58 0x46 true).a = 0x05 ∧ (pyAdc 0x58 0x46 true).c = true := by decide +kernel

end Py65.Props.C04
