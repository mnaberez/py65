/-
C11 — "Observation is transparent".

The theorems are about the model `Py65/Model/ObsMem.lean` of
`py65.memory.ObservableMemory` (tied to the real class by C10's correspondence) and about the
plain list memory seen as a total function.  A device touches its memory object only through
`memory[e]` and `memory[e] = v` (the translator refuses anything else, DESIGN.md §2.4) at
addresses `0 ≤ e ≤ addrMask = physMask` (C05), so a program run is, for the memory, a list of
in-range `MemEv`s; `replay_equiv` is the statement for any such list, hence for any program,
any placement of `None`-answering subscribers and any run length; the harness
(`harness/props/c11.py`) additionally performs the lock-step experiment on the real devices.

`Quiet reply m`: every callback subscribed anywhere on `m` answers `None` whenever and however it
is called — this includes the memory with no subscribers at all.
-/
import Py65.Proofs.ObsMemLemmas

namespace Py65.Props.C11
open Py65 Py65.Model.ObsMem Py65.Spec.ObsMem

/-- `obs_transparent_get`: on a memory whose subscribers all answer `None` (or that has none), a
read at an in-range address returns the stored cell and changes nothing but the call log (which
grows by exactly the calls C10 prescribes). -/
theorem obs_transparent_get (reply : Reply) (m : OM) (hm : WF m) (hq : Quiet reply m) (a : Int)
    (h0 : 0 ≤ a) (h1 : a ≤ m.physMask) :
    (Py65.Model.ObsMem.get reply m a).1 = m.subject a ∧
    (Py65.Model.ObsMem.get reply m a).2 =
      { m with log := m.log ++ (m.rsubs.of a).map (fun cb => { cb := cb, addr := a, val := none }) } := by
  have hp : Py.land a m.physMask = a := land_of_inRange hm h0 h1
  constructor
  · unfold Py65.Model.ObsMem.get
    simp only [hp]
    rw [readLoop_quiet reply a (m.rsubs.of a) none m.log (fun cb hcb i => hq a cb (Or.inl hcb) i a none)]
  · unfold Py65.Model.ObsMem.get
    simp only [hp, readLoop_log]

/-- `obs_transparent_set`: on such a memory a write at an in-range address stores exactly `v` at
exactly that address and changes nothing else but the call log. -/
theorem obs_transparent_set (reply : Reply) (m : OM) (hm : WF m) (hq : Quiet reply m) (a v : Int)
    (h0 : 0 ≤ a) (h1 : a ≤ m.physMask) :
    Py65.Model.ObsMem.set reply m a v =
      { m with subject := upd m.subject a v, log := (Py65.Model.ObsMem.set reply m a v).log } ∧
    (Py65.Model.ObsMem.set reply m a v).log = m.log ++ (m.wsubs.of a).map (fun cb => { cb := cb, addr := a, val := some v }) := by
  have hp : Py.land a m.physMask = a := land_of_inRange hm h0 h1
  have hwl := writeLoop_quiet reply a (m.wsubs.of a) v m.log (fun cb hcb i x => hq a cb (Or.inr hcb) i a x)
  constructor
  · unfold Py65.Model.ObsMem.set
    simp only [hp, hwl]
    rfl
  · unfold Py65.Model.ObsMem.set
    simp only [hp, hwl]

/-- non-vacuity for the two theorems above: a 64 K memory with a read subscriber on `$F004`
and a write subscriber on `$F001` that answer `None` is `WF` and `Quiet`; the read returns the
cell, the write stores the value, and both callbacks were called (so the hypotheses are not
satisfied only by memories nobody observes). -/
example :
    let reply : Reply := fun _ _ _ _ => none
    let m := run reply (init 16 fun a => a % 256) [.subR [0xf004] 1, .subW [0xf001] 2]
    WF m ∧ Quiet reply m ∧
    (Py65.Model.ObsMem.get reply m 0xf004).1 = 4 ∧
    (Py65.Model.ObsMem.get reply m 0xf004).2.log = [⟨1, 0xf004, none⟩] ∧
    (Py65.Model.ObsMem.set reply m 0xf001 65).subject 0xf001 = 65 ∧
    (Py65.Model.ObsMem.set reply m 0xf001 65).log = [⟨2, 0xf001, some 65⟩] := by
  refine ⟨run_WF _ _ _ (init_WF _ _), fun _ _ _ _ _ _ => rfl, ?_⟩
  decide +kernel

/-- `replay_equiv`: replaying ANY list of in-range item accesses on a plain memory `mem` and on
an `ObservableMemory` `m` whose subscribers all answer `None` (placed anywhere, any number; or
none at all), starting from the same cells, returns the same value for every read and ends —
hence, by taking prefixes, is after every single access — with the same cells; the
subscriptions, the mask and the backing list's length are untouched. -/
theorem replay_equiv (reply : Reply) (evs : List MemEv) (mem : Int → Int) (m : OM)
    (hm : WF m) (hq : Quiet reply m)
    (hin : ∀ e ∈ evs, InRange m.physMask e)
    (hsame : ∀ k, 0 ≤ k → k ≤ m.physMask → mem k = m.subject k) :
    (replayObs reply m evs).1 = (replayPlain mem evs).1 ∧
    (∀ k, 0 ≤ k → k ≤ m.physMask → (replayPlain mem evs).2 k = (replayObs reply m evs).2.subject k) ∧
    (replayObs reply m evs).2.rsubs = m.rsubs ∧ (replayObs reply m evs).2.wsubs = m.wsubs ∧
    (replayObs reply m evs).2.physMask = m.physMask ∧ (replayObs reply m evs).2.subjLen = m.subjLen := by
  induction evs generalizing mem m with
  | nil => exact ⟨rfl, hsame, rfl, rfl, rfl, rfl⟩
  | cons e es ih =>
    have hin' : ∀ e' ∈ es, InRange m.physMask e' := fun e' he' => hin e' (List.mem_cons_of_mem _ he')
    have he := hin e List.mem_cons_self
    cases e with
    | r a =>
      obtain ⟨h0, h1⟩ := he
      have hg := obs_transparent_get reply m hm hq a h0 h1
      have ih' := ih mem (Py65.Model.ObsMem.get reply m a).2 ⟨hm.1, hm.2⟩ hq hin' hsame
      simp only [replayObs, replayPlain, obsStep, plainStep]
      refine ⟨?_, ih'.2.1, ih'.2.2.1, ih'.2.2.2.1, ih'.2.2.2.2.1, ih'.2.2.2.2.2⟩
      rw [ih'.1, hg.1, hsame a h0 h1]
    | w a v =>
      obtain ⟨h0, h1⟩ := he
      have hs := (obs_transparent_set reply m hm hq a v h0 h1).1
      have hsame' : ∀ k, 0 ≤ k → k ≤ (Py65.Model.ObsMem.set reply m a v).physMask →
          upd mem a v k = (Py65.Model.ObsMem.set reply m a v).subject k := by
        intro k hk0 hk1
        rw [hs]
        show (if k = a then v else mem k) = if k = a then v else m.subject k
        rw [hsame k hk0 hk1]
      have ih' := ih (upd mem a v) (Py65.Model.ObsMem.set reply m a v) ⟨hm.1, hm.2⟩ hq hin' hsame'
      simp only [replayObs, replayPlain, obsStep, plainStep]
      refine ⟨?_, ih'.2.1, ih'.2.2.1, ih'.2.2.2.1, ih'.2.2.2.2.1, ih'.2.2.2.2.2⟩
      rw [ih'.1]

/-- non-vacuity: the access log of `INC $F001 ; LDA $F004` style traffic (read, write, read of
observed cells, read of an unobserved one) replayed on both memories: same values, same cells —
while the observers were in fact called three times. -/
example :
    let reply : Reply := fun _ _ _ _ => none
    let cells : Int → Int := fun a => a % 256
    let m := run reply (init 16 cells) [.subR [0xf004, 0xf001] 1, .subW [0xf001] 2]
    let evs : List MemEv := [.r 0xf001, .w 0xf001 2, .r 0xf004, .r 0x10, .w 0xffff 9, .r 0xffff]
    (replayObs reply m evs).1 = [some 1, none, some 4, some 16, none, some 9] ∧
    (replayPlain cells evs).1 = [some 1, none, some 4, some 16, none, some 9] ∧
    (replayObs reply m evs).2.subject 0xf001 = 2 ∧ (replayPlain cells evs).2 0xf001 = 2 ∧
    (replayObs reply m evs).2.log = [⟨1, 0xf001, none⟩, ⟨2, 0xf001, some 2⟩, ⟨1, 0xf004, none⟩] ∧
    (∀ e ∈ evs, InRange m.physMask e) := by
  decide +kernel

end Py65.Props.C11
