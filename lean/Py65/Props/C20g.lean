/-
C20g -- C20's preprocessing theorems restated for the GENERATED definitions.

`Py65.Gen.MonPreGen._shortcuts` and `Py65.Gen.MonPreGen._preprocess_line` are regenerated from
`/repo/py65/monitor.py` (`Monitor._add_shortcuts`, `Monitor._preprocess_line`) by
`harness/py2lean_mon.py` on every run of the C20 check; `Py65/Proofs/MonPreGenEq.lean` proves them
equal to the hand model (`MonCmd.shortcuts`, `MonCmd.preprocessL`) for ALL lines.  The statements
below are `Py65.Props.C20.shortcut_equiv` and `dispatch_total` with the generated definitions in
place of the model's (see C20.lean for the reading guide).

Second part (`MonCmdGen`): `Py65.Gen.MonCmdGen` is regenerated by `harness/py2lean_moncmd.py` from
`Monitor.onecmd / do_registers / do_radix / do_width / do_add_label / do_delete_label / do_show_labels /
do_quit` and from `cmd.Cmd.onecmd / parseline / default / emptyline` of the installed standard library;
`Py65/Proofs/MonCmdGenEq.lean` proves it equal to the hand model.  `quit_forms`, `quit_forms_exit`,
`rejected_unchanged`, `registers_exact` and the totality half of `dispatch_total` are restated below for
the generated `MonCmdGen.onecmd` / `MonCmdGen.do_registers`.  Reading guide for that part:
`MonCmdGen.onecmd oth tb mr fuel line σ` is one call of `Monitor.onecmd(line)` in the state `σ` (session
core, `lastcmd`, the lines written so far); it ends `.ok v σ'` (returned value, new state), `.raise e σ'`
or `.nofuel`; `oth name arg` stands for the `do_*` methods that are not translated, `tb` for the traceback
text, `mr` for `repr(self._mpu)`; `fuel` bounds the recursion through `emptyline` and the loop of
`parseline` (Python has no such bound).
What remains modelled: the library helpers the generated text calls (`str.strip/lstrip/startswith/lower`,
slices, the two regular expressions, `shlex.split`, `int()`, `%`-formatting, dict and list operations,
`AddressParser.number` = the model of C15) and the commands behind `oth`.
-/
import Py65.Props.C20
import Py65.Proofs.MonPreGenEq
import Py65.Proofs.MonCmdGenEq

namespace Py65.Props.C20g
open Py65 Py65.Model.PyStr Py65.Model.AddrParser Py65.Model.MonCmd Py65.Proofs.MonCmd Py65.Proofs.Num
open Py65.Gen Py65.Proofs.MonPreGenEq

/-- The preprocessing inside `Monitor.onecmd` (model: `preprocessL`) IS the generated function. -/
theorem preprocess_is_generated (line : Str) : preprocessL line = MonPreGen._preprocess_line line := by
  rw [preprocess_eq]

/-- The shortcut table of the model IS the generated table (entries and order). -/
theorem shortcuts_is_generated : shortcuts = MonPreGen._shortcuts := shortcuts_eq.symm

/-- non-vacuity: the generated function on the examples of C20 (`decide` runs the GENERATED code). -/
example : MonPreGen._preprocess_line "  ..m \t c000:c00f  ; dump".toList = "mem c000:c00f".toList ∧
    MonPreGen._preprocess_line "~12".toList = "tilde 12".toList ∧
    MonPreGen._preprocess_line ".q;".toList = quit ∧
    MonPreGen._shortcuts.length = 25 := by
  decide +kernel

/-- `shortcut_equiv` for the generated code: for every entry `sc ↦ cmd` of the GENERATED shortcut
table other than `~`, any leading blanks, leading dots, at least one blank (of any kind) between
shortcut and arguments, trailing blanks and a trailing `;` comment outside quotes, the GENERATED
`_preprocess_line` yields `cmd`, one space, the arguments -- exactly what it leaves of the long
command typed plainly; the shortcut alone gives `cmd`; `~` (blank optional) gives `tilde`, one space,
and the text after `~`. -/
theorem shortcut_equiv (sc cmd : Str) (hmem : (sc, cmd) ∈ MonPreGen._shortcuts) (ws1 dots ws2 comment : Str)
    (hn : Noise ws1 dots ws2 comment) :
    (sc ≠ ['~'] →
      MonPreGen._preprocess_line (ws1 ++ dots ++ sc ++ ws2 ++ comment) = cmd ∧
      ∀ bl args, bl ≠ [] → (∀ c ∈ bl, isReSpace c = true) → ArgsOK args →
        MonPreGen._preprocess_line (ws1 ++ dots ++ (sc ++ bl ++ args) ++ ws2 ++ comment) = cmd ++ ' ' :: args ∧
        MonPreGen._preprocess_line (cmd ++ ' ' :: args) = cmd ++ ' ' :: args) ∧
    (∀ bl args, (∀ c ∈ bl, isReSpace c = true) → ArgsOK args →
        MonPreGen._preprocess_line (ws1 ++ dots ++ (['~'] ++ bl ++ args) ++ ws2 ++ comment) =
          tilde ++ ' ' :: (bl ++ args)) := by
  rw [shortcuts_eq] at hmem
  rw [preprocess_eq]
  exact C20.shortcut_equiv sc cmd hmem ws1 dots ws2 comment hn

/-- non-vacuity: `("m", "mem")` is an entry of the generated table and the noise of C20's example is
admissible. -/
example : ("m".toList, "mem".toList) ∈ MonPreGen._shortcuts ∧ "m".toList ≠ ['~'] ∧
    Noise " \t".toList "..".toList "  ".toList "; bye \"".toList :=
  ⟨by decide, by decide, ⟨by decide, by decide, by decide, Or.inr ⟨_, rfl⟩⟩⟩

/-- `C20.dispatch_total` with the GENERATED `_preprocess_line` on the right: the hand model's `onecmdL` (the
generated `onecmd` comes in the second part) requests exit exactly when the line -- after the generated
preprocessing and the model's `parseline`, or, for an empty line, the repeated `lastcmd` -- is dispatched on the
word `quit`. -/
theorem dispatch_total (ext : Ext) (s : State) (line : Str) :
    (onecmdL ext s line).1.exit = true ↔
      (match parseline (MonPreGen._preprocess_line line) with
       | .cmd w _ _ => some w
       | .noCmd _ => none
       | .empty =>
         if s.lastcmd = [] then none else
         match parseline (MonPreGen._preprocess_line s.lastcmd) with
         | .cmd w _ _ => some w
         | _ => none) = some quit := by
  rw [preprocess_eq, C20.dispatch_total ext s line]
  -- the right-hand side is `dispatchWord s line` written out; matching the two `match`es by cases is cheap, whereas
  -- `exact` makes the elaborator try to evaluate `parseline` on the open term
  unfold dispatchWord
  cases parseline (preprocessL line) with
  | empty => cases parseline (preprocessL s.lastcmd) <;> rfl
  | noCmd _ => rfl
  | cmd _ _ _ => rfl

/-- non-vacuity: both sides occur (`  ..x ; bye` exits, `quitx` does not), evaluated with the
generated preprocessing on the right. -/
example :
    (match parseline (MonPreGen._preprocess_line "  ..x ; bye".toList) with
     | .cmd w _ _ => some w | _ => none) = some quit ∧
    (match parseline (MonPreGen._preprocess_line "quitx".toList) with
     | .cmd w _ _ => some w | _ => none) ≠ some quit := by
  decide +kernel

/-! ## the dispatcher and the state-owning commands, regenerated (`MonCmdGen`) -/

section cmds
open Py65.Model Py65.Model.MonGenRt Py65.Model.MonCmdRt Py65.Proofs.MonCmdGenEq

variable (oth : Str → Str → CmdSt → Flow CmdSt PyRet) (tb : Exc → Str) (mr : Core → Str)

/-- `dispatch_total`, first half, for the generated code: NO input line makes `Monitor.onecmd` raise --
for ANY line, ANY state, ANY behaviour `oth` of the commands that are not translated (whatever they
raise is absorbed by the generated catch-all) and any fuel: the result is never `.raise`. -/
theorem onecmd_never_raises (fuel : Nat) (line : Str) (σ : CmdSt) (e : Exc) (s : CmdSt) :
    MonCmdGen.onecmd oth tb mr fuel line σ ≠ .raise e s :=
  Py65.Proofs.MonCmdGenEq.onecmd_never_raises oth tb mr fuel line σ e s

/-- `dispatch_total`, second half, for the generated code: if the other commands do to the session core
what the model says (`OthModels oth ext`: they end, core = `runCommand ext`, `lastcmd` untouched, no true
value), then with enough fuel and outside the one diverging situation (`Loops`, see `onecmd_needs_noloop`)
the generated `onecmd` RETURNS, and its value is true exactly when the line is dispatched on `quit`. -/
theorem onecmd_returns (ext : Ext) (hm : OthModels oth ext) (fuel : Nat) (line : Str) (σ : CmdSt)
    (hf : fuel > (MonPreGen._preprocess_line line).length + (MonPreGen._preprocess_line σ.lastcmd).length + 6)
    (hnl : ¬ Loops σ line) :
    ∃ v σ', MonCmdGen.onecmd oth tb mr fuel line σ = .ok v σ' ∧
      (v.truthy = true ↔ dispatchWord { core := σ.core, lastcmd := σ.lastcmd } line = some quit) := by
  rw [preprocess_eq] at hf
  obtain ⟨v, s', e1, -, -, e4⟩ := onecmd_sim oth tb mr ext hm fuel line σ hf hnl
  exact ⟨v, s', e1, by rw [e4]; exact C20.dispatch_total ext _ line⟩

/-- The hypothesis `¬ Loops` is needed: when an empty line meets a `lastcmd` that preprocesses to an empty
line again, the generated `onecmd` is out of fuel for EVERY fuel (the Python recursion through `emptyline`
has no end; CPython's `RecursionError` is outside the translated subset). -/
theorem onecmd_needs_noloop (fuel : Nat) (line : Str) (σ : CmdSt) (h : Loops σ line) :
    MonCmdGen.onecmd oth tb mr fuel line σ = .nofuel :=
  onecmd_diverges oth tb mr σ fuel line h

/-- The core used by the executable examples below. -/
def exCore : Core :=
  { dev := .d6502, regs := resetRegs .d6502, mem := fun _ => 0, labels := [("foo".toList, 0xc000)],
    breakpoints := [some 7], radix := 16, width := 78 }

/-- An `oth` for the examples: every other command prints nothing and returns `None`. -/
def exOth : Str → Str → CmdSt → Flow CmdSt PyRet := fun _ _ σ => .ok none σ

/-- Run the GENERATED `onecmd` on a line (fuel 60, `lastcmd` given) and test the result. -/
def exRun (oth : Str → Str → CmdSt → Flow CmdSt PyRet) (last line : String) (p : PyRet → CmdSt → Bool) : Bool :=
  match MonCmdGen.onecmd oth (fun _ => "TB".toList) (fun _ => "MPU".toList) 60 line.toList
      { core := exCore, lastcmd := last.toList, out := [] } with
  | .ok v s => p v s
  | _ => false

/-- non-vacuity: `Loops` occurs (`lastcmd = "."`, an empty line), and the generated code runs out of any
fuel there, while `q` returns `1` (evaluated by running the GENERATED code). -/
example : Loops { core := exCore, lastcmd := ".".toList, out := [] } [] := by
  unfold Loops; decide +kernel

example :
    (match MonCmdGen.onecmd exOth (fun _ => []) (fun _ => []) 40 [] { core := exCore, lastcmd := ".".toList, out := [] } with
     | .nofuel => true | _ => false) = true ∧
    exRun exOth "" "  ..q ; bye" (fun v s => v = some 1 ∧ s.lastcmd = quit ∧ s.out = [[]]) = true := by
  decide +kernel

/-- `quit_forms` for the generated code (only the quit forms request exit): if the generated
`Monitor.onecmd` returns a true value -- the commands that are not translated returning no true value
(`OthFalsy`) --, then the cleaned text of the line starts, after blanks of any kind, with `quit`, `q`, `x`,
`exit` or `EOF` as a whole word; for a line that is empty after preprocessing the same holds of the
repeated `lastcmd`. -/
theorem quit_forms (ho : OthFalsy oth) (fuel : Nat) (line : Str) (σ : CmdSt)
    (hf : fuel > (MonPreGen._preprocess_line line).length + (MonPreGen._preprocess_line σ.lastcmd).length + 6)
    (h : (retOf (MonCmdGen.onecmd oth tb mr fuel line σ)).truthy = true) :
    (∃ f ∈ quitForms, StartsWithWord f (lstripP isReSpace (cleaned line))) ∨
    (parseline (MonPreGen._preprocess_line line) = .empty ∧
      ∃ f ∈ quitForms, StartsWithWord f (lstripP isReSpace (cleaned σ.lastcmd))) := by
  rw [preprocess_eq] at hf ⊢
  exact C20.quit_forms { core := σ.core, lastcmd := σ.lastcmd } line (onecmd_truthy oth tb mr ho fuel line σ hf h)

/-- non-vacuity: the premise holds for `x` and for an empty line after `q` (generated code evaluated), not
for `quitx`; `exOth` returns no true value. -/
example :
    OthFalsy exOth ∧ exRun exOth "" "x" (fun v _ => v.truthy) = true ∧
    exRun exOth "q" "" (fun v _ => v.truthy) = true ∧ exRun exOth "" "quitx" (fun v _ => v.truthy) = false :=
  ⟨fun _ _ _ => rfl, by decide +kernel, by decide +kernel, by decide +kernel⟩

/-- `quit_forms_exit` for the generated code (every quit form requests exit): for each of `quit`, `q`,
`x`, `exit`, `EOF`, alone or followed by blanks and arguments, with leading blanks, leading dots, trailing
blanks and a trailing `;` comment outside quotes, in EVERY state and for ANY `oth`, the generated
`Monitor.onecmd` returns `1` and leaves the session core (device, registers, memory, labels, breakpoints,
radix, width) exactly as it was. -/
theorem quit_forms_exit (f : Str) (hf : f ∈ quitForms) (ws1 dots ws2 comment : Str)
    (hn : Noise ws1 dots ws2 comment) (σ : CmdSt) :
    (∀ fuel, fuel > (MonPreGen._preprocess_line (ws1 ++ dots ++ f ++ ws2 ++ comment)).length + 5 →
      ∃ σ', MonCmdGen.onecmd oth tb mr fuel (ws1 ++ dots ++ f ++ ws2 ++ comment) σ = .ok (some 1) σ' ∧
        σ'.core = σ.core) ∧
    ∀ bl args, bl ≠ [] → (∀ c ∈ bl, isReSpace c = true) → ArgsOK args →
      ∀ fuel, fuel > (MonPreGen._preprocess_line (ws1 ++ dots ++ (f ++ bl ++ args) ++ ws2 ++ comment)).length + 5 →
        ∃ σ', MonCmdGen.onecmd oth tb mr fuel (ws1 ++ dots ++ (f ++ bl ++ args) ++ ws2 ++ comment) σ =
          .ok (some 1) σ' ∧ σ'.core = σ.core := by
  have key : ∀ line, dispatchWord { core := σ.core, lastcmd := [] } line = some quit →
      ∀ fuel, fuel > (MonPreGen._preprocess_line line).length + 5 →
        ∃ σ', MonCmdGen.onecmd oth tb mr fuel line σ = .ok (some 1) σ' ∧ σ'.core = σ.core := by
    intro line hd fuel hfu
    rw [preprocess_eq] at hfu
    rcases dispatchWord_some hd with ⟨a, x, hp⟩ | ⟨-, hl, -⟩
    · obtain ⟨s', e1, e2, -⟩ := onecmd_quit oth tb mr fuel line a x σ hfu hp
      exact ⟨s', e1, e2⟩
    · exact absurd rfl hl
  obtain ⟨h1, h2⟩ := C20.quit_forms_exit { core := σ.core, lastcmd := [] } f hf ws1 dots ws2 comment hn
  exact ⟨key _ h1, fun bl args hbl hblw ha => key _ (h2 bl args hbl hblw ha)⟩

/-- non-vacuity: the generated code on a noisy quit form with arguments. -/
example :
    exRun exOth "" " \t..exit  now \"x;y\"  ; bye \"" (fun v s => v = some 1 ∧ s.core.labels = exCore.labels ∧
      s.core.radix = 16 ∧ s.core.regs = exCore.regs ∧ s.core.breakpoints = exCore.breakpoints) = true := by
  decide +kernel

/-- `rejected_unchanged` for the generated code: for ANY line in ANY state, if the line is refused -- the
model's verdict `rejected`, which the generated commands show as their refusal message or as an absorbed
exception: `MonCmdGenEq.radixMsg`, `widthMsg_iff`, `addLabel_ok_iff`, `pairLine`, `unknownSyntax` tie each
verdict of the translated commands to the text the GENERATED code prints --, then the generated
`Monitor.onecmd` returns with device, registers, memory, labels, breakpoints, radix and width exactly as
they were.  Hypotheses: the commands that are not translated behave as the model says (`OthModels oth ext`),
those that run / assemble / fill / load honour "refused ⇒ unchanged" themselves (`ext.Honest`: C07, C16, C17),
enough fuel, and not the diverging situation `Loops`. -/
theorem rejected_unchanged (ext : Ext) (hext : ext.Honest) (hm : OthModels oth ext) (fuel : Nat) (line : Str)
    (σ : CmdSt)
    (hf : fuel > (MonPreGen._preprocess_line line).length + (MonPreGen._preprocess_line σ.lastcmd).length + 6)
    (hnl : ¬ Loops σ line)
    (h : (onecmdL ext { core := σ.core, lastcmd := σ.lastcmd } line).1.verdict.isRejected = true) :
    ∃ v σ', MonCmdGen.onecmd oth tb mr fuel line σ = .ok v σ' ∧ σ'.core = σ.core := by
  rw [preprocess_eq] at hf
  obtain ⟨v, s', e1, e2, -, -⟩ := onecmd_sim oth tb mr ext hm fuel line σ hf hnl
  exact ⟨v, s', e1, e2.trans (C20.rejected_unchanged ext hext _ line h)⟩

/-- The verdicts of the translated commands as the GENERATED code shows them (companion of
`rejected_unchanged`): `radix` prints `Illegal radix: …` exactly when the model refuses; `width` prints
`Illegal width: …` / `Minimum terminal width is 10` exactly when the model refuses; `add_label` neither
raises nor prints exactly when the model accepts; in every case the new core is the model's. -/
theorem refusals_shown (args : Str) (σ : CmdSt) :
    (MonCmdGen.do_radix oth tb mr args σ =
      .ok none { σ with core := (doRadix σ.core args).2,
                        out := σ.out ++ (if (doRadix σ.core args).1.isRejected = true then
                                          ["Illegal radix: ".toList ++ args] else []) ++
                          radixLines (doRadix σ.core args).2.radix }) ∧
    (MonCmdGen.do_width oth tb mr args σ =
      .ok none { σ with core := (doWidth σ.core args).2,
                        out := σ.out ++ widthMsg args ++
                          ["Terminal width is ".toList ++ pyFmtD (doWidth σ.core args).2.width] } ∧
      (widthMsg args ≠ [] ↔ (doWidth σ.core args).1.isRejected = true)) ∧
    (MonCmdGen.do_add_label oth tb mr args σ =
      cmdEnd σ (doAddLabel σ.core args).2 (addLabelExc σ.core.parser args) (addLabelLines σ.core.parser args) ∧
      ((doAddLabel σ.core args).1 = .ok ↔
        addLabelExc σ.core.parser args = none ∧ addLabelLines σ.core.parser args = [])) :=
  ⟨do_radix_eq oth tb mr args σ, ⟨do_width_eq oth tb mr args σ, widthMsg_iff σ.core args⟩,
    ⟨do_add_label_eq oth tb mr args σ, addLabel_ok_iff σ.core args⟩⟩

/-- non-vacuity of `rejected_unchanged`'s conclusion on the generated code: refused lines of each kind leave
the core alone and print something (evaluated by running the GENERATED code; here `oth` raises, as `db 1` does). -/
example :
    let same := fun (l : String) =>
      exRun (fun _ _ σ => .raise .TypeError σ) "" l (fun v s => v = none ∧ s.core.labels = exCore.labels ∧
        s.core.radix = exCore.radix ∧ s.core.width = exCore.width ∧ s.core.regs = exCore.regs ∧
        s.core.breakpoints = exCore.breakpoints ∧ s.out.length ≥ 2)
    (same "frobnicate" && same "!ls" && same "al c000" && same "al nosuch x" && same "al $10000 x" &&
     same "al 1 \"x" && same "db 1" && same "width 9" && same "radix x" && same "r a=$100" && same "r q=1" &&
     same "r a") = true := by
  decide +kernel

/-- `registers_exact` for the generated code: the generated `do_registers` never raises, prints one
message per refused pair (`registersLines`), touches nothing but the registers, and the registers
afterwards are exactly these: every register holds the value of the last accepted pair that names it, or
its old value if there is none -- in particular a register that no pair names is unchanged --, where a
pair is accepted (`pairOutcome … = .ok (reg, v)`) only if its name is one of pc sp a x y p, its value is
a number or label the address parser accepts, and the value fits: the address width for pc, the byte
width for the others. -/
theorem registers_exact (args : Str) (σ : CmdSt) (hP : σ.core.parser.WF) :
    ∃ R : Regs,
      MonCmdGen.do_registers oth tb mr args σ =
        .ok none { σ with core := { σ.core with regs := R }, out := σ.out ++ registersLines σ.core args } ∧
      (let outs := (findPairs args).map (pairOutcome σ.core.dev σ.core.parser)
       (∀ n, R.get n = (lastAssigned outs n).getD (σ.core.regs.get n)) ∧
       (∀ n, (∀ pair ∈ findPairs args, regOfName pair.1 ≠ some n) → R.get n = σ.core.regs.get n) ∧
       (∀ pair ∈ findPairs args, ∀ reg v, pairOutcome σ.core.dev σ.core.parser pair = .ok (reg, v) →
         regOfName pair.1 = some reg ∧ numberL σ.core.parser pair.2 = .ok v ∧ 0 ≤ v ∧ v ≤ σ.core.parser.maxaddr ∧
         (reg ≠ .pc → v ≤ σ.core.dev.byteMask))) :=
  ⟨(doRegisters σ.core.dev σ.core.parser σ.core.regs args).2.2, do_registers_eq oth tb mr args σ,
    C20.registers_exact σ.core.dev σ.core.parser hP σ.core.regs args⟩

/-- non-vacuity: the GENERATED `do_registers` on C20's example (label `foo = $c000`): a (twice: 7 wins) and pc
are assigned, x (too wide) and q (no such register) are refused with their messages, y sp p keep their values;
`exCore.parser` is well-formed. -/
example :
    (match MonCmdGen.do_registers exOth (fun _ => []) (fun _ => [])
        "a=$12, x=$100, pc=foo, q=1, a=7".toList { core := exCore, lastcmd := [], out := [] } with
     | .ok v s => decide (v = none ∧ s.core.regs = { a := 7, x := 0, y := 0, sp := 0xff, p := 0x30, pc := 0xc000 } ∧
         s.out = ["Overflow: '$100' too wide for register 'x'".toList, "Invalid register: q".toList])
     | _ => false) = true := by
  decide +kernel

theorem exCore_wf : exCore.parser.WF := by
  intro k v h
  have : exCore.parser.labels = [("foo".toList, 0xc000)] := rfl
  rw [this] at h
  simp only [lookup] at h
  split at h
  · cases h; exact ⟨by decide, by decide⟩
  · cases h

example : exCore.parser.WF := exCore_wf

/-- The table of `do_*` methods collected from class Monitor (and cmd.Cmd) IS the model's command table:
adding, removing or renaming a command breaks this. -/
theorem commands_is_generated :
    MonCmdGen.doNames = commandTable.map (fun kv => "do_".toList ++ kv.1) := doNames_eq

end cmds

end Py65.Props.C20g
