/-
C20i -- C20 ("rejected commands change nothing") for the GENERATED `Monitor.onecmd` with ALL generated commands
plugged in: `Props/C20h.lean` left `do_assemble` (with `_interactive_assemble`), `do_help`, `do_version`, `do_cd`,
`do_pwd` behind the parameters `P.unt` / `P.asm` with the hypotheses `UntModels P` / `AsmHonest P`.  Here those
parameters are INSTANTIATED with the generated methods of `MonAsmGen` (`Gen/MonAsmGen.lean`; the GENERATED
assembler `Gen/AsmGen.lean` plugged in as in `Props/C20a.lean`; `self.do_disassemble` = the GENERATED command of
`MonShowGen`) through the adapter `Model/MonCompose2Rt.lean`, and both hypotheses are DISCHARGED from the C20a
theorems.  Reading guide:

* `Q : Params2` (`Proofs/MonCompose2.lean`) = `Q.base : Params` of C20h (its `unt` / `asm` are not used) + the
  input oracle `Q.I.lines c arg` (the lines that will be typed on stdin while the command runs), `Q.I.cwd`, the OS
  for `cd` (`Q.aw`), two `KeyError` texts that only reach the output (`Q.kt`, `Q.ktDis`), `cmd.Cmd.do_help`
  (`Q.cmdhelp`: standard library, not translated) and the fuel of the interactive loop (`Q.fuelAsm`, one unit per
  prompt).  `Q.full : Params` is the instance; `othG Q.full` the composed parameter `oth` of the generated
  dispatcher, `extG Q.full` the model's `Ext` read off the generated commands.
* What REJECTED means for `assemble` (`asmVerdict`, restated in `assemble_refusals_fully_composed`):
  `assemble <address> <statement>` is refused ⇔ the address parser raises on `<address>` or the GENERATED
  assembler raises on `<statement>` at that address (any exception); `assemble [<address>]` (interactive) is
  refused ⇔ the argument is non-empty and the address parser raises on it.  `help version cd pwd`: never.
* An interactive session that runs out of typed lines (or of `Q.fuelAsm` prompts) DOES NOT RETURN: the generated
  loop answers `.nofuel` (`console.line_input` on an exhausted stdin polls for ever), the adapter hands it on as
  `.nofuel`, the generated `onecmd` is `.nofuel`.  Such a line is NOT refused by the model (a session only
  starts after its start address was accepted), so `rejected_unchanged_fully_composed` does not speak about it; a
  refused `assemble` is PROVED to end without reading a line (`assemble_refusals_fully_composed`).  The
  universally quantified `UntModels` needs `InputOK Q` (every `assemble` run ends); the property theorem does not.
* Remaining hypotheses of `rejected_unchanged_fully_composed`: `GlueOK` (the memory object is an object around
  the session's cells), `OutOnly Q.cmdhelp` (cmd.Cmd.do_help only prints), `LoadFuel` / `FillFuel` / the dispatcher's
  fuel, `¬ Loops`, a well-formed label table, and the library helpers of the units' run-time files.  NOTHING about
  any `do_*` method is assumed any more.
-/
import Py65.Props.C20h
import Py65.Proofs.MonCompose2

namespace Py65.Props.C20i
open Py65 Py65.Model Py65.Model.PyStr Py65.Model.AddrParser Py65.Model.MonCmd Py65.Model.MonGenRt
open Py65.Model.MonCmdRt Py65.Model.MonComposeRt Py65.Model.MonCompose2Rt Py65.Model.MonAsmRt
open Py65.Gen Py65.Proofs.MonCmd Py65.Proofs.MonCmdGenEq
open Py65.Proofs.MonCompose Py65.Proofs.MonCompose2 Py65.Proofs.MonPreGenEq Py65.Props.C20a Py65.Proofs.MonAsmGenEq
open Py65.Model.MonAsm

variable (Q : Params2) (tb : Exc → Str) (mr : Core → Str)

/-- `UntModels` of C20h for the instance with the GENERATED `do_assemble`, `do_help`, `do_version`, `do_cd`, `do_pwd`:
for each of the five, any argument and any state, the generated method (through the adapter) ends, the session
core afterwards is the model's (unchanged for `help version cd pwd`; for `assemble` registers and cells as
`asmModel` reads them off the run, everything else unchanged -- `asm_kept`), `lastcmd` is untouched, the value
is `None`.  Hypotheses: the glue, `cmd.Cmd.do_help` only prints, and `InputOK`: every `assemble` run ends. -/
theorem unt_models_generated (hG : GlueOK Q.base.G) (hh : OutOnly Q.cmdhelp) (hin : InputOK Q) : UntModels Q.full :=
  unt_models Q hG hh hin

/-- `AsmHonest` of C20h for the instance: when the address parser or the GENERATED assembler refuses, the
generated `do_assemble` leaves registers and cells as they were.  Hypothesis: the glue only. -/
theorem asm_honest_generated (hG : GlueOK Q.base.G) : AsmHonest Q.full := asm_honest Q hG

/-- `rejected_unchanged` for the generated `Monitor.onecmd` with ALL generated commands plugged in (the fifteen of
C20h and `assemble`, interactive `assemble`, `help`, `version`, `cd`, `pwd`): for ANY line in ANY state with a
well-formed label table, if the line is refused, the generated `onecmd` RETURNS and device, registers, memory
cells, labels, breakpoints, radix and width are exactly what they were.  No `UntModels`, no `AsmHonest`, no
hypothesis about the input oracle. -/
theorem rejected_unchanged_fully_composed (hG : GlueOK Q.base.G) (hh : OutOnly Q.cmdhelp) (hload : LoadFuel Q.full)
    (fuel : Nat) (line : Str) (σ : CmdSt) (hwf : σ.core.parser.WF) (hfill : FillFuel Q.full σ.core)
    (hf : fuel > (MonPreGen._preprocess_line line).length + (MonPreGen._preprocess_line σ.lastcmd).length + 6)
    (hnl : ¬ Loops σ line)
    (h : (onecmdL (extG Q.full) { core := σ.core, lastcmd := σ.lastcmd } line).1.verdict.isRejected = true) :
    ∃ v σ', MonCmdGen.onecmd (othG Q.full) tb mr fuel line σ = .ok v σ' ∧ σ'.core = σ.core := by
  rw [preprocess_eq] at hf
  exact onecmd_rejected_composed2 Q tb mr hG hh hload fuel line σ hwf hfill hf hnl h

/-- The same obtained by INSTANTIATING `C20h.rejected_unchanged_composed` (its hypotheses `UntModels` / `AsmHonest`
discharged by the two theorems above); this route needs `InputOK`. -/
theorem rejected_unchanged_composed_instance (hG : GlueOK Q.base.G) (hh : OutOnly Q.cmdhelp) (hin : InputOK Q)
    (hload : LoadFuel Q.full) (fuel : Nat) (line : Str) (σ : CmdSt) (hwf : σ.core.parser.WF)
    (hfill : FillFuel Q.full σ.core)
    (hf : fuel > (MonPreGen._preprocess_line line).length + (MonPreGen._preprocess_line σ.lastcmd).length + 6)
    (hnl : ¬ Loops σ line)
    (h : (onecmdL (extG Q.full) { core := σ.core, lastcmd := σ.lastcmd } line).1.verdict.isRejected = true) :
    ∃ v σ', MonCmdGen.onecmd (othG Q.full) tb mr fuel line σ = .ok v σ' ∧ σ'.core = σ.core :=
  C20h.rejected_unchanged_composed Q.full tb mr hG (unt_models Q hG hh hin) (asm_honest Q hG) hload fuel line σ hwf
    hfill hf hnl h

/-- EVERY line, refused or not: with `CallOK2` for the one command the line is dispatched to (`CallOK` of C20h and,
for `assemble`, "the run returned": the typed lines contained a blank line within `fuelAsm` prompts / the
disassembly ended within `fuelDis`), the generated `onecmd` with all generated commands returns, its session core
and `lastcmd` are the model's, and its value is true exactly for `quit`. -/
theorem onecmd_agrees_fully_composed (hG : GlueOK Q.base.G) (hh : OutOnly Q.cmdhelp) (fuel : Nat) (line : Str) (σ : CmdSt)
    (hf : fuel > (MonPreGen._preprocess_line line).length + (MonPreGen._preprocess_line σ.lastcmd).length + 6)
    (hnl : ¬ Loops σ line)
    (hok : ∀ cmd a, dispatched { core := σ.core, lastcmd := σ.lastcmd } line = some (cmd, a) → CallOK2 Q cmd a σ.core) :
    ∃ v σ', MonCmdGen.onecmd (othG Q.full) tb mr fuel line σ = .ok v σ' ∧
      σ'.core = (onecmdL (extG Q.full) { core := σ.core, lastcmd := σ.lastcmd } line).2.core ∧
      σ'.lastcmd = (onecmdL (extG Q.full) { core := σ.core, lastcmd := σ.lastcmd } line).2.lastcmd ∧
      (v.truthy = true ↔ dispatchWord { core := σ.core, lastcmd := σ.lastcmd } line = some quit) := by
  rw [preprocess_eq] at hf
  obtain ⟨v, s', e1, e2, e3, e4⟩ := onecmd_sim_composed2 Q tb mr hG hh fuel line σ hf hnl hok
  exact ⟨v, s', e1, e2, e3, by rw [e4]; exact C20.dispatch_total (extG Q.full) _ line⟩

/-- What REJECTED means for `assemble`, and what a refused `assemble` does: the model's verdict is `asmVerdict` of
the address parser and the GENERATED assembler of the session's device; a refused `assemble` ENDS (returns, or
raises into `onecmd`'s catch-all) -- it never prompts -- with the memory OBJECT (cells, subscribers, call log),
registers, address parser (labels, radix), breakpoints and width of the unit state exactly as built. -/
theorem assemble_refusals_fully_composed (c : Core) (arg : Str) :
    (runCommand (extG Q.full) c .assemble arg).verdict = asmVerdict (asmA Q c) c arg ∧
    ((asmVerdict (asmA Q c) c arg).isRejected = true →
      ∃ s, (asmC Q arg c = .ok () s ∨ ∃ e, asmC Q arg c = .raise e s) ∧ SameSession (asmStOf Q.base.G Q.I c arg) s) :=
  ⟨rfl, asm_rejected_end Q arg c⟩

/-- EVERY end of the generated `do_assemble` / `_interactive_assemble` -- accepted or refused, returned or raised,
however many lines were typed --: registers, labels, radix, breakpoints and width are those it started with (only
memory, output and pending input can differ).  This is what makes reading ALL fields back in the adapter
(`coreOfAsm`) agree with the model's "`assemble` changes registers and cells only". -/
theorem assemble_keeps_session (c : Core) (arg : Str) :
    match asmC Q arg c with
    | .ok _ s => s.regs = c.regs ∧ s.parser = c.parser ∧ s.breakpoints = c.breakpoints ∧ s.width = c.width
    | .raise _ s => s.regs = c.regs ∧ s.parser = c.parser ∧ s.breakpoints = c.breakpoints ∧ s.width = c.width
    | .nofuel => True := by
  have h := asm_kept Q arg c
  cases hr : asmC Q arg c with
  | ok v s => rw [hr] at h; exact h
  | raise e s => rw [hr] at h; exact h
  | nofuel => trivial

/-- The one thing the adapter does NOT read back -- the device object of `MonShowGen` after the `do_disassemble`
that `do_assemble` calls -- is unchanged at every end of that call (`MonCompose.dis_kept`). -/
theorem disassemble_inside_assemble_kept (c : Core) (a : Str) (σ : AsmSt) :
    match disC Q.base a (coreOfAsm c σ) with
    | .ok _ s => s.mpu = stOf (coreOfAsm c σ)
    | .raise _ s => s.mpu = stOf (coreOfAsm c σ)
    | .nofuel => True := by
  have h := disA_device_kept Q c a σ
  cases hr : disC Q.base a (coreOfAsm c σ) with
  | ok v s => rw [hr] at h; exact h
  | raise e s => rw [hr] at h; exact h
  | nofuel => trivial

/-! ## non-vacuity: the generated code, fully composed, RUN by `decide +kernel` -/

/-- Parameters for the examples: those of C20h (`exP`: the monitor's own memory object, ...), the OS / texts /
`cmdhelp` stand-in of C20a, a working directory, and an input oracle that types `inx`, `bogus`, `lda #$12` and a
blank line into every interactive session -- except a session started at `$30`, which gets no blank line (and so
never returns). -/
def exQ : Params2 :=
  { base := C20h.exP,
    I := { lines := fun _ arg => if arg = "30".toList then ["nop".toList]
                                 else ["inx".toList, "bogus".toList, "lda #$12".toList, "  ".toList, "nop".toList],
           cwd := fun _ => "/tmp".toList },
    aw := C20a.w0, kt := C20a.kt0, ktDis := fun _ _ => [], cmdhelp := C20a.help0, fuelAsm := 10 }

/-- The hypotheses of `rejected_unchanged_fully_composed` hold of the example parameters and `C20g.exCore`. -/
example : GlueOK exQ.base.G ∧ OutOnly exQ.cmdhelp ∧ LoadFuel exQ.full ∧ FillFuel exQ.full C20g.exCore ∧
    C20g.exCore.parser.WF := by
  -- `exQ.full` has the OS and the fuels of `C20h.exP`
  exact ⟨fun _ => rfl, fun a σ => Or.inl ⟨_, rfl⟩, C20h.exP_loadFuel, (by unfold FillFuel; decide +kernel), C20g.exCore_wf⟩

/-- Run the GENERATED `onecmd` with ALL GENERATED commands on a line in `C20g.exCore` and test the result. -/
def exRunF (line : String) (p : PyRet → CmdSt → Bool) : Bool :=
  match MonCmdGen.onecmd (othG exQ.full) (fun _ => "TB".toList) (fun _ => "MPU".toList) 60 line.toList
      { core := C20g.exCore, lastcmd := [], out := [] } with
  | .ok v s => p v s
  | _ => false

/-- The model's verdict of a line (with `extG exQ.full`: computed from the generated assembler / commands). -/
def exVerdictF (line : String) : Verdict :=
  (onecmdL (extG exQ.full) { core := C20g.exCore, lastcmd := [] } line.toList).1.verdict

/-- non-vacuity of `rejected_unchanged_fully_composed` for the commands plugged in here: refused `assemble`
lines of every kind -- statement refused by the generated assembler (syntax, operand overflow, unknown label in
the operand), start address refused (unknown label, too wide), one-line and interactive -- have verdict
REJECTED, and the generated dispatcher with the generated `do_assemble` returns `None` with the core untouched
having printed something; a family of C20h (`fill`) still behaves. -/
example :
    let refused := fun (l : String) => (exVerdictF l).isRejected &&
      exRunF l (fun v s => v = none && C20h.sameCore s && decide (s.out.length ≥ 2))
    (refused "a 10 bogus" && refused "assemble 10 lda #$100" && refused "a 10 jmp nosuch" &&
     refused "a nosuch nop" && refused "a 10000 nop" && refused "assemble nosuch" && refused "a 10000" &&
     refused "fill 0:3 100") = true := by
  decide +kernel

/-- ... and accepted ones DO change the core through the adapter: the one-line form stores exactly the bytes;
an interactive session at `$20` (typed: `inx`, `bogus`, `lda #$12`, blank) stores `e8 a9 12`, the refused line
stores nothing, the line after the blank one is not consumed; `assemble` without argument starts at the PC (0);
everything but the cells is as it was.  The four display commands leave the core alone and print. -/
example :
    exVerdictF "a 10 lda #$12" = .ok ∧
    exRunF "a 10 lda #$12" (fun v s => v = none &&
      [0x0f, 0x10, 0x11, 0x12].map s.core.mem = [0, 0xa9, 0x12, 0] && decide (s.core.regs = C20g.exCore.regs) &&
      decide (s.core.labels = C20g.exCore.labels ∧ s.core.breakpoints = C20g.exCore.breakpoints ∧
        s.core.radix = 16 ∧ s.core.width = 78)) = true ∧
    exRunF "a foo jmp foo" (fun _ s => [0xc000, 0xc001, 0xc002].map s.core.mem = [0x4c, 0x00, 0xc0]) = true ∧
    exVerdictF "a 20" = .ok ∧
    exRunF "a 20" (fun v s => v = none && [0x1f, 0x20, 0x21, 0x22, 0x23].map s.core.mem = [0, 0xe8, 0xa9, 0x12, 0] &&
      decide (s.core.regs = C20g.exCore.regs ∧ s.core.labels = C20g.exCore.labels)) = true ∧
    exRunF "assemble" (fun _ s => [0, 1, 2, 3].map s.core.mem = [0xe8, 0xa9, 0x12, 0]) = true ∧
    (let shown := fun (l : String) (t : String) => exRunF l (fun v s => v = none && C20h.sameCore s && s.out.contains t.toList)
     (shown "version" "\nPy65 Monitor\n" && shown "pwd" "/tmp\n" && shown "cd sub" "/tmp/sub\n" &&
      shown "cd nosuch" "Cannot change directory: [2] No such file or directory\n" && shown "cd" "cd <directory>\n" &&
      shown "help" "help \n" && shown "? a" "help assemble\n")) = true := by
  decide +kernel

/-- An interactive session whose typed lines run out before a blank line does NOT return: the generated `onecmd`
is `.nofuel` (not `.ok`, not `.raise`) -- and the model does not call that line refused. -/
example :
    (match MonCmdGen.onecmd (othG exQ.full) (fun _ => "TB".toList) (fun _ => "MPU".toList) 60 "a 30".toList
        { core := C20g.exCore, lastcmd := [], out := [] } with | .nofuel => true | _ => false) = true ∧
    (exVerdictF "a 30").isRejected = false := by
  decide +kernel

/-- non-vacuity of `unt_models_generated` / `rejected_unchanged_composed_instance`: parameters for which `InputOK` HOLDS --
the oracle types one blank line into every session (`fuelAsm = 1` suffices), and `instruction_at` always raises, so
the `disassemble` after a one-line `assemble` ends at once (`fuelDis = 1`). -/
def exQ2 : Params2 :=
  { exQ with base := { C20h.exP with iat := fun _ _ _ => .error .Other, fuelDis := 1 },
             I := { lines := fun _ _ => [[]], cwd := fun _ => [] }, fuelAsm := 1 }

/-- the generated `do_disassemble` of `exQ2` never runs out of fuel -/
theorem disC_exQ2 (a : Str) (c : Core) : disC exQ2.base a c ≠ .nofuel := by
  unfold disC
  rw [Py65.Proofs.ReprGenEq.do_disassemble_eq]
  unfold Show.doDisassemble
  split
  · simp [Py65.Proofs.ReprGenEq.disFlow]
  · simp [Py65.Proofs.ReprGenEq.disFlow]
  · simp [Py65.Proofs.ReprGenEq.disFlow]
  · rename_i start end_ _
    show Py65.Proofs.ReprGenEq.walkFlow _ (if decide (start > end_) = true ∨ start ≤ end_ then ([], Show.WalkEnd.raised Exc.Other)
      else ([], Show.WalkEnd.done)) ≠ .nofuel
    split <;> simp [Py65.Proofs.ReprGenEq.walkFlow]

/-- `InputOK` is satisfiable: every `assemble` run of `exQ2` ends. -/
theorem inputOK_exQ2 : InputOK exQ2 := by
  intro arg c
  unfold asmC
  rw [do_assemble_eq]
  unfold doAssemble
  have hh : ∀ args st e σ, asmHandlers args st e σ ≠ .nofuel := by
    intro args st e σ; cases e <;> simp [asmHandlers]
  split
  · split
    · exact hh _ _ _ _
    · split
      · exact hh _ _ _ _
      · unfold disA
        generalize hσ : coreOfAsm c _ = c'
        have hd := disC_exQ2 ("$".toList ++ pyFmtX (memDev c.dev).addrFmtW ‹Int›) c'
        cases hr : disC exQ2.base ("$".toList ++ pyFmtX (memDev c.dev).addrFmtW ‹Int›) c' with
        | nofuel => exact absurd hr hd
        | ok v s => simp [liftShowA, catchAsm]
        | raise e s => simp only [liftShowA, catchAsm]; exact hh _ _ _ _
  · unfold interactiveAssemble
    have hl : ∀ start, iaLoop (asmA exQ2 c) (iatA exQ2 c) (fmtdisA exQ2 c) exQ2.base.G.reply (memDev c.dev) exQ2.fuelAsm start
        (asmStOf exQ2.base.G exQ2.I c arg) =
        .ok start (write { asmStOf exQ2.base.G exQ2.I c arg with inp := [], out := [prompt (memDev c.dev) start, []] } "\n".toList) := by
      intro start
      rfl
    split
    · rw [hl]; simp
    · split
      · rw [hl]; simp
      · simp
      · simp

/-- ... so `UntModels` holds of the instance `exQ2.full` (all three hypotheses of `unt_models_generated` hold). -/
example : UntModels exQ2.full :=
  unt_models_generated exQ2 (fun _ => rfl) (fun _ _ => Or.inl ⟨_, rfl⟩) inputOK_exQ2

end Py65.Props.C20i
