/-
C17g -- C17's theorems restated for the GENERATED run control and breakpoint commands.

`Py65.Gen.MonRunGen._run / do_goto / do_return / do_step / do_add_breakpoint /
do_delete_breakpoint / do_show_breakpoints` are regenerated from `/repo/py65/monitor.py` by
`harness/py2lean_mon.py` on every run of the C17 check (the two `while True:` loops with `break`,
`set(self._breakpoints)` with its `None` entries, `self._breakpoints.index(pc)`, the stop-code
lists `[0x60, 0x40]` / `[0x00]`, append / `None` tombstones / the range check);
`Py65/Proofs/MonRunGenEq.lean` proves each equal to the hand model `Py65.Model.MonRun`.
Below, the theorems of `Py65.Props.C17` with the generated methods in place of the model's
(reading guide in C17.lean).

`σ : RunSt` is what these methods can touch: the device `σ.mpu : St`, the list
`σ.breakpoints`, the lines printed.  `step` is ANY function (in particular the generated device
steps), `dis` whatever `do_disassemble` prints (it only reads), `P` the monitor's address parser.
A generated method ends as `.ok () σ'` (returned), `.raise e σ'` (an exception left it; `onecmd`
catches it and goes on with `σ'`) or `.nofuel` (the Python loop is unbounded; `fuel` bounds the
generated one, one unit per `mpu.step()`).
What remains modelled: the device step (`step`; the generated CPU model elsewhere), `shlex.split`,
`int()`, the address parser (C15), `%`-conversions, list `append` / `index` / `in`.
-/
import Py65.Props.C17
import Py65.Proofs.MonRunGenEq

namespace Py65.Props.C17g
open Py65 Py65.Model.PyStr Py65.Model.AddrParser Py65.Model.MonMem Py65.Model.MonRun Py65.Model.MonGenRt
open Py65.Gen Py65.Proofs.MonRunGenEq

/-- `C17.run_is_iterate` for the generated `_run`: if it returns, then for some `1 ≤ n ≤ fuel` the device is
`step^[n]` of where it started and the stop condition holds there for the first time, as there; the breakpoint
list is untouched; "Breakpoint k reached." is printed iff the stop was not a stop code, with `k` the first
position of PC in the list; and `_run` never raises. -/
theorem run_is_iterate (step : St → St) (dis : Str → St → List Str) (d : Dev) (P : Parser) (fuel : Nat)
    (codes : List Int) (σ : RunSt) :
    (∀ e σ', MonRunGen._run step dis d P fuel codes σ ≠ .raise e σ') ∧
    ∀ σ', MonRunGen._run step dis d P fuel codes σ = .ok () σ' →
      ∃ n, 1 ≤ n ∧ n ≤ fuel ∧ σ'.mpu = step^[n] σ.mpu ∧ σ'.breakpoints = σ.breakpoints ∧
        (atStopcode codes σ'.mpu = true ∨ atBreakpoint σ.breakpoints σ'.mpu = true) ∧
        (∀ m, 0 < m → m < n →
          atStopcode codes (step^[m] σ.mpu) = false ∧ atBreakpoint σ.breakpoints (step^[m] σ.mpu) = false) ∧
        σ'.out = σ.out ++
          (if atStopcode codes σ'.mpu then []
           else ["Breakpoint ".toList ++ pyFmtD (indexOf σ.breakpoints σ'.mpu.pc : Nat) ++ " reached.".toList]) := by
  rw [run_eq]
  cases hr : run step codes σ.breakpoints fuel σ.mpu with
  | none => exact ⟨fun e σ' h => by simp [runFlow] at h, fun σ' h => by simp [runFlow] at h⟩
  | some r =>
    refine ⟨fun e σ' h => by simp [runFlow] at h, fun σ' h => ?_⟩
    obtain ⟨h1, h2, h3, h4, h5, h6⟩ := C17.run_is_iterate step codes σ.breakpoints fuel σ.mpu r hr
    simp only [runFlow, Flow.ok.injEq, true_and] at h
    subst h
    refine ⟨r.steps, h1, h2, h3, rfl, h4, h5, ?_⟩
    simp only [h6]
    cases atStopcode codes r.st <;> simp [hitLines]

/-- non-vacuity: counting device over a memory holding BRK (0) only at address 5; breakpoints
`[None, $3]`: the generated `_run([0])` from PC = 1 stops at PC = 3 and prints one line; with both
slots deleted it runs on to the BRK at 5 and prints nothing. -/
example :
    let step : St → St := fun s => { s with pc := s.pc + 1, cycles := s.cycles + 2 }
    let s0 : St := { (default : St) with pc := 1, mem := fun k => if k = 5 then 0 else 0xea }
    let d : Dev := dev8
    let P : Parser := { width := 16, radix := 16, labels := [] }
    let obs := fun (r : Flow RunSt Unit) =>
      match r with
      | .ok _ s => some (s.mpu.pc, s.mpu.cycles, s.out.length)
      | _ => none
    obs (MonRunGen._run step (fun _ _ => []) d P 20 [0] { mpu := s0, breakpoints := [none, some 3], out := [] }) =
      some (3, 4, 1) ∧
    obs (MonRunGen._run step (fun _ _ => []) d P 20 [0] { mpu := s0, breakpoints := [none, none], out := [] }) =
      some (5, 8, 0) := by
  decide +kernel

/-- `run_complete` for the generated `_run`: if after `n ≥ 1` steps the stop condition holds for
the first time, the generated `_run` returns exactly there, for every fuel `≥ n`. -/
theorem run_complete (step : St → St) (dis : Str → St → List Str) (d : Dev) (P : Parser) (fuel : Nat)
    (codes : List Int) (σ : RunSt) (n : Nat) (h1 : 1 ≤ n) (h2 : n ≤ fuel)
    (hstop : stopBp codes σ.breakpoints (step^[n] σ.mpu) = true)
    (hfirst : ∀ m, 0 < m → m < n → stopBp codes σ.breakpoints (step^[m] σ.mpu) = false) :
    ∃ σ', MonRunGen._run step dis d P fuel codes σ = .ok () σ' ∧ σ'.mpu = step^[n] σ.mpu ∧
      σ'.breakpoints = σ.breakpoints := by
  obtain ⟨r, hr, _, hst⟩ := C17.run_complete step codes σ.breakpoints fuel σ.mpu n h1 h2 hstop hfirst
  rw [run_eq, hr]
  exact ⟨_, rfl, hst, rfl⟩

example : stopBp [0] [] ((fun s : St => { s with pc := s.pc + 1 })^[1] (default : St)) = true := by decide

/-- `commands_are_runs` for the generated commands: `goto <a>` (an argument the address parser reads
as `a`) is `_run([BRK])` from the same state with PC set to `a`; `return` is `_run([RTS, RTI])`;
`step` is exactly one `mpu.step()` followed by the (read-only) disassembly line of the new PC; an
empty `goto` prints the usage text and a refused address raises the parser's exception -- both leave
device and breakpoints untouched. -/
theorem commands_are_runs (step : St → St) (dis : Str → St → List Str) (d : Dev) (P : Parser) (fuel : Nat)
    (args : Str) (σ : RunSt) :
    (∀ a, args ≠ [] → numberL P args = .ok a →
      MonRunGen.do_goto step dis d P fuel args σ =
        MonRunGen._run step dis d P fuel [0x00]
          { mpu := { σ.mpu with pc := a }, breakpoints := σ.breakpoints, out := σ.out }) ∧
    (args = [] → ∃ σ', MonRunGen.do_goto step dis d P fuel args σ = .ok () σ' ∧ σ'.mpu = σ.mpu ∧
      σ'.breakpoints = σ.breakpoints) ∧
    (args ≠ [] → (∀ a, numberL P args ≠ .ok a) →
      ∃ e, MonRunGen.do_goto step dis d P fuel args σ = .raise e σ) ∧
    MonRunGen.do_return step dis d P fuel args σ = MonRunGen._run step dis d P fuel [0x60, 0x40] σ ∧
    (∃ σ', MonRunGen.do_step step dis d P args σ = .ok () σ' ∧ σ'.mpu = step^[1] σ.mpu ∧
      σ'.breakpoints = σ.breakpoints ∧
      σ'.out = σ.out ++ dis ("$".toList ++ fmtHexInt d.addrFmtW (step σ.mpu).pc) (step σ.mpu)) := by
  refine ⟨?_, ?_, ?_, ?_, ?_⟩
  · intro a hne hn
    rw [do_goto_eq, run_eq]
    simp only [hne, if_false, hn, goto]
    rfl
  · intro he
    rw [do_goto_eq]
    simp only [he, if_true]
    exact ⟨_, rfl, rfl, rfl⟩
  · intro hne hno
    rw [do_goto_eq]
    simp only [hne, if_false]
    cases hn : numberL P args with
    | ok a => exact absurd hn (hno a)
    | key | overflow | other => exact ⟨_, rfl⟩
  · rw [do_return_eq, run_eq]; rfl
  · rw [do_step_eq]
    exact ⟨_, rfl, rfl, rfl, rfl⟩

/-- non-vacuity: `goto 1` on the counting device with breakpoint 1 at $3 (number 0 deleted). -/
example :
    let step : St → St := fun s => { s with pc := s.pc + 1 }
    let s0 : St := { (default : St) with mem := fun k => if k = 5 then 0 else 0xea }
    let P : Parser := { width := 16, radix := 16, labels := [] }
    (match MonRunGen.do_goto step (fun _ _ => []) dev8 P 20 "1".toList
        { mpu := s0, breakpoints := [none, some 3], out := [] } with
     | .ok _ s => some (s.mpu.pc, s.out.length)
     | _ => none) = some (3, 1) := by
  decide +kernel

/-- `run_variants_agree` for the generated `_run`: with no ACTIVE breakpoint (the list is empty or
holds only deleted slots) the two loops of `_run` compute the same: the run from a state with the
list `bps` ends exactly as the run with the empty list, apart from the list itself. -/
theorem run_variants_agree (step : St → St) (dis : Str → St → List Str) (d : Dev) (P : Parser) (fuel : Nat)
    (codes : List Int) (σ : RunSt) (hno : ∀ b ∈ σ.breakpoints, b = none) :
    (∀ σ', MonRunGen._run step dis d P fuel codes σ = .ok () σ' →
      MonRunGen._run step dis d P fuel codes { mpu := σ.mpu, breakpoints := [], out := σ.out } =
        .ok () { mpu := σ'.mpu, breakpoints := [], out := σ'.out } ∧ σ'.out = σ.out) ∧
    (MonRunGen._run step dis d P fuel codes σ = .nofuel ↔
      MonRunGen._run step dis d P fuel codes { mpu := σ.mpu, breakpoints := [], out := σ.out } = .nofuel) := by
  rw [run_eq, run_eq]
  simp only
  rw [run_inactive step codes hno]
  cases hr : run step codes [] fuel σ.mpu with
  | none => simp [runFlow]
  | some r =>
    refine ⟨fun σ' h => ?_, by simp [runFlow]⟩
    simp only [runFlow, Flow.ok.injEq, true_and] at h
    subst h
    simp [runFlow, run_nil_hit hr, hitLines]

example : ∀ b ∈ ([none, none] : List (Option Int)), b = none := by decide

/-- `C17.bp_numbers_fresh` for the generated commands: run ANY history of `add_breakpoint` /
`delete_breakpoint` command lines -- each one token spelling an address / a decimal number; adds of
present addresses, deletes of deleted, negative, out-of-range numbers included -- through the
GENERATED methods from the empty list (an exception is absorbed by `onecmd`: the session goes on
with the state at the raise).  Then the final list and the printed lines are those of the commands
`h` the lines spell (`runBps`), the device is untouched, and the `(number, address)` pairs of the
"Breakpoint n added" messages, in order, satisfy the three clauses of `C17.bp_numbers_fresh`. -/
theorem bp_numbers_fresh (step : St → St) (dis : Str → St → List Str) (d : Dev) (P : Parser)
    (lines : List BpLine) (h : List BpCmd) (hsp : List.Forall₂ (Spells P) lines h) (σ : RunSt)
    (h0 : σ.breakpoints = []) :
    let σ' := genBpHistory step dis d P σ lines
    let r := runBps [] h
    let adds := addsOf r.1
    σ'.mpu = σ.mpu ∧ σ'.breakpoints = r.2 ∧
    σ'.out = σ.out ++ r.1.flatMap (fun o => (bpText o).toList) ∧
    (∀ j (hj : j < adds.length), (adds[j]).1 = j) ∧
    σ'.breakpoints.length = adds.length ∧
    (∀ j (hj : j < adds.length), σ'.breakpoints[j]? = some (some (adds[j]).2) ∨ σ'.breakpoints[j]? = some none) ∧
    ActiveNodup σ'.breakpoints ∧
    (∀ (i : Nat) (a : Int), σ'.breakpoints[i]? = some (some a) → indexOf σ'.breakpoints a = i ∧
      ∃ hi : i < adds.length, adds[i] = (i, a)) := by
  intro σ' r adds
  have heq := genBpHistory_eq step dis d P lines h σ hsp
  rw [h0] at heq
  have hb : σ'.breakpoints = r.2 := by simp only [σ', heq, r]
  obtain ⟨c1, c2, c3, c4, c5⟩ := C17.bp_numbers_fresh h
  refine ⟨by simp only [σ', heq], hb, by simp only [σ', heq, r], c1, ?_, ?_, ?_, ?_⟩
  · rw [hb]; exact c2
  · rw [hb]; exact c3
  · rw [hb]; exact c4
  · rw [hb]; exact c5

/-- non-vacuity (the probe of C17, as command lines through the generated methods): add $10, add
$20, add $10 again (refused), delete 0, add $10 (gets the NEW number 2), delete 3 (`IndexError`),
delete 4 and delete -1 (`TypeError`), delete 0 again: the list ends as `[None, $20, $10]`; seven
commands printed a line. -/
example :
    let P : Parser := { width := 16, radix := 16, labels := [] }
    let σ' := genBpHistory id (fun _ _ => []) dev8 P { mpu := default, breakpoints := [], out := [] }
      [.add "10".toList, .add "$20".toList, .add "0010".toList, .del "0".toList, .add "10".toList,
       .del "3".toList, .del "4".toList, .del "-1".toList, .del "0".toList]
    σ'.breakpoints = [none, some 0x20, some 0x10] ∧ σ'.out.length = 6 := by
  decide +kernel

/-- `delete_bad_number_unchanged` for the generated `do_delete_breakpoint`: a number `< 0` or
`≥ len` (the off-by-one included) makes the command raise -- `TypeError` or `IndexError` -- and the
state at the raise is the state before: list, device and output untouched. -/
theorem delete_bad_number_unchanged (step : St → St) (dis : Str → St → List Str) (d : Dev) (P : Parser)
    (args tok : Str) (k : Int) (σ : RunSt)
    (h1 : Py65.Model.MonCmd.shlexSplit args = some [tok]) (h2 : pyIntL tok 10 = some k)
    (h : k < 0 ∨ k ≥ σ.breakpoints.length) :
    MonRunGen.do_delete_breakpoint step dis d P args σ = .raise .TypeError σ ∨
    MonRunGen.do_delete_breakpoint step dis d P args σ = .raise .IndexError σ := by
  obtain ⟨hl, hk⟩ := C17.delete_bad_number_unchanged σ.breakpoints k h
  rw [do_delete_breakpoint_eq, h1]
  simp only [h2]
  have hpair : delBp σ.breakpoints k = ((delBp σ.breakpoints k).1, σ.breakpoints) :=
    Prod.ext rfl hl
  rw [hpair]
  rcases hk with hk | hk
  · left; simp only [bpFlow, hk, bpText, bpExc]
  · right; simp only [bpFlow, hk, bpText, bpExc]

example : Py65.Model.MonCmd.shlexSplit "7".toList = some ["7".toList] ∧ pyIntL "7".toList 10 = some 7 := by
  decide +kernel

/-- `bp_deleted_inert` for the generated code: `delete_breakpoint k` on a slot holding `a` returns,
prints "Breakpoint k removed" and leaves the list with slot `k` set to `None`; afterwards `a` is
active nowhere, and whenever a generated `_run` from a state with that list ends with PC = `a`, it
ended because the cell at PC is a stop code, and nothing was printed. -/
theorem bp_deleted_inert (step : St → St) (dis : Str → St → List Str) (d : Dev) (P : Parser)
    (args tok : Str) (k : Nat) (a : Int) (σ : RunSt)
    (h1 : Py65.Model.MonCmd.shlexSplit args = some [tok]) (h2 : pyIntL tok 10 = some (k : Int))
    (hn : ActiveNodup σ.breakpoints) (hk : σ.breakpoints[k]? = some (some a)) :
    ∃ σ1, MonRunGen.do_delete_breakpoint step dis d P args σ = .ok () σ1 ∧
      σ1.mpu = σ.mpu ∧ σ1.breakpoints = σ.breakpoints.set k none ∧
      σ1.out = σ.out ++ ["Breakpoint ".toList ++ pyFmtD (k : Int) ++ " removed".toList] ∧
      (∀ i : Nat, σ1.breakpoints[i]? ≠ some (some a)) ∧
      ∀ fuel codes (σ2 σ3 : RunSt), σ2.breakpoints = σ1.breakpoints →
        MonRunGen._run step dis d P fuel codes σ2 = .ok () σ3 → σ3.mpu.pc = a →
        atStopcode codes σ3.mpu = true ∧ σ3.out = σ2.out := by
  obtain ⟨d1, d2, d3, _, _, _, d7⟩ := C17.bp_deleted_inert step [] σ.breakpoints k a hn hk
  have hdel : delBp σ.breakpoints k = (.removed k, σ.breakpoints.set k none) := by
    rw [Prod.ext_iff]; exact ⟨d1, d2⟩
  refine ⟨{ mpu := σ.mpu, breakpoints := σ.breakpoints.set k none,
            out := σ.out ++ ["Breakpoint ".toList ++ pyFmtD (k : Int) ++ " removed".toList] }, ?_, rfl, rfl, rfl, ?_, ?_⟩
  · rw [do_delete_breakpoint_eq, h1]
    simp only [h2, hdel, bpFlow, bpText]
  · intro i; simpa [d2] using d3 i
  · intro fuel codes σ2 σ3 hb hrun hpc
    rw [run_eq] at hrun
    cases hr : run step codes σ2.breakpoints fuel σ2.mpu with
    | none => simp [hr, runFlow] at hrun
    | some r =>
      simp only [hr, runFlow, Flow.ok.injEq, true_and] at hrun
      subst hrun
      have hb' : σ2.breakpoints = (delBp σ.breakpoints k).2 := by rw [hb, hdel]
      rw [hb'] at hr
      obtain ⟨e1, e2⟩ := (C17.bp_deleted_inert step codes σ.breakpoints k a hn hk).2.2.2.2.2.2 fuel σ2.mpu r hr hpc
      exact ⟨e1, by simp [e2, hitLines]⟩

/-- non-vacuity: breakpoint 0 at $3 deleted from `[$3, $7]` by the generated command; counting
device, BRK only at 5: `goto 1` then passes $3 and stops at the BRK. -/
example :
    let step : St → St := fun s => { s with pc := s.pc + 1 }
    let s0 : St := { (default : St) with mem := fun k => if k = 5 then 0 else 0xea }
    let P : Parser := { width := 16, radix := 16, labels := [] }
    let σ1 := stateAfter { mpu := s0, breakpoints := [], out := [] }
      (MonRunGen.do_delete_breakpoint step (fun _ _ => []) dev8 P "0".toList
        { mpu := s0, breakpoints := [some 3, some 7], out := [] })
    σ1.breakpoints = [none, some 7] ∧
    (match MonRunGen.do_goto step (fun _ _ => []) dev8 P 20 "1".toList σ1 with
     | .ok _ s => some (s.mpu.pc, s.out.length)
     | _ => none) = some (5, 1) := by
  decide +kernel

/-- `do_show_breakpoints` for the generated code: exactly the slots that are not `None`, with their
numbers, in order -- "Breakpoint i: $AAAA" plus the first label bound to the address, if any. -/
theorem show_breakpoints_lists_active (step : St → St) (dis : Str → St → List Str) (d : Dev) (P : Parser)
    (args : Str) (σ : RunSt) :
    MonRunGen.do_show_breakpoints step dis d P args σ =
      .ok () { mpu := σ.mpu, breakpoints := σ.breakpoints,
               out := σ.out ++ (showBps σ.breakpoints).map (showLine P) } ∧
    (∀ i a, (i, a) ∈ showBps σ.breakpoints ↔ σ.breakpoints[i]? = some (some a)) := by
  refine ⟨do_show_breakpoints_eq step dis d P args σ, ?_⟩
  intro i a
  simp only [showBps, List.mem_filterMap, List.mem_zipIdx_iff_getElem?, Prod.exists]
  constructor
  · rintro ⟨x, j, hx, hm⟩
    cases x with
    | none => simp at hm
    | some v =>
      simp only [Option.map_some, Option.some.injEq, Prod.mk.injEq] at hm
      obtain ⟨rfl, rfl⟩ := hm
      simpa using hx
  · intro h
    exact ⟨some a, i, by simpa using h, rfl⟩

example : showBps [none, some 0x20, some 0x10] = [(1, 0x20), (2, 0x10)] := by decide

end Py65.Props.C17g
