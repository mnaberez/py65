/-
C16 -- "Monitor fill/load/save/mem touch exactly the addressed cells on every device".

The theorems (vocabulary: `Py65/Spec/MonMem.lean`) are about the hand-written model `Py65/Model/MonMem.lean` of
`Monitor._fill / do_fill / do_load / do_save / do_mem`, which works on the `ObservableMemory` model
of C10 and the `AddressParser` model of C15; the model is tied to the real monitor by the
correspondence of `harness/props/c16.py` (driver line `mon …`).

Reading guide.
* `d : Dev` is the device as the monitor sees it (`dev8` = 6502/65C02: 16-bit addresses, 8-bit
  bytes; `dev16` = 65Org16: 32-bit addresses, 16-bit bytes); `P` the monitor's address parser
  (`hP : P.maxaddr = d.addrMask` -- it is built with the device's address width -- and `P.WF`).
* Commands take TOKENS (`Str`); "the token spells the number" is the hypothesis
  `numberL P tok = .ok n` / `rangeL P tok = .ok a b` (which spellings do is C15).
* `m : OM` is the monitor's memory with ANY content; `reply` is what its callbacks answer.
  `WQuiet reply m`: write subscribers answer None (putc does).  `phys mask a = a mod (mask+1)` is
  the physical cell of address `a`: the identity on the 8-bit devices (`flat_memory`), aliasing
  modulo $40000 on the 65Org16, whose ObservableMemory holds 2^18 cells.
  The theorems hold for `monReply` / `monMem` -- the object `_install_mpu_observers` builds --
  by `monMem_WF`, `monMem_wquiet`, `monMem_noReadSubs` (Proofs/MonLemmas).
* "window" hypothesis `E - start ≤ m.physMask`: the range is not longer than the physical memory
  (otherwise it overwrites itself; automatically true when `physMask = addrMask`).
* History: before the repair 021c418 `do_save` read ONE SLICE, which ObservableMemory clips at the
  physical size, so on the 65Org16 `save` of a range at or above $40000 wrote too little
  (findings/C16-save-slice-prefix.json); `save_exact` / `save_load_roundtrip` now hold without a
  physical-size restriction on where the range lies.
-/
import Py65.Proofs.MonLemmas

namespace Py65.Props.C16
open Py65.Model.PyStr Py65.Model.AddrParser Py65.Model.ObsMem Py65.Model.MonMem
open Py65.Spec.ObsMem Py65.Spec.MonMem Py65.Proofs.Num

/-- On a device whose memory object holds the whole address space (6502, 65C02: `physMask =
addrMask = $FFFF`) every in-range address is its own physical cell and no range is longer than
the memory. -/
theorem flat_memory (d : Dev) (m : OM) (h : m.physMask = d.addrMask) :
    (∀ a, 0 ≤ a → a ≤ d.addrMask → phys m.physMask a = a) ∧
    (∀ s e : Int, 0 ≤ s → e ≤ d.addrMask → e - s ≤ m.physMask) := by
  refine ⟨fun a h0 h1 => phys_of_inRange h0 (by rw [h]; exact h1), fun s e h0 h1 => by rw [h]; omega⟩

example : (monMem dev8.AW fun _ => 0).physMask = dev8.addrMask := by decide

/-- `fill_exact_aliasing`: for every range token spelling `start ≤ stop` inside the address space and
every non-empty list of data tokens spelling values of at most a byte -- with NO hypothesis on the
length of the range, i.e. also for ranges of the 65Org16 longer than its 2^18 physical cells, whose
addresses alias onto each other -- `fill` reports "Wrote +(E-start+1) bytes from $start to $E" where
`E = stop`, or -- for a one-address range -- `E = start + len data - 1` clipped at the top of the
address space; a cell hit by no address of the range is unchanged, and a cell hit by several ends up
with the item of the LAST address `start + i` that hits it (the loop runs upwards): `data[i mod n]`;
nothing else of the memory object changed. -/
theorem fill_exact_aliasing (reply : Reply) (d : Dev) (P : Parser) (m : OM) (r : Str) (pieces : List Str)
    (start stop : Int) (data : List Int)
    (hwf : P.WF) (hP : P.maxaddr = d.addrMask) (hw : WF m) (hq : WQuiet reply m)
    (hr : rangeL P r = .ok start stop) (hp : PiecesOk d P pieces data) (hne : data ≠ []) :
    let E := fillStop d start stop data.length
    let res := doFill reply d P (r :: pieces) m
    res.1 = .wrote (E - start + 1) start E ∧
    (∀ (k : Int) (i : Nat), start + i ≤ E → phys m.physMask (start + i) = k →
      (∀ i' : Nat, i < i' → start + i' ≤ E → phys m.physMask (start + i') ≠ k) →
      res.2.subject k = data.getD (i % data.length) 0) ∧
    (∀ k, (∀ i : Nat, start + i ≤ E → phys m.physMask (start + i) ≠ k) → res.2.subject k = m.subject k) ∧
    SameShape m res.2 := by
  intro E res
  obtain ⟨hab, h0, hb⟩ := rangeL_ordered hwf hr
  rw [hP] at hb
  obtain ⟨_, _, f3, f4, f5, f6⟩ := fill_general reply d start stop data m hw hq h0 hab hb hne
  rw [show res = _ from doFill_eq_fill reply d P m r pieces start stop data hr hp hne]
  refine ⟨congrArg Out.ofFill f3, fun k i hi hk hlast => ?_, f6, f4⟩
  rw [f5 k i hi hk hlast,
    land_getD_byteMask d (piecesOk_bounds hwf hp) (Nat.mod_lt _ (List.length_pos_of_ne_nil hne))]

/-- `fill_exact`: the same under the window hypothesis, where every address is the last to hit its
cell: afterwards the cell of `start + i` holds `data[i mod n]` for EVERY `0 ≤ i ≤ E - start` (any
length: induction on the loop), every other cell is unchanged, and nothing else of the memory object
changed. -/
theorem fill_exact (reply : Reply) (d : Dev) (P : Parser) (m : OM) (r : Str) (pieces : List Str)
    (start stop : Int) (data : List Int)
    (hwf : P.WF) (hP : P.maxaddr = d.addrMask) (hw : WF m) (hq : WQuiet reply m)
    (hr : rangeL P r = .ok start stop) (hp : PiecesOk d P pieces data) (hne : data ≠ [])
    (hwin : fillStop d start stop data.length - start ≤ m.physMask) :
    let E := fillStop d start stop data.length
    let res := doFill reply d P (r :: pieces) m
    start ≤ E ∧ E ≤ d.addrMask ∧
    res.1 = .wrote (E - start + 1) start E ∧
    (∀ i : Nat, start + i ≤ E →
      res.2.subject (phys m.physMask (start + i)) = data.getD (i % data.length) 0) ∧
    (∀ k, (∀ i : Nat, start + i ≤ E → phys m.physMask (start + i) ≠ k) → res.2.subject k = m.subject k) ∧
    SameShape m res.2 := by
  intro E res
  obtain ⟨hab, h0, hb⟩ := rangeL_ordered hwf hr
  rw [hP] at hb
  obtain ⟨a1, a2, a3, a4⟩ := fill_exact_aliasing reply d P m r pieces start stop data hwf hP hw hq hr hp hne
  exact ⟨le_fillStop d start stop _ hab hb (List.length_pos_of_ne_nil hne), fillStop_le d start stop _ fun _ => hb, a1,
    fun i hi => a2 _ i hi rfl fun i' hlt hi' => phys_ne_of_window hw (by omega) (by omega), a3, a4⟩

/-- non-vacuity (on the monitor's own memory object):
`fill 10:13 1 2` writes 1 2 1 2; `fill 20 1 2 3` (one address) extends to three cells;
`fill fffe 1 2 3 4` is clipped at the top: two cells. -/
example :
    let P : Parser := { width := 16, radix := 16, labels := [] }
    let m := monMem 16 fun _ => 0
    let r1 := doFill monReply dev8 P ["10:13".toList, "1".toList, "2".toList] m
    let r2 := doFill monReply dev8 P ["20".toList, "1".toList, "2".toList, "3".toList] m
    let r3 := doFill monReply dev8 P ["fffe".toList, "1".toList, "2".toList, "3".toList, "4".toList] m
    (r1.1, [0xf, 0x10, 0x11, 0x12, 0x13, 0x14].map r1.2.subject) = (.wrote 4 0x10 0x13, [0, 1, 2, 1, 2, 0]) ∧
    (r2.1, [0x1f, 0x20, 0x21, 0x22, 0x23].map r2.2.subject) = (.wrote 3 0x20 0x22, [0, 1, 2, 3, 0]) ∧
    (r3.1, [0xfffd, 0xfffe, 0xffff, 0, 1].map r3.2.subject) = (.wrote 2 0xfffe 0xffff, [0, 1, 2, 0, 0]) := by
  decide +kernel

/-- `fill_rejects`: whenever `fill` does not report "Wrote …" the memory object is exactly as it
was; an address too wide for the device (`OverflowError` of the parser) and a value wider than a
byte are both reported as overflow -- before the first cell is written. -/
theorem fill_rejects (reply : Reply) (d : Dev) (P : Parser) (m : OM) :
    (∀ split, (∀ c s e, (doFill reply d P split m).1 ≠ .wrote c s e) → (doFill reply d P split m).2 = m) ∧
    (∀ r pieces, pieces ≠ [] → rangeL P r = .overflow → doFill reply d P (r :: pieces) m = (.overflow, m)) ∧
    (∀ r a b pre pdata p post v, rangeL P r = .ok a b → PiecesOk d P pre pdata → numberL P p = .ok v →
      v > d.byteMask → doFill reply d P (r :: (pre ++ p :: post)) m = (.overflow, m)) := by
  refine ⟨fun split => doFill_not_wrote reply d P split m, ?_, ?_⟩
  · intro r pieces hne hr
    obtain ⟨p, ps, rfl⟩ := List.exists_cons_of_ne_nil hne
    simp only [doFill, hr]
  · intro r a b pre pdata p post v hr hpre hp hv
    have := parseFiller_wide d P pre pdata p post v [] hpre hp hv
    cases hl : pre ++ p :: post with
    | nil => simp at hl
    | cons q qs =>
      rw [hl] at this
      simp only [doFill, hr, this]

/-- non-vacuity: on the 6502 `fill 10000:10003 aa` (address too wide), `fill 0:3 100` (value too
wide) are refused, memory untouched; on the 65Org16 both are fine widths. -/
example :
    let P8 : Parser := { width := 16, radix := 16, labels := [] }
    let P16 : Parser := { width := 32, radix := 16, labels := [] }
    (doFill monReply dev8 P8 ["10000:10003".toList, "aa".toList] (monMem 16 fun _ => 7)).1 = .overflow ∧
    (doFill monReply dev8 P8 ["0:3".toList, "100".toList] (monMem 16 fun _ => 7)).1 = .overflow ∧
    (doFill monReply dev16 P16 ["10000:10003".toList, "aa".toList] (monMem 32 fun _ => 7)).1 = .wrote 4 0x10000 0x10003 ∧
    (doFill monReply dev16 P16 ["0:3".toList, "100".toList] (monMem 32 fun _ => 7)).1 = .wrote 4 0 3 := by
  decide +kernel

/-- `load_data_spec`: what `load` stores.  8-bit devices: the octets of the file; 65Org16:
big-endian pairs `256 * bytes[2i] + bytes[2i+1]`, `len // 2` of them (an odd trailing octet is
dropped); and where: no address = PC, `top` = so that the LAST word lands on the top of the
address space (`2^AW - number of words`), otherwise the number the token spells. -/
theorem load_data_spec :
    (∀ bs, loadData dev8 bs = bs) ∧
    (∀ bs, (loadData dev16 bs).length = bs.length / 2 ∧
      ∀ i, i < bs.length / 2 → (loadData dev16 bs).getD i 0 = bs.getD (2 * i) 0 * 256 + bs.getD (2 * i + 1) 0) ∧
    (∀ d P file pc, loadStart d P file [] pc = .inr pc) ∧
    (∀ d P file pc, d = dev8 ∨ d = dev16 →
      loadStart d P file ["top".toList] pc = .inr (d.addrMask + 1 - (loadData d file).length)) ∧
    (∀ d P file pc t a, t ≠ "top".toList → numberL P t = .ok a → loadStart d P file [t] pc = .inr a) := by
  refine ⟨fun bs => by simp [loadData, dev8], fun bs => ?_, fun _ _ _ _ => rfl, ?_, ?_⟩
  · have : loadData dev16 bs = pairs bs := by simp [loadData, dev16]
    rw [this]
    exact ⟨pairs_length bs, pairs_getD bs⟩
  · intro d P file pc hd
    rcases hd with rfl | rfl
    · simp only [loadStart, top_toList, if_true, loadData, dev8]
      norm_num
      omega
    · have : loadData dev16 file = pairs file := by simp [loadData, dev16]
      simp only [loadStart, top_toList, if_true, this, pairs_length]
      simp only [dev16]
      norm_num
      omega
  · intro d P file pc t a ht ha
    rw [loadStart_token d P file pc ht, ha]

/-- `load_exact`: `load` from start address `a` (whichever way it was given, see
`load_data_spec`) stores word `i` of the file's data in the cell of `a + i` for every `i` up to the
end of the data or the top of the address space, whichever comes first, and changes no other cell.
An EMPTY file (or a single octet on the 65Org16) writes nothing and reports
"Wrote +0 bytes from $a to $(a-1)".  With `top` and at most `2^AW` words, `E` is the top. -/
theorem load_exact (reply : Reply) (d : Dev) (P : Parser) (m : OM) (file : List Int) (rest : List Str)
    (pc a : Int) (hw : WF m) (hq : WQuiet reply m)
    (hs : loadStart d P file rest pc = .inr a) (h0 : 0 ≤ a) (h1 : a ≤ d.addrMask)
    (hfile : ∀ v ∈ loadData d file, 0 ≤ v ∧ v ≤ d.byteMask)
    (hwin : fillStop d a a (loadData d file).length - a ≤ m.physMask) :
    let data := loadData d file
    let E := fillStop d a a data.length
    let res := doLoad reply d P file rest pc m
    E = min (a + data.length - 1) d.addrMask ∧
    res.1 = .wrote (E - a + 1) a E ∧
    (∀ i : Nat, a + i ≤ E → res.2.subject (phys m.physMask (a + i)) = data.getD i 0) ∧
    (∀ k, (∀ i : Nat, a + i ≤ E → phys m.physMask (a + i) ≠ k) → res.2.subject k = m.subject k) ∧
    SameShape m res.2 := by
  intro data E res
  obtain ⟨f1, f2, f3, f4, f5⟩ := fill_self_spec reply d a data m hw hq h0 h1 hfile hwin
  rw [show res = (Out.ofFill (fill reply d a a data m).1, (fill reply d a a data m).2) by
    simp only [res, doLoad, hs, data]]
  exact ⟨f1, congrArg Out.ofFill f2, f3, f4, f5⟩

/-- non-vacuity (probes): on the 65Org16 a 5-octet file at `top` gives the two words $0102 $0304 in
the last two cells of the 32-bit space (physical cells $3FFFE/$3FFFF) and drops the fifth octet;
an empty file writes nothing; on the 6502 a 40-octet file at $FFF0 is clipped to 16 cells. -/
example :
    let P16 : Parser := { width := 32, radix := 16, labels := [] }
    let P8 : Parser := { width := 16, radix := 16, labels := [] }
    let r1 := doLoad monReply dev16 P16 [1, 2, 3, 4, 5] ["top".toList] 0 (monMem 32 fun _ => 0)
    let r2 := doLoad monReply dev16 P16 [] ["10".toList] 0 (monMem 32 fun _ => 0)
    let r3 := doLoad monReply dev8 P8 ((List.range 40).map fun (i : Nat) => (i : Int)) ["fff0".toList] 0 (monMem 16 fun _ => 0)
    (r1.1, [0x3fffd, 0x3fffe, 0x3ffff, 0].map r1.2.subject) = (.wrote 2 0xfffffffe 0xffffffff, [0, 0x102, 0x304, 0]) ∧
    r2.1 = .wrote 0 0x10 0xf ∧
    (r3.1, [0xffef, 0xfff0, 0xffff, 0].map r3.2.subject) = (.wrote 16 0xfff0 0xffff, [0, 0, 15, 0]) := by
  decide +kernel

/-- `load_rejects`: when the start address cannot be computed (too wide, unknown label, too many
arguments) the command ends with that report and the memory object is exactly as it was. -/
theorem load_rejects (reply : Reply) (d : Dev) (P : Parser) (m : OM) (file : List Int) (rest : List Str)
    (pc : Int) :
    (∀ e, loadStart d P file rest pc = .inl e → doLoad reply d P file rest pc m = (e, m)) ∧
    (∀ t, t ≠ "top".toList → numberL P t = .overflow → doLoad reply d P file [t] pc m = (.overflow, m)) := by
  refine ⟨fun e he => by simp only [doLoad, he], ?_⟩
  intro t ht ho
  simp only [doLoad, loadStart_token d P file pc ht, ho, Out.ofRes]

example :
    let P8 : Parser := { width := 16, radix := 16, labels := [] }
    doLoad monReply dev8 P8 [1, 2] ["10000".toList] 0 (monMem 16 fun _ => 7) = (.overflow, monMem 16 fun _ => 7) ∧
    (doLoad monReply dev8 P8 [1, 2] ["1".toList, "2".toList] 0 (monMem 16 fun _ => 7)).1 = .syntaxError := by
  constructor
  · exact (load_rejects monReply dev8 _ _ [1, 2] ["10000".toList] 0).2 _ (by decide) (by decide +kernel)
  · decide +kernel

/-- `mem_reads_cells`: where no read subscriber sits in the range (every range that avoids the getc
register) the values `mem` prints are the physical cells of `a … b`, and the memory object -- call
log included -- is unchanged. -/
theorem mem_reads_cells (reply : Reply) (m : OM) (a b : Int) (hw : WF m) (hn : NoReadSubs m a b) :
    (getMany reply (addrRange a b) m).1 = (addrRange a b).map (fun x => m.subject (phys m.physMask x)) ∧
    (getMany reply (addrRange a b) m).2 = m := by
  apply getMany_noSubs reply _ m hw
  intro x hx
  have := mem_addrRange hx
  exact hn x this.1 this.2

/-- `save_exact`: `save` of tokens spelling `a ≤ b` (any addresses of the device, also at and above
the physical size of the 65Org16, also ending at the top of the address space) writes exactly
the values a read of `a, a+1, …, b` returns, in order, each as `BW/8` octets most significant
first, and reports their number `b + 1 - a`; the cells themselves are untouched; where no read
subscriber sits in the range (every range without the getc register) those values are the
physical cells of the addresses and the memory object is unchanged altogether. -/
theorem save_exact (reply : Reply) (d : Dev) (P : Parser) (m : OM) (s e : Str) (a b : Int)
    (hs : numberL P s = .ok a) (he : numberL P e = .ok b) (hab : a ≤ b) :
    let rd := getMany reply (addrRange a b) m
    doSave reply d P [s, e] m = (.saved rd.1.length (rd.1.flatMap (octets d)), rd.2) ∧
    (rd.1.length : Int) = b + 1 - a ∧ rd.2.subject = m.subject ∧ SameShape m rd.2 ∧
    (WF m → NoReadSubs m a b →
      rd.1 = (addrRange a b).map (fun x => m.subject (phys m.physMask x)) ∧ rd.2 = m) ∧
    (∀ v, octets dev16 v = [v / 256 % 256, v % 256]) ∧ (∀ v, 0 ≤ v → v < 256 → octets dev8 v = [v]) := by
  intro rd
  have hrange : pyRange a (b + 1) 1 = addrRange a b := by
    rw [pyRange_one]; congr 1; omega
  refine ⟨?_, ?_, getMany_subject _ _ _, getMany_shape _ _ _, ?_, octets_dev16, octets_dev8⟩
  · simp only [doSave, hs, he, hrange]
    rfl
  · rw [getMany_length]
    exact addrRange_length a b (by omega)
  · exact mem_reads_cells reply m a b

/-- `save_load_roundtrip`: the file `save a b` wrote from memory `m`, loaded at `a` into ANY memory
`m2` of the same physical size (e.g. `m` after arbitrary clobbering), puts back exactly the saved
values into the cells of `a … b` and touches no other cell.
What it needs, precisely: the range is not longer than the physical memory (`b - a ≤ physMask`:
its addresses then hit pairwise different cells; always true on the 6502/65C02, on the 65Org16
it excludes only ranges of more than 2^18 cells, which alias onto themselves) and the saved
values are bytes of the device (`hvals`; true of cells).  No restriction on where the range lies:
at or above the physical size and ending at the top of the address space included. -/
theorem save_load_roundtrip (reply : Reply) (d : Dev) (P : Parser) (m m2 : OM) (s e t : Str) (a b pc : Int)
    (hd : d = dev8 ∨ d = dev16) (hwf : P.WF) (hP : P.maxaddr = d.addrMask)
    (hw : WF m) (hw2 : WF m2) (hq2 : WQuiet reply m2) (hpm : m2.physMask = m.physMask)
    (hs : numberL P s = .ok a) (he : numberL P e = .ok b) (ht : numberL P t = .ok a) (htop : t ≠ "top".toList)
    (hab : a ≤ b) (hwin : b - a ≤ m.physMask)
    (hvals : ∀ v ∈ (getMany reply (addrRange a b) m).1, 0 ≤ v ∧ v ≤ d.byteMask) :
    let vals := (getMany reply (addrRange a b) m).1
    ∃ file, (doSave reply d P [s, e] m).1 = .saved vals.length file ∧
      let res := doLoad reply d P file [t] pc m2
      res.1 = .wrote (b - a + 1) a b ∧
      (∀ i : Nat, a + i ≤ b → res.2.subject (phys m.physMask (a + i)) = vals.getD i 0) ∧
      (∀ k, (∀ i : Nat, a + i ≤ b → phys m.physMask (a + i) ≠ k) → res.2.subject k = m2.subject k) ∧
      (NoReadSubs m a b → ∀ i : Nat, a + i ≤ b →
        res.2.subject (phys m.physMask (a + i)) = m.subject (phys m.physMask (a + i))) := by
  intro vals
  obtain ⟨s1, s2, _, _, s5, _, _⟩ := save_exact reply d P m s e a b hs he hab
  refine ⟨vals.flatMap (octets d), by rw [s1], ?_⟩
  intro res
  have h0 : 0 ≤ a := (numberL_bounded hwf hs).1
  have hb2 : b ≤ d.addrMask := by rw [← hP]; exact (numberL_bounded hwf he).2
  have hdata : loadData d (vals.flatMap (octets d)) = vals := loadData_octets d hd vals hvals
  have hstart : loadStart d P (vals.flatMap (octets d)) [t] pc = .inr a :=
    load_data_spec.2.2.2.2 d P _ pc t a htop ht
  have hlen : (vals.length : Int) = b + 1 - a := s2
  have hstop : fillStop d a a vals.length = b := by
    simp only [fillStop, if_true]
    split_ifs <;> omega
  obtain ⟨l1, l2, l3, l4, _⟩ := load_exact reply d P m2 (vals.flatMap (octets d)) [t] pc a hw2 hq2 hstart h0
    (by omega) (by rw [hdata]; exact hvals) (by rw [hdata, hstop, hpm]; omega)
  rw [hdata, hstop, hpm] at l3 l4
  rw [hdata, hstop] at l2
  refine ⟨l2, l3, l4, ?_⟩
  intro hn i hi
  rw [l3 i hi]
  have hv : vals = (addrRange a b).map (fun x => m.subject (phys m.physMask x)) := (s5 hw hn).1
  have hi' : i < (b + 1 - a).toNat := by have := Int.natCast_nonneg i; omega
  rw [hv]
  simp only [addrRange, List.map_map]
  rw [List.getD_eq_getElem _ _ (by simpa using hi')]
  simp

/-- non-vacuity: save $10..$12 of a memory holding `k mod 251`, load the file into an all-zero
memory: the three cells come back, the neighbours stay 0.  And on the 65Org16 `save 3fffe 40001`
-- across the physical top -- writes all four cells (98, 99, then the aliases of cells 0 and 1),
`save 40000 40003` the cells 0..3: what `mem` prints for the same ranges. -/
example :
    let P8 : Parser := { width := 16, radix := 16, labels := [] }
    let P16 : Parser := { width := 32, radix := 16, labels := [] }
    let m := monMem 16 fun k => k % 251
    let sv := doSave monReply dev8 P8 ["10".toList, "12".toList] m
    let ld := doLoad monReply dev8 P8 [16, 17, 18] ["10".toList] 0 (monMem 16 fun _ => 0)
    sv.1 = .saved 3 [16, 17, 18] ∧ [0xf, 0x10, 0x11, 0x12, 0x13].map ld.2.subject = [0, 16, 17, 18, 0] ∧
    (doSave monReply dev16 P16 ["3fffe".toList, "40001".toList] (monMem 32 fun k => k % 251)).1 =
      .saved 4 [0, 98, 0, 99, 0, 0, 0, 1] ∧
    (doSave monReply dev16 P16 ["40000".toList, "40003".toList] (monMem 32 fun k => k % 251)).1 =
      .saved 4 [0, 0, 0, 1, 0, 2, 0, 3] := by
  decide +kernel

/-- `mem_exact`: for EVERY width setting (in particular every width ≥ 10 the `width` command
accepts), `mem` of a range token spelling `a ≤ b` prints lines that, read back (`int(x, 16)` of
the text before the colon and of every blank-separated word after it), give groups whose bytes,
concatenated in order, are exactly the values a read of `a, a+1, …, b` returns (`b + 1 - a` of
them, nothing dropped or repeated at a line break), every line labelled with the address of its
first byte; the cells are untouched.  (Values are assumed non-negative: they are cells or getc.) -/
theorem mem_exact (reply : Reply) (d : Dev) (P : Parser) (m : OM) (width : Nat) (r : Str) (a b : Int)
    (hwf : P.WF) (hr : rangeL P r = .ok a b)
    (hvals : ∀ v ∈ (getMany reply (addrRange a b) m).1, 0 ≤ v) :
    let rd := getMany reply (addrRange a b) m
    ∃ groups : List (Int × List Int),
      doMem reply d P width [r] m = (.lines (groups.map fun g => mkLine d g.1 g.2), rd.2) ∧
      parseMem (groups.map fun g => mkLine d g.1 g.2) = some groups ∧
      groups.flatMap (·.2) = rd.1 ∧ (rd.1.length : Int) = b + 1 - a ∧
      GroupsFrom a groups ∧ rd.2.subject = m.subject := by
  intro rd
  obtain ⟨hab, h0, _⟩ := rangeL_ordered hwf hr
  have hrange : pyRange a (b + 1) 1 = addrRange a b := by
    rw [pyRange_one]; congr 1; omega
  have hlen : (addrRange a b).length = rd.1.length := (getMany_length reply _ m).symm
  have hitems : ItemsFrom (a + (([] : List Int).length : Int)) ((addrRange a b).zip rd.1) := by
    simp only [List.length_nil, Nat.cast_zero, Int.add_zero]
    exact itemsFrom_zip _ a b rd.1 rfl
  have hsnd : ((addrRange a b).zip rd.1).map (·.2) = rd.1 := zip_map_snd _ _ hlen
  obtain ⟨groups, g1, g2, g3, g4⟩ := memLoop_spec d width ((addrRange a b).zip rd.1) a [] hitems h0
    (by simp) (by
      intro it hit
      have : it.2 ∈ ((addrRange a b).zip rd.1).map (·.2) := List.mem_map_of_mem hit
      rw [hsnd] at this
      exact hvals _ this)
  refine ⟨groups, ?_, parseMem_lines d groups g4, by rw [g2, hsnd]; rfl, ?_, g3, getMany_subject _ _ _⟩
  · have hline : fmtHexInt d.addrFmtW a ++ [':'] = mkLine d a [] := by simp [mkLine]
    simp only [doMem, hr, hrange, hline]
    rw [g1]
  · rw [getMany_length]; exact addrRange_length a b (by omega)

/-- non-vacuity (probes): the 65Org16 at width 10 prints an address-only first line and then one
word per line; the 6502 at width 10 one byte per line; `mem f003:f005` shows 00 for the getc
register whatever its cell holds; and the printed text reads back. -/
example :
    let P16 : Parser := { width := 32, radix := 16, labels := [] }
    let P8 : Parser := { width := 16, radix := 16, labels := [] }
    (doMem monReply dev16 P16 10 ["0:1".toList] (monMem 32 fun k => k + 256)).1 =
      .lines ["00000000:".toList, "00000000:  0100".toList, "00000001:  0101".toList] ∧
    (doMem monReply dev8 P8 10 ["0:1".toList] (monMem 16 fun k => k + 1)).1 =
      .lines ["0000:  01".toList, "0001:  02".toList] ∧
    (doMem monReply dev8 P8 78 ["f003:f005".toList] (monMem 16 fun _ => 0x55)).1 =
      .lines ["f003:  55  00  55".toList] ∧
    parseMem ["00000000:".toList, "00000000:  0100".toList, "00000001:  0101".toList] =
      some [(0, []), (0, [0x100]), (1, [0x101])] := by
  decide +kernel

/-- non-vacuity of `mem_exact` itself on the monitor's memory object (hypotheses satisfiable). -/
example : ∃ groups : List (Int × List Int),
    parseMem (groups.map fun g => mkLine dev8 g.1 g.2) = some groups ∧
    groups.flatMap (·.2) = [0x55, 0, 0x55] ∧ GroupsFrom 0xf003 groups := by
  have hwf : ({ width := 16, radix := 16, labels := [] } : Parser).WF := by
    intro k v h; simp [lookup] at h
  have hg : (getMany monReply (addrRange 0xf003 0xf005) (monMem 16 fun _ => 0x55)).1 = [0x55, 0, 0x55] := by
    decide +kernel
  obtain ⟨groups, _, g2, g3, _, g5, _⟩ := mem_exact monReply dev8 _ (monMem 16 fun _ => 0x55) 20
    "f003:f005".toList 0xf003 0xf005 hwf (by decide +kernel) (by rw [hg]; decide)
  exact ⟨groups, g2, by rw [g3, hg], g5⟩

end Py65.Props.C16
