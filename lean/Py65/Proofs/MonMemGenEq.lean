/-
Tie by regeneration, C16: the GENERATED command front ends `do_fill / do_load / do_save / do_mem`
(`Py65/Gen/MonMemGen.lean`, translated from `py65/monitor.py` by `harness/py2lean_monmem.py` on
every run) equal the hand-written model `Py65.Model.MonMem.doFill / doLoad / doSave / doMem`, for
ALL argument strings, memories, parsers, devices and worlds (files, error texts).

The hand model works on TOKENS and yields an outcome as data (`Out`); the generated methods work on
the argument STRING, print lines and raise Python exceptions.  Each `do_X_eq` therefore says: split
the string with `shlex.split`; then the generated method ends exactly as the hand model's outcome
reads (`.wrote c s e` = the line "Wrote +c bytes from $s to $e" and normal completion, `.lines ls` =
those lines printed, `.saved n file` = the file closed with those octets and "Saved +n bytes to
<name>", `.help` = the usage text, an error outcome = the exception of the address parser -- caught
and printed by `do_fill`, leaving the method in the other three), with the memory object the hand
model computes.  What the hand model has no word for is stated here in full: `shlex.split`'s
`ValueError`, the texts of the error lines, and the OS failing (`open` / `urlopen` raising: "Cannot
load file / Cannot fetch remote file / Cannot save file", memory as it is at that point).

The generated `do_fill` / `do_load` call the GENERATED `_fill` (`MonFillGen._fill`), tied to the
model's `fill` by `MonFillGenEq.fill_eq`; its `while` loop is fuel-bounded, hence the `fuel`
hypotheses (any fuel above the size of the address space / the length of the file will do).
These are the proof obligations a change of those methods breaks.
-/
import Py65.Gen.MonMemGen
import Py65.Proofs.MonFillGenEq

namespace Py65.Proofs.MonMemGenEq
open Py65 Py65.Model Py65.Model.PyStr Py65.Model.ObsMem Py65.Model.AddrParser Py65.Model.MonMem
open Py65.Model.MonGenRt Py65.Model.MonMemRt Py65.Gen Py65.Spec.MonMem Py65.Proofs.Num
open Py65.Proofs.MonFillGenEq

def resExc (w : World) (tok : Str) : Res → PExc
  | .key => .KeyError (w.keyText tok)
  | .overflow => .OverflowError (w.ovfArg tok)
  | _ => .Other []

def rresExc (w : World) (tok : Str) : RRes → PExc
  | .key => .KeyError (w.keyText tok)
  | .overflow => .OverflowError (w.ovfArg tok)
  | _ => .Other []

theorem parseNumberX_eq (w : World) (P : Parser) (s : Str) :
    parseNumberX w P s = match numberL P s with
      | .ok v => .ok v
      | r => .error (resExc w s r) := by
  unfold parseNumberX; cases numberL P s <;> rfl

theorem parseRangeX_eq (w : World) (P : Parser) (s : Str) :
    parseRangeX w P s = match rangeL P s with
      | .ok a b => .ok (a, b)
      | r => .error (rresExc w s r) := by
  unfold parseRangeX; cases rangeL P s <;> rfl

def fillM (d : Dev) (σ : MemSt) (r : FillRes × OM) : MFlow MemSt Unit :=
  match r.1 with
  | .wrote c s e => .ok () { σ with memory := r.2, out := σ.out ++ [wroteLine d c s e] }
  | .indexError => .raise .IndexError { σ with memory := r.2 }

theorem liftFill_eq (reply : Reply) (d : Dev) (fuel : Nat) (start stop : Int) (filler : List Int) (σ : MemSt)
    (hstop : start ≠ stop → stop ≤ d.addrMask)
    (hfuel : (fillStop d start stop filler.length + 1 - start).toNat < fuel) :
    liftFill (MonFillGen._fill reply d fuel start stop filler) σ =
      fillM d σ (fill reply d start stop filler σ.memory) := by
  unfold liftFill
  rw [fill_eq reply d fuel start stop filler { memory := σ.memory, out := σ.out } hstop hfuel]
  unfold fillFlow fillM
  cases (fill reply d start stop filler σ.memory).1 <;> rfl

def helpFill : List Str :=
  ["fill <address_range> <data_list>".toList,
   "Fill memory in the address range with the data in".toList,
   "<data_list>.  If the size of the address range is".toList,
   "greater than the size of the data_list, the data_list ".toList,
   "is repeated.".toList]

theorem help_fill_eq (w : World) (reply : Reply) (d : Dev) (P : Parser) (σ : MemSt) :
    MonMemGen.help_fill w reply d P σ = .ok () { σ with out := σ.out ++ helpFill } := by
  simp only [MonMemGen.help_fill, helpFill, List.append_assoc, List.cons_append, List.nil_append]

/-- The exception that ends the loop over the data pieces (`value = number(piece)`, `if value >
self.byteMask: raise OverflowError(value)`), with its argument; `none` = the loop completes. -/
def fillerExc (w : World) (d : Dev) (P : Parser) : List Str → Option PExc
  | [] => none
  | piece :: rest =>
    match numberL P piece with
    | .ok v => if v > d.byteMask then some (.OverflowError v) else fillerExc w d P rest
    | r => some (resExc w piece r)

def fillExc (w : World) (d : Dev) (P : Parser) : List Str → Option PExc
  | [] => some .IndexError
  | r :: pieces =>
    match rangeL P r with
    | .ok _ _ => fillerExc w d P pieces
    | x => some (rresExc w r x)

/-- What `do_fill` does with an exception of its `try:` part: `except KeyError as exc:
self._output(exc.args[0])`, `except OverflowError as exc: self._output("Overflow: $%x" % exc.args[0])`;
anything else leaves the method. -/
def fillCaught (σ : MemSt) : PExc → MFlow MemSt Unit
  | .KeyError a => .ok () { σ with out := σ.out ++ [a] }
  | .OverflowError v => .ok () { σ with out := σ.out ++ ["Overflow: $".toList ++ pyFmtX 0 v] }
  | x => .raise x σ

/-- The generated data loop = the model's `parseFiller` (the model accumulates in reverse).  The third case
cannot happen (`fillerExc_kind`); `.nofuel` only fills the slot. -/
theorem fill_for1_eq (w : World) (reply : Reply) (d : Dev) (P : Parser) (σ : MemSt) :
    ∀ (pieces : List Str) (acc : List Int),
      MonMemGen.do_fill_for1 w reply d P pieces acc.reverse σ =
        match parseFiller d P pieces acc, fillerExc w d P pieces with
        | .inr f, _ => .ok f σ
        | .inl _, some x => .raise x σ
        | .inl _, none => .nofuel := by
  intro pieces
  induction pieces with
  | nil => intro acc; simp [MonMemGen.do_fill_for1, parseFiller, fillerExc]
  | cons p ps ih =>
    intro acc
    simp only [MonMemGen.do_fill_for1, parseNumberX_eq, parseFiller, fillerExc]
    cases hn : numberL P p with
    | ok v =>
      by_cases hv : v > d.byteMask
      · simp only [hv, if_true]
      · simp only [hv, if_false]
        have := ih (v :: acc)
        simp only [List.reverse_cons] at this
        exact this
    | key | overflow | other => rfl

theorem fillerExc_kind (w : World) (d : Dev) (P : Parser) :
    ∀ (pieces : List Str) (acc : List Int),
      (∃ f, parseFiller d P pieces acc = .inr f ∧ fillerExc w d P pieces = none) ∨
      (∃ a, parseFiller d P pieces acc = .inl .key ∧ fillerExc w d P pieces = some (.KeyError a)) ∨
      (∃ v, parseFiller d P pieces acc = .inl .overflow ∧ fillerExc w d P pieces = some (.OverflowError v)) ∨
      (∃ t, parseFiller d P pieces acc = .inl .other ∧ fillerExc w d P pieces = some (.Other t)) := by
  intro pieces
  induction pieces with
  | nil => intro acc; exact Or.inl ⟨_, rfl, rfl⟩
  | cons p ps ih =>
    intro acc
    simp only [parseFiller, fillerExc]
    cases hn : numberL P p with
    | ok v =>
      by_cases hv : v > d.byteMask
      · exact Or.inr (Or.inr (Or.inl ⟨v, if_pos hv, if_pos hv⟩))
      · simp only [hv, if_false]; exact ih (v :: acc)
    | key => exact Or.inr (Or.inl ⟨_, rfl, rfl⟩)
    | overflow => exact Or.inr (Or.inr (Or.inl ⟨_, rfl, rfl⟩))
    | other => exact Or.inr (Or.inr (Or.inr ⟨_, rfl, rfl⟩))

theorem fillerExc_prefix (w : World) (d : Dev) (P : Parser) (rest : List Str) {pre : List Str} {pdata : List Int}
    (h : PiecesOk d P pre pdata) : fillerExc w d P (pre ++ rest) = fillerExc w d P rest := by
  refine piecesOk_induct (motive := fun pre _ => fillerExc w d P (pre ++ rest) = fillerExc w d P rest) rfl ?_ h
  intro p ps v vs h1 h2 ih
  have : ¬ v > d.byteMask := by omega
  simp only [List.cons_append, fillerExc, h1, this, if_false, ih]

theorem fillerExc_wide (w : World) (d : Dev) (P : Parser) (pre : List Str) (pdata : List Int) (p : Str)
    (post : List Str) (v : Int) (hpre : PiecesOk d P pre pdata) (hp : numberL P p = .ok v) (hv : v > d.byteMask) :
    fillerExc w d P (pre ++ p :: post) = some (.OverflowError v) := by
  rw [fillerExc_prefix w d P _ hpre]
  simp [fillerExc, hp, hv]

/-- The outcome of the model's `doFill` as the end of the generated `do_fill` (`x` = the exception of
the `try:` part, if any: it supplies the text of the error line). -/
def fillEnd (d : Dev) (σ : MemSt) (x : Option PExc) : MonMem.Out × OM → MFlow MemSt Unit
  | (.help, _) => .ok () { σ with out := σ.out ++ helpFill }
  | (.wrote c s e, m') => .ok () { σ with memory := m', out := σ.out ++ [wroteLine d c s e] }
  | (.indexError, m') => .raise .IndexError { σ with memory := m' }
  | (_, _) => match x with
    | some x => fillCaught σ x
    | none => .nofuel  -- an error outcome always comes with its exception (`fillerExc_kind`): never reached

/-- `GenEq` for `do_fill`, for ALL argument strings: `shlex.split` failing is its `ValueError`;
otherwise the generated method ends as the model's `doFill` on the tokens says -- the usage text for
fewer than two tokens; the parser's `KeyError` / `OverflowError` (address too wide, value wider than
a byte) caught and printed with the memory untouched; otherwise the GENERATED `_fill` on the parsed
values, which is the model's `fill` (`fill_eq`).  `fillerExc_kind` ties the printed error to the
model's outcome.  Fuel: above the size of the address space. -/
theorem do_fill_eq (w : World) (reply : Reply) (d : Dev) (P : Parser) (fuel : Nat) (args : Str) (σ : MemSt)
    (hwf : P.WF) (hP : P.maxaddr = d.addrMask) (hfuel : (d.addrMask + 1).toNat < fuel) :
    MonMemGen.do_fill w reply d P fuel args σ =
      match MonCmd.shlexSplit args with
      | none => .raise .ValueError σ
      | some split => fillEnd d σ (fillExc w d P split) (doFill reply d P split σ.memory) := by
  unfold MonMemGen.do_fill
  cases hs : MonCmd.shlexSplit args with
  | none => rfl
  | some split =>
    match split with
    | [] | [_] =>
      exact (if_pos (by simp only [List.length_cons, List.length_nil]; omega)).trans (help_fill_eq w reply d P σ)
    | r :: p :: ps =>
      have hl : ¬ ((((r :: p :: ps).length : Nat) : Int) < 2) := by
        simp only [List.length_cons]; push_cast; omega
      simp only [hl, if_false, MonMemGen.do_fill_try1, pyGetItem_zero, parseRangeX_eq, pySliceFrom_one,
        doFill, fillExc]
      cases hr : rangeL P r with
      | ok start stop =>
        obtain ⟨hab, h0, hb⟩ := rangeL_ordered hwf hr
        rw [hP] at hb
        have hf := fill_for1_eq w reply d P σ (p :: ps) []
        simp only [List.reverse_nil] at hf
        rcases fillerExc_kind w d P (p :: ps) [] with ⟨filler, h1, h2⟩ | ⟨a, h1, h2⟩ | ⟨v, h1, h2⟩ | ⟨t, h1, h2⟩
        · simp only [hf, h1, MFlow.bind_ok]
          have hE := fillStop_le d start stop filler.length (fun _ => hb)
          rw [liftFill_eq reply d fuel start stop filler σ (fun _ => hb) (by omega)]
          unfold fillM fillEnd
          cases (fill reply d start stop filler σ.memory).1 <;> simp [Out.ofFill]
        all_goals simp only [hf, h1, h2, MFlow.bind_raise, fillEnd, fillCaught]
      | key | overflow | other => simp [rresExc, fillEnd, fillCaught]

/-- The ends of `do_fill`: it printed something and left the memory object alone, or raised in the state
it was given, or reports "Wrote …" (or ran out of fuel). -/
theorem do_fill_ends (w : World) (reply : Reply) (d : Dev) (P : Parser) (fuel : Nat) (args : Str) (σ : MemSt)
    (hwf : P.WF) (hP : P.maxaddr = d.addrMask) (hfuel : (d.addrMask + 1).toNat < fuel) :
    (∃ out, MonMemGen.do_fill w reply d P fuel args σ = .ok () { σ with out := out }) ∨
    (∃ x, MonMemGen.do_fill w reply d P fuel args σ = .raise x σ) ∨
    (∃ m' c s e, MonMemGen.do_fill w reply d P fuel args σ =
      .ok () { σ with memory := m', out := σ.out ++ [wroteLine d c s e] }) ∨
    MonMemGen.do_fill w reply d P fuel args σ = .nofuel := by
  rw [do_fill_eq w reply d P fuel args σ hwf hP hfuel]
  cases hs : MonCmd.shlexSplit args with
  | none => exact Or.inr (Or.inl ⟨_, rfl⟩)
  | some split =>
    have hrej := doFill_not_wrote reply d P split σ.memory
    dsimp only
    cases ho : doFill reply d P split σ.memory with
    | mk o m' =>
      rw [ho] at hrej
      cases o with
      | wrote c s e => exact Or.inr (Or.inr (Or.inl ⟨m', c, s, e, rfl⟩))
      | help => exact Or.inl ⟨_, rfl⟩
      | indexError =>
        have hm : m' = σ.memory := hrej fun c s e => by simp
        exact Or.inr (Or.inl ⟨_, by rw [hm]; rfl⟩)
      | syntaxError | key | overflow | other | saved _ _ | lines _ =>
        cases fillExc w d P split with
        | none => exact Or.inr (Or.inr (Or.inr rfl))
        | some x =>
          cases x with
          | KeyError a => exact Or.inl ⟨_, rfl⟩
          | OverflowError v => exact Or.inl ⟨_, rfl⟩
          | _ => exact Or.inr (Or.inl ⟨_, rfl⟩)

def helpMem : List Str :=
  ["mem <address_range>".toList,
   "Display the contents of memory.".toList,
   "Range is specified like \"<start:end>\".".toList]

theorem help_mem_eq (w : World) (reply : Reply) (d : Dev) (P : Parser) (σ : MemSt) :
    MonMemGen.help_mem w reply d P σ = .ok () { σ with out := σ.out ++ helpMem } := by
  simp only [MonMemGen.help_mem, helpMem, List.append_assoc, List.cons_append, List.nil_append]

/-- The generated line-wrapping loop followed by the final `self._output(line)`: it prints exactly
the lines of the model's `memLoop` over the addresses zipped with what reading them returns, and
leaves the memory object as those reads leave it (the code reads and prints in turn, the model reads
everything first: the same, because printing does not touch the memory). -/
theorem mem_for1_eq (w : World) (reply : Reply) (d : Dev) (P : Parser) :
    ∀ (addrs : List Int) (line : Str) (σ : MemSt), 0 ≤ σ.width →
      ((MonMemGen.do_mem_for1 w reply d P addrs line σ).bind fun r σ' =>
          (.ok () { σ' with out := σ'.out ++ [r] } : MFlow MemSt Unit)) =
        .ok () { σ with memory := (getMany reply addrs σ.memory).2,
                        out := σ.out ++ memLoop d σ.width.toNat line (addrs.zip (getMany reply addrs σ.memory).1) } := by
  intro addrs
  induction addrs with
  | nil => intro line σ _; rfl
  | cons a as ih =>
    intro line σ hw
    have hsp : "  ".toList = [' ', ' '] := rfl
    have hcol : ":".toList = [':'] := rfl
    by_cases hex : ((line.length : Int) + ((' ' :: ' ' :: fmtHexInt d.byteFmtW (get reply σ.memory a).1).length : Int)) > σ.width
    · have hex' : line.length + (' ' :: ' ' :: fmtHexInt d.byteFmtW (get reply σ.memory a).1).length > σ.width.toNat := by
        omega
      have := ih (fmtHexInt d.addrFmtW a ++ [':'] ++ (' ' :: ' ' :: fmtHexInt d.byteFmtW (get reply σ.memory a).1))
        { σ with memory := (get reply σ.memory a).2, out := σ.out ++ [line] } hw
      simp only [MonMemGen.do_mem_for1, pyFmtX, hsp, hcol, List.cons_append, List.nil_append, hex, decide_true,
        if_true, getMany, List.zip_cons_cons, memLoop, hex']
      rw [this]
      simp only [List.append_assoc, List.cons_append, List.nil_append]
    · have hex' : ¬ (line.length + (' ' :: ' ' :: fmtHexInt d.byteFmtW (get reply σ.memory a).1).length > σ.width.toNat) := by
        omega
      have := ih (line ++ (' ' :: ' ' :: fmtHexInt d.byteFmtW (get reply σ.memory a).1))
        { σ with memory := (get reply σ.memory a).2 } hw
      simp only [MonMemGen.do_mem_for1, pyFmtX, hsp, List.cons_append, List.nil_append, hex, decide_false,
        Bool.false_eq_true, if_false, getMany, List.zip_cons_cons, memLoop, hex']
      rw [this]

def memEnd (w : World) (P : Parser) (σ : MemSt) (split : List Str) : MonMem.Out × OM → MFlow MemSt Unit
  | (.help, _) => .ok () { σ with out := σ.out ++ helpMem }
  | (.lines ls, m') => .ok () { σ with memory := m', out := σ.out ++ ls }
  | (_, _) => .raise (rresExc w (split.headD []) (rangeL P (split.headD []))) σ

/-- `GenEq` for `do_mem`, for ALL argument strings and EVERY width setting (`self._width ≥ 0`): the
usage text unless there is exactly one token; the parser's exception for a bad range (it leaves the
method, memory untouched); otherwise exactly the lines of the model, memory as the reads leave it. -/
theorem do_mem_eq (w : World) (reply : Reply) (d : Dev) (P : Parser) (args : Str) (σ : MemSt)
    (hw : 0 ≤ σ.width) :
    MonMemGen.do_mem w reply d P args σ =
      match MonCmd.shlexSplit args with
      | none => .raise .ValueError σ
      | some split => memEnd w P σ split (doMem reply d P σ.width.toNat split σ.memory) := by
  unfold MonMemGen.do_mem
  cases hs : MonCmd.shlexSplit args with
  | none => rfl
  | some split =>
    match split with
    | [] | _ :: _ :: _ =>
      exact (if_pos (by simp only [List.length_cons, List.length_nil]; omega)).trans (help_mem_eq w reply d P σ)
    | [r] =>
      have hl : ((([r] : List Str).length : Nat) : Int) = 1 := rfl
      simp only [ne_eq, hl, not_true_eq_false, if_false, pyGetItem_zero, parseRangeX_eq, doMem]
      cases hr : rangeL P r with
      | ok start stop =>
        have hcol : ":".toList = [':'] := rfl
        have := mem_for1_eq w reply d P (pyRange start (stop + 1) 1) (fmtHexInt d.addrFmtW start ++ [':']) σ hw
        simp only [pyFmtX, hcol, memEnd]
        exact this
      | key | overflow | other => simp [memEnd, hr]

/-- The cell-by-cell comprehension `[self._mpu.memory[addr] for addr in range(start, end + 1)]` is
the model's `getMany`. -/
theorem save_comp1_eq (w : World) (reply : Reply) (d : Dev) (P : Parser) :
    ∀ (addrs acc : List Int) (σ : MemSt),
      MonMemGen.do_save_comp1 w reply d P addrs acc σ =
        .ok (acc ++ (getMany reply addrs σ.memory).1) { σ with memory := (getMany reply addrs σ.memory).2 } := by
  intro addrs
  induction addrs with
  | nil => intro acc σ; simp [MonMemGen.do_save_comp1, getMany]
  | cons a as ih =>
    intro acc σ
    simp only [MonMemGen.do_save_comp1, getMany, ih, List.append_assoc, List.cons_append, List.nil_append]

/-- `range(self.byteWidth - 8, -1, -8)`: the shift amounts `BW-8, BW-16, …, 0` (for any width). -/
theorem pyRange_shifts (d : Dev) :
    pyRange ((d.BW : Int) - 8) (-1) (-8) =
      ((List.range (d.BW / 8)).map fun i => d.BW - 8 - 8 * i).map fun (k : Nat) => (k : Int) := by
  unfold pyRange rangeLen
  have hs : ¬ ((-8 : Int) > 0) := by omega
  have hneg : (-(-8 : Int)) = 8 := by norm_num
  simp only [hs, if_false, hneg]
  by_cases h8 : (-1 : Int) < (d.BW : Int) - 8
  · have hn : (((d.BW : Int) - 8 - (-1) - 1) / 8 + 1).toNat = d.BW / 8 := by omega
    simp only [h8, if_true, hn, List.map_map]
    apply List.map_congr_left
    intro i hi
    have hi' : i < d.BW / 8 := List.mem_range.mp hi
    simp only [Function.comp]
    omega
  · have hn : d.BW / 8 = 0 := by omega
    simp only [h8, if_false, hn, List.range_zero, List.map_nil]

theorem byte_ok (x : Int) : pyByteArray [Py.land x 255] = some [Py.land x 255] := by
  have h := land_ff x
  have h1 : Py.land x 255 = x % 256 := h
  have h2 : 0 ≤ x % 256 := Int.emod_nonneg x (by omega)
  have h3 : x % 256 < 256 := Int.emod_lt_of_pos x (by omega)
  have h4 : (decide (0 ≤ Py.land x 255) && decide (Py.land x 255 ≤ 255)) = true := by
    rw [h1]; simp only [Bool.and_eq_true, decide_eq_true_eq]; omega
  simp only [pyByteArray, List.all_cons, List.all_nil, Bool.and_true, h4, if_true]

theorem save_for2_shifts (w : World) (reply : Reply) (d : Dev) (P : Parser) (m : Int) (σ : MemSt) :
    ∀ (shifts : List Nat) (f : WFile),
      MonMemGen.do_save_for2 w reply d P m (shifts.map fun (k : Nat) => (k : Int)) f σ =
        .ok (pyFileWrite f (shifts.map fun k => Py.land (Py.shr m k) 0xff)) σ := by
  intro shifts
  induction shifts with
  | nil => intro f; simp [MonMemGen.do_save_for2, pyFileWrite]
  | cons k ks ih =>
    intro f
    have hk : ¬ ((k : Int) < 0) := by omega
    simp only [List.map_cons, MonMemGen.do_save_for2, pyShr, hk, if_false, Int.toNat_natCast, byte_ok, ih]
    simp [pyFileWrite]

/-- `for shift in range(self.byteWidth - 8, -1, -8): f.write(bytearray([(m >> shift) & 0xff]))`
appends the model's `octets d m`. -/
theorem save_for2_eq (w : World) (reply : Reply) (d : Dev) (P : Parser) (m : Int) (f : WFile) (σ : MemSt) :
    MonMemGen.do_save_for2 w reply d P m (pyRange ((d.BW : Int) - 8) (-1) (-8)) f σ =
      .ok (pyFileWrite f (octets d m)) σ := by
  rw [pyRange_shifts, save_for2_shifts]
  simp only [octets, List.map_map]
  rfl

theorem save_for1_eq (w : World) (reply : Reply) (d : Dev) (P : Parser) (σ : MemSt) :
    ∀ (mem : List Int) (f : WFile),
      MonMemGen.do_save_for1 w reply d P mem f σ = .ok (pyFileWrite f (mem.flatMap (octets d))) σ := by
  intro mem
  induction mem with
  | nil => intro f; simp [MonMemGen.do_save_for1, pyFileWrite]
  | cons m ms ih =>
    intro f
    simp only [MonMemGen.do_save_for1, save_for2_eq, MFlow.bind_ok, ih, List.flatMap_cons]
    simp [pyFileWrite]

/-- "Saved +%d bytes to %s" -/
def savedLine (n : Nat) (name : Str) : Str :=
  "Saved +".toList ++ pyFmtD (n : Int) ++ " bytes to ".toList ++ name

/-- "Cannot save file: [%d] %s" -/
def cannotSave (e : Int × Str) : Str :=
  "Cannot save file: [".toList ++ pyFmtD e.1 ++ "] ".toList ++ e.2

def saveExc (w : World) (P : Parser) (s e : Str) : PExc :=
  match numberL P s with
  | .ok _ => resExc w e (numberL P e)
  | r => resExc w s r

/-- The `try:` part of `do_save`: `open(name, 'wb')` raising leaves it at once; otherwise every cell's
octets are written and the file is closed. -/
theorem save_try1_eq (w : World) (reply : Reply) (d : Dev) (P : Parser) (args : Str) (split : List Str)
    (name : Str) (start stop : Int) (mem : List Int) (σ : MemSt) :
    MonMemGen.do_save_try1 w reply d P args split name start stop mem σ =
      match w.openW name with
      | none => .ok (name, mem.flatMap (octets d)) { σ with files := σ.files ++ [(name, mem.flatMap (octets d))] }
      | some err => .raise (.OSError err.1 err.2) σ := by
  unfold MonMemGen.do_save_try1 pyOpenW
  cases w.openW name with
  | none => simp only [save_for1_eq, MFlow.bind_ok, pyFileWrite, List.nil_append]
  | some err => rfl

/-- The outcome of the model's `doSave` as the end of the generated `do_save` for the file name `name`:
the file is opened AFTER the cells have been read; if `open` raises, "Cannot save file: …" is printed
(no file, the memory as the reads left it); else the octets are written, the file closed and "Saved
+n bytes to <name>" printed. -/
def saveEnd (w : World) (P : Parser) (σ : MemSt) (name s e : Str) : MonMem.Out × OM → MFlow MemSt Unit
  | (.saved n file, m') =>
    match w.openW name with
    | none => .ok () { σ with memory := m', files := σ.files ++ [(name, file)], out := σ.out ++ [savedLine n name] }
    | some err => .ok () { σ with memory := m', out := σ.out ++ [cannotSave err] }
  | (_, _) => .raise (saveExc w P s e) σ

/-- `GenEq` for `do_save`, for ALL argument strings (and any device width): "Syntax error: …" unless
there are exactly three tokens; the parser's exception for a bad address leaves the method before
anything is read; otherwise the model's `doSave` (cells read one by one, `BW/8` octets per cell,
most significant first). -/
theorem do_save_eq (w : World) (reply : Reply) (d : Dev) (P : Parser) (args : Str) (σ : MemSt) :
    MonMemGen.do_save w reply d P args σ =
      match MonCmd.shlexSplit args with
      | none => .raise .ValueError σ
      | some [name, s, e] => saveEnd w P σ name s e (doSave reply d P [s, e] σ.memory)
      | some _ => .ok () { σ with out := σ.out ++ ["Syntax error: ".toList ++ args] } := by
  unfold MonMemGen.do_save
  cases hs : MonCmd.shlexSplit args with
  | none => rfl
  | some split =>
    match split with
    | [] | [_] | [_, _] | _ :: _ :: _ :: _ :: _ =>
      exact if_pos (by simp only [List.length_cons, List.length_nil]; omega)
    | [name, s, e] =>
      have hl : ((([name, s, e] : List Str).length : Nat) : Int) = 3 := rfl
      simp only [ne_eq, hl, not_true_eq_false, if_false, pyGetItem_zero, pyGetItem_one, pyGetItem_two,
        parseNumberX_eq, doSave]
      cases hns : numberL P s with
      | ok start =>
        cases hne : numberL P e with
        | ok stop =>
          simp only [save_comp1_eq, MFlow.bind_ok, List.nil_append, save_try1_eq, saveEnd]
          cases w.openW name <;> rfl
        | key | overflow | other => simp [saveEnd, Out.ofRes, saveExc, hns, hne]
      | key | overflow | other => simp [saveEnd, Out.ofRes, saveExc, hns]

theorem pairs_everyNth (f : Int → Int → Int) (hf : ∀ a b, f a b = Py.shl a 8 + b) :
    ∀ (n : Nat) (bs : List Int), bs.length ≤ n →
      List.zipWith f (everyNth 2 n bs) (everyNth 2 n (bs.drop 1)) = pairs bs := by
  intro n
  induction n with
  | zero =>
    intro bs h
    have : bs = [] := List.length_eq_zero_iff.mp (by omega)
    subst this; rfl
  | succ n ih =>
    intro bs h
    match bs with
    | [] => rfl
    | [x] => simp [everyNth, pairs]
    | x :: y :: rest =>
      have hl : rest.length ≤ n := by simp only [List.length_cons] at h; omega
      simp only [everyNth, List.drop_succ_cons, List.drop_zero, List.zipWith_cons_cons, pairs, hf]
      have := ih rest hl
      simp only [Nat.add_one_sub_one] at this ⊢
      rw [this]

/-- `list(map(format, bytes[0::2], bytes[1::2]))` with `format(msb, lsb) = (msb << 8) + lsb` is the
model's `pairs` (an odd trailing octet is dropped: `map` stops at the shorter slice). -/
theorem pairs_eq (bs : List Int) :
    pyMap2 (fun msb lsb => Py.shl msb 8 + lsb) (pySliceFromStep bs 0 2) (pySliceFromStep bs 1 2) = pairs bs := by
  have h0 : pySliceFrom bs 0 = bs := by
    have hn : ¬ ((bs.length : Int) < 0) := by omega
    simp [pySliceFrom, pySliceBound, pyNormIndex, hn]
  have h1 : pySliceFrom bs 1 = bs.drop 1 := by
    cases bs with
    | nil => simp [pySliceFrom, pySliceBound, pyNormIndex]
    | cons x xs => exact pySliceFrom_one x xs
  unfold pyMap2 pySliceFromStep
  rw [h0, h1]
  exact pairs_everyNth _ (fun _ _ => rfl) bs.length bs (le_refl _)

/-- The data preparation of `do_load` (`if self.byteWidth == 8: … elif self.byteWidth == 16: …`). -/
theorem loadData_eq (d : Dev) (bs : List Int) :
    (if (d.BW : Int) = 8 then List.map (fun (b : Int) => b) bs
     else if (d.BW : Int) = 16 then
       pyMap2 (fun msb lsb => Py.shl msb 8 + lsb) (pySliceFromStep bs 0 2) (pySliceFromStep bs 1 2)
     else bs) = loadData d bs := by
  unfold loadData
  by_cases h8 : d.BW = 8
  · have : (d.BW : Int) = 8 := by exact_mod_cast h8
    rw [if_pos this, if_pos h8, List.map_id']
  · have n8 : ¬ ((d.BW : Int) = 8) := by exact_mod_cast h8
    by_cases h16 : d.BW = 16
    · have : (d.BW : Int) = 16 := by exact_mod_cast h16
      rw [if_neg n8, if_pos this, if_neg h8, if_pos h16, pairs_eq]
    · have n16 : ¬ ((d.BW : Int) = 16) := by exact_mod_cast h16
      rw [if_neg n8, if_neg n16, if_neg h8, if_neg h16]

theorem loadData_length_le (d : Dev) (bs : List Int) : (loadData d bs).length ≤ bs.length := by
  unfold loadData
  split_ifs
  · exact le_refl _
  · rw [pairs_length]; omega
  · exact le_refl _

theorem fillStop_self_fuel (d : Dev) (a : Int) (n : Nat) : (fillStop d a a n + 1 - a).toNat ≤ n := by
  unfold fillStop
  simp only [if_true]
  split_ifs <;> omega

/-- The rest of `do_load` after the start address is known: data preparation and the GENERATED
`_fill(start, start, bytes)`. -/
theorem load_join2_eq (w : World) (reply : Reply) (d : Dev) (P : Parser) (fuel : Nat) (args : Str)
    (split : List Str) (name : Str) (f bytes : List Int) (start : Int) (σ : MemSt) (hfuel : bytes.length < fuel) :
    MonMemGen.do_load_join2 w reply d P fuel args split name f bytes start σ =
      fillM d σ (fill reply d start start (loadData d bytes) σ.memory) := by
  have h1 := fillStop_self_fuel d start (loadData d bytes).length
  have h2 := loadData_length_le d bytes
  simp only [MonMemGen.do_load_join2, loadData_eq]
  rw [liftFill_eq reply d fuel start start (loadData d bytes) σ (fun h => absurd rfl h) (by omega)]
  unfold fillM
  cases (fill reply d start start (loadData d bytes) σ.memory).1 <;> rfl

/-- The rest of `do_load` after the file has been read: placement (`top`, a number, or the PC) is
the model's `loadStart`; a refused address leaves the method at once.  `8 ≤ BW`: `self.byteWidth //
8` is not 0 (else Python raises ZeroDivisionError where the hand model divides by zero Lean-style).
No fuel is involved up to here. -/
theorem load_join1_eq (w : World) (reply : Reply) (d : Dev) (P : Parser) (fuel : Nat) (args : Str)
    (name : Str) (rest : List Str) (f bytes : List Int) (σ : MemSt)
    (hBW : 8 ≤ d.BW) (hrest : rest.length ≤ 1) :
    MonMemGen.do_load_join1 w reply d P fuel args (name :: rest) name f bytes σ =
      match loadStart d P bytes rest σ.pc with
      | .inr start => MonMemGen.do_load_join2 w reply d P fuel args (name :: rest) name f bytes start σ
      | .inl _ => .raise (resExc w (rest.headD []) (numberL P (rest.headD []))) σ := by
  unfold MonMemGen.do_load_join1
  match rest with
  | [] =>
    have hl : ¬ ((([name] : List Str).length : Int) = 2) := by simp
    simp only [hl, if_false, loadStart]
  | [t] =>
    have hl : (([name, t] : List Str).length : Int) = 2 := rfl
    have hdiv : Int.fdiv (d.BW : Int) 8 = (d.BW : Int) / 8 := Int.fdiv_eq_ediv_of_nonneg _ (by omega)
    have hne : ¬ ((d.BW : Int) / 8 = 0) := by omega
    have hdiv2 : Int.fdiv (bytes.length : Int) ((d.BW : Int) / 8) = (bytes.length : Int) / ((d.BW : Int) / 8) :=
      Int.fdiv_eq_ediv_of_nonneg _ (by omega)
    simp only [hl, if_true, pyGetItem_one, top_toList, loadStart]
    by_cases ht : t = ['t', 'o', 'p']
    · simp only [ht, if_true, pyFloorDiv, hdiv, hne, if_false, hdiv2]
    · simp only [ht, if_false, parseNumberX_eq]
      cases hn : numberL P t with
      | ok a => rfl
      | key | overflow | other => simp [hn]
  | a :: b :: r => simp at hrest

/-- Where `do_load` gets the octets from: `urlopen(name).read()` if the name contains "://", else
`open(name, 'rb').read()`. -/
def loadSource (w : World) (name : Str) : Except PExc (List Int) :=
  if pyStrIn "://".toList name = true then pyUrlopen w name else pyOpenR w name

/-- The line printed when the octets cannot be got: "Cannot load file: [errno] strerror" for the
`OSError` of `open`, "Cannot fetch remote file: <str(exc)>" for whatever `urlopen` raised. -/
def loadErrLine : PExc → Str
  | .OSError en se => "Cannot load file: [".toList ++ pyFmtD en ++ "] ".toList ++ se
  | x => "Cannot fetch remote file: ".toList ++ x.str

theorem loadStart_inl {d : Dev} {P : Parser} {file : List Int} {rest : List Str} {pc : Int} {o : MonMem.Out}
    (h : loadStart d P file rest pc = .inl o) :
    o = .key ∨ o = .overflow ∨ o = .other ∨ o = .syntaxError := by
  unfold loadStart at h
  split at h
  · cases h
  · split at h
    · cases h
    · split at h
      · cases h
      · rename_i t _ _ _
        injection h with h
        subst h
        generalize numberL P t = r
        cases r <;> simp [Out.ofRes]
  · injection h with h
    subst h
    simp

/-- `do_load` up to the call of `_fill` (no fuel involved): "Syntax error: …" unless there are one
or two tokens (decided BEFORE the file is touched); a file / URL that cannot be read prints its error
line; a start address the parser refuses leaves the method; in all these cases the state is otherwise
exactly as it was.  Otherwise the data preparation and `_fill` (`do_load_join2`). -/
theorem do_load_pre_eq (w : World) (reply : Reply) (d : Dev) (P : Parser) (fuel : Nat) (args : Str) (σ : MemSt)
    (hBW : 8 ≤ d.BW) :
    MonMemGen.do_load w reply d P fuel args σ =
      match MonCmd.shlexSplit args with
      | none => .raise .ValueError σ
      | some [] => .ok () { σ with out := σ.out ++ ["Syntax error: ".toList ++ args] }
      | some (name :: rest) =>
        if 2 ≤ rest.length then .ok () { σ with out := σ.out ++ ["Syntax error: ".toList ++ args] }
        else match loadSource w name with
          | .error x => .ok () { σ with out := σ.out ++ [loadErrLine x] }
          | .ok file =>
            match loadStart d P file rest σ.pc with
            | .inr start => MonMemGen.do_load_join2 w reply d P fuel args (name :: rest) name file file start σ
            | .inl _ => .raise (resExc w (rest.headD []) (numberL P (rest.headD []))) σ := by
  unfold MonMemGen.do_load
  cases hs : MonCmd.shlexSplit args with
  | none => rfl
  | some split =>
    match split with
    | [] => exact if_pos (by simp)
    | name :: rest =>
      by_cases h2 : 2 ≤ rest.length
      · exact (if_pos (by simp only [List.length_cons]; omega)).trans (if_pos h2).symm
      · have hl : (((name :: rest).length : Int) = 1 ∨ ((name :: rest).length : Int) = 2) := by
          simp only [List.length_cons]; push_cast; omega
        have hrest : rest.length ≤ 1 := by omega
        simp only [hl, not_true_eq_false, if_false, h2, pyGetItem_zero, loadSource]
        by_cases hu : pyStrIn "://".toList name = true
        · simp only [hu, if_true, MonMemGen.do_load_try1, pyUrlopen]
          cases w.urlopen name with
          | error t => rfl
          | ok file => simp only [load_join1_eq w reply d P fuel args name rest file file σ hBW hrest]
        · simp only [hu, if_false, Bool.false_eq_true, MonMemGen.do_load_try2, pyOpenR]
          cases w.openR name with
          | error e => rfl
          | ok file => simp only [load_join1_eq w reply d P fuel args name rest file file σ hBW hrest]

def loadEnd (w : World) (d : Dev) (P : Parser) (σ : MemSt) (rest : List Str) : MonMem.Out × OM → MFlow MemSt Unit
  | (.wrote c s e, m') => .ok () { σ with memory := m', out := σ.out ++ [wroteLine d c s e] }
  | (.indexError, m') => .raise .IndexError { σ with memory := m' }
  | (_, _) => .raise (resExc w (rest.headD []) (numberL P (rest.headD []))) σ

/-- `GenEq` for `do_load`, for ALL argument strings: as `do_load_pre_eq`, and once the octets are
there the generated method ends as the model's `doLoad` on the octets and the tokens after the name
says: the parser's exception for a bad address, else the GENERATED `_fill(start, start, data)`, which
is the model's `fill`.  Fuel: above the length of the file read. -/
theorem do_load_eq (w : World) (reply : Reply) (d : Dev) (P : Parser) (fuel : Nat) (args : Str) (σ : MemSt)
    (hBW : 8 ≤ d.BW)
    (hfuel : ∀ name rest file, MonCmd.shlexSplit args = some (name :: rest) → loadSource w name = .ok file →
      file.length < fuel) :
    MonMemGen.do_load w reply d P fuel args σ =
      match MonCmd.shlexSplit args with
      | none => .raise .ValueError σ
      | some [] => .ok () { σ with out := σ.out ++ ["Syntax error: ".toList ++ args] }
      | some (name :: rest) =>
        if 2 ≤ rest.length then .ok () { σ with out := σ.out ++ ["Syntax error: ".toList ++ args] }
        else match loadSource w name with
          | .error x => .ok () { σ with out := σ.out ++ [loadErrLine x] }
          | .ok file => loadEnd w d P σ rest (doLoad reply d P file rest σ.pc σ.memory) := by
  rw [do_load_pre_eq w reply d P fuel args σ hBW]
  cases hs : MonCmd.shlexSplit args with
  | none => rfl
  | some split =>
    match split with
    | [] => rfl
    | name :: rest =>
      by_cases h2 : 2 ≤ rest.length
      · simp only [h2, if_true]
      · simp only [h2, if_false]
        cases hsrc : loadSource w name with
        | error x => rfl
        | ok file =>
          have hf := hfuel name rest file hs hsrc
          simp only [doLoad]
          cases hst : loadStart d P file rest σ.pc with
          | inr start =>
            simp only [load_join2_eq _ _ _ _ _ _ _ _ _ _ _ _ hf]
            unfold fillM loadEnd
            cases (fill reply d start start (loadData d file) σ.memory).1 <;> rfl
          | inl o =>
            rcases loadStart_inl hst with rfl | rfl | rfl | rfl <;> rfl

/-- The ends of `do_load`, in the shape of `do_fill_ends`: the only end with another memory object is the report
"Wrote …" (the `IndexError` of an empty data list is raised before the first store). -/
theorem do_load_ends (w : World) (reply : Reply) (d : Dev) (P : Parser) (fuel : Nat) (args : Str) (σ : MemSt)
    (hBW : 8 ≤ d.BW)
    (hfuel : ∀ name rest file, MonCmd.shlexSplit args = some (name :: rest) → loadSource w name = .ok file →
      file.length < fuel) :
    (∃ out, MonMemGen.do_load w reply d P fuel args σ = .ok () { σ with out := out }) ∨
    (∃ x, MonMemGen.do_load w reply d P fuel args σ = .raise x σ) ∨
    (∃ m' c s e, MonMemGen.do_load w reply d P fuel args σ =
      .ok () { σ with memory := m', out := σ.out ++ [wroteLine d c s e] }) ∨
    MonMemGen.do_load w reply d P fuel args σ = .nofuel := by
  rw [do_load_eq w reply d P fuel args σ hBW hfuel]
  cases hs : MonCmd.shlexSplit args with
  | none => exact Or.inr (Or.inl ⟨_, rfl⟩)
  | some split =>
    match split with
    | [] => exact Or.inl ⟨_, rfl⟩
    | name :: rest =>
      dsimp only
      split
      · exact Or.inl ⟨_, rfl⟩
      · cases loadSource w name with
        | error x => exact Or.inl ⟨_, rfl⟩
        | ok file =>
          dsimp only
          cases ho : doLoad reply d P file rest σ.pc σ.memory with
          | mk o m' =>
            cases o with
            | wrote a b e => exact Or.inr (Or.inr (Or.inl ⟨m', a, b, e, rfl⟩))
            | indexError =>
              have hm : m' = σ.memory := by
                unfold doLoad at ho
                cases hst : loadStart d P file rest σ.pc with
                | inl e => rw [hst] at ho; cases ho; rfl
                | inr start =>
                  rw [hst] at ho
                  simp only [Prod.mk.injEq] at ho
                  rw [← ho.2]
                  exact fill_not_wrote _ _ _ _ _ _ (by rw [ho.1]; intro a b e; simp)
              exact Or.inr (Or.inl ⟨_, by rw [hm]; rfl⟩)
            | help | syntaxError | key | overflow | other | saved _ _ | lines _ =>
              exact Or.inr (Or.inl ⟨_, rfl⟩)

/-! ### the two usage texts no command of this unit calls (`help load`, `help save` reach them through `cmd.Cmd`) -/

theorem help_load_eq (w : World) (reply : Reply) (d : Dev) (P : Parser) (σ : MemSt) :
    MonMemGen.help_load w reply d P σ = .ok () { σ with out := σ.out ++
      ["load <filename|url> <address|top>".toList,
       "Load a file into memory at the specified address.".toList,
       "An address of \"top\" loads into the top of memory.".toList,
       "Commodore-style load address bytes are ignored.".toList] } := by
  simp only [MonMemGen.help_load, List.append_assoc, List.cons_append, List.nil_append]

theorem help_save_eq (w : World) (reply : Reply) (d : Dev) (P : Parser) (σ : MemSt) :
    MonMemGen.help_save w reply d P σ = .ok () { σ with out := σ.out ++
      ["save \"filename\" <start> <end>".toList,
       "Save the specified memory range as a binary file.".toList,
       "Commodore-style load address bytes are not written.".toList] } := by
  simp only [MonMemGen.help_save, List.append_assoc, List.cons_append, List.nil_append]

end Py65.Proofs.MonMemGenEq
