/-
Tie 1 for `py65/memory.py`: the definitions REGENERATED from the current source by
`harness/py2lean_mem.py` (`Py65/Gen/ObsMemGen.lean`) are equal, for ALL arguments, to the
hand-written model `Py65/Model/ObsMem.lean` that the C10/C11 theorems are proved about.  These
equalities are the proof obligations a change of `memory.py` breaks: the generated text changes
with the source (masks, comparisons, the order "mask – look up – loop – store", the `is not None`
tests, the loop bodies, the slice bounds of `write`, …) and the proofs below no longer check.

Also here (hand-written glue, not translated): what a *history* means for the generated
definitions (`apply`, `run`: one method call per `Op`) and the replay of device accesses
(`obsStep`, `replayObs`), with their equalities, so that `Props/C10g.lean` and `Props/C11g.lean`
can restate the property theorems for the generated definitions.

Nothing outside this file, `Props/C10g.lean` and `Props/C11g.lean` imports the generated file.
-/
import Py65.Gen.ObsMemGen
import Py65.Proofs.ObsMemLemmas

namespace Py65.Proofs.ObsMemGenEq
open Py65 Py65.Model.ObsMem Py65.Spec.ObsMem Py65.Gen

def defaultLen (w : Int) : Int := (if w > 16 then 0x3ffff else 0xffff) + 1

/-- `ObservableMemory(subject, addrWidth)` with a backing list `cells` of the default length:
what `Model.ObsMem.init` denotes. -/
def initOf (w : Int) (cells : Int → Int) : OM :=
  ObsMemGen.init (some { cells := cells, len := defaultLen w }) w

theorem init_eq : initOf = init := rfl

/-- generated `__init__` with `subject=None`: a fresh list of `physMask + 1` zeros. -/
theorem init_none_eq (w : Int) : ObsMemGen.init none w = init w (fun _ => 0) := by
  unfold ObsMemGen.init init Py.listRepeat
  by_cases h : w > 16 <;> simp [h, Subs.empty]

/-- the default arguments of `__init__`: `subject=None, addrWidth=16`. -/
theorem init_defaults : ObsMemGen.init.default_1 = none ∧ ObsMemGen.init.default_2 = 16 := ⟨rfl, rfl⟩

theorem setitem_int_eq : ObsMemGen.setitem_int = set := by
  funext reply m a v
  have key : ∀ (a' : Int) (cbs : List Nat) (v : Int) (s : OM),
      cbs.foldl (fun (acc : Int × OM) (cb : Nat) =>
          ((match (ObsMemGen.call reply acc.2 cb a' (some acc.1)).1 with
            | none => acc.1
            | some r => r), (ObsMemGen.call reply acc.2 cb a' (some acc.1)).2)) (v, s)
        = ((writeLoop reply a' cbs v s.log).1, { s with log := (writeLoop reply a' cbs v s.log).2 }) := by
    intro a' cbs
    induction cbs with
    | nil => intro v s; rfl
    | cons cb rest ih =>
      intro v s
      rw [List.foldl_cons, ih, writeLoop]
      simp only [ObsMemGen.call]
      cases reply cb s.log.length a' (some v) <;> rfl
  unfold ObsMemGen.setitem_int Model.ObsMem.set
  exact congrArg (fun (r : Int × OM) =>
    ({ r.2 with subject := Py.listSetItem r.2.subject (Py.land a m.physMask) r.1 } : OM))
    (key (Py.land a m.physMask) (m.wsubs.of (Py.land a m.physMask)) v m)

theorem getitem_int_eq : ObsMemGen.getitem_int = get := by
  funext reply m a
  have key : ∀ (a' : Int) (cbs : List Nat) (fin : Option Int) (s : OM),
      cbs.foldl (fun (acc : Option Int × OM) (cb : Nat) =>
          ((match (ObsMemGen.call reply acc.2 cb a' none).1 with
            | none => acc.1
            | some r => some r), (ObsMemGen.call reply acc.2 cb a' none).2)) (fin, s)
        = ((readLoop reply a' cbs fin s.log).1, { s with log := (readLoop reply a' cbs fin s.log).2 }) := by
    intro a' cbs
    induction cbs with
    | nil => intro fin s; rfl
    | cons cb rest ih =>
      intro fin s
      rw [List.foldl_cons, ih, readLoop]
      simp only [ObsMemGen.call]
      cases reply cb s.log.length a' none <;> rfl
  unfold ObsMemGen.getitem_int Model.ObsMem.get
  refine Eq.trans (congrArg (fun (r : Option Int × OM) =>
    (match r.1 with
     | none => (r.2.subject (Py.land a m.physMask), r.2)
     | some x => (x, r.2) : Int × OM))
    (key (Py.land a m.physMask) (m.rsubs.of (Py.land a m.physMask)) none m)) ?_
  simp only []
  cases (readLoop reply (Py.land a m.physMask) (m.rsubs.of (Py.land a m.physMask)) none m.log).1 <;> rfl

theorem setitem_slice_eq (reply : Reply) (m : OM) (sl : Py.PySlice) (vals : List Int) :
    ObsMemGen.setitem_slice reply m sl vals = setSlice reply m sl.start sl.stop sl.step vals := by
  unfold ObsMemGen.setitem_slice setSlice sliceRange
  rw [setitem_int_eq]
  cases sliceIndices (m.physMask + 1) sl.start sl.stop sl.step with
  | none => rfl
  | some r => simp only [Option.bind_some, Option.map_some, setMany_eq_foldl]

theorem getitem_slice_eq (reply : Reply) (m : OM) (sl : Py.PySlice) :
    ObsMemGen.getitem_slice reply m sl = getSlice reply m sl.start sl.stop sl.step := by
  unfold ObsMemGen.getitem_slice getSlice sliceRange
  rw [getitem_int_eq]
  cases sliceIndices (m.physMask + 1) sl.start sl.stop sl.step with
  | none => rfl
  | some r => simp only [Option.bind_some, Option.map_some, getMany_eq_foldl]

/-- The loop of the generated `subscribe_to_read` / `subscribe_to_write`, over whichever dictionary field
`get` reads and `put` replaces: it is `subOne` folded over that field. -/
theorem subscribe_loop (get : OM → Subs) (put : OM → Subs → OM) (hg : ∀ s x, get (put s x) = x)
    (hm : ∀ s x, (put s x).physMask = s.physMask) (hpp : ∀ s x y, put (put s x) y = put s y)
    (hid : ∀ s, put s (get s) = s) (cb : Nat) (addrs : List Int) :
    ∀ s : OM,
      addrs.foldl (fun (s : OM) (address : Int) =>
          if ¬ (cb ∈ (get s).of (Py.land address s.physMask))
          then put s (Subs.set (get s) (Py.land address s.physMask)
                       ((get s).of (Py.land address s.physMask) ++ [cb]))
          else s) s
        = put s (addrs.foldl (subOne s.physMask cb) (get s)) := by
  induction addrs with
  | nil => intro s; exact (hid s).symm
  | cons x rest ih =>
    intro s
    rw [List.foldl_cons, ih, List.foldl_cons]
    by_cases h : cb ∈ (get s).of (Py.land x s.physMask) <;> simp [h, subOne, Subs.set, hg, hm, hpp]

theorem subscribe_to_write_eq : ObsMemGen.subscribe_to_write = subscribeWrite := by
  funext m addrs cb
  exact subscribe_loop (·.wsubs) (fun s x => { s with wsubs := x }) (fun _ _ => rfl) (fun _ _ => rfl)
    (fun _ _ _ => rfl) (fun _ => rfl) cb addrs m

theorem subscribe_to_read_eq : ObsMemGen.subscribe_to_read = subscribeRead := by
  funext m addrs cb
  exact subscribe_loop (·.rsubs) (fun s x => { s with rsubs := x }) (fun _ _ => rfl) (fun _ _ => rfl)
    (fun _ _ _ => rfl) (fun _ => rfl) cb addrs m

/-- CPython list slice assignment `lst[s : s + len(vals)] = vals` is the overlay the hand model
uses: positions `min s L … + len(vals)` receive `vals`, nothing else changes, the list grows to
`max L (min s L + len(vals))`. -/
theorem listSliceAssign_overlay (cells : Int → Int) (L s : Int) (vals : List Int) :
    Py.listSliceAssign cells L s (s + (vals.length : Int)) vals =
      (fun k => if (if s > L then L else s) ≤ k ∧ k < (if s > L then L else s) + (vals.length : Int)
                then vals.getD (k - (if s > L then L else s)).toNat 0 else cells k,
       if L < (if s > L then L else s) + (vals.length : Int)
       then (if s > L then L else s) + (vals.length : Int) else L) := by
  unfold Py.listSliceAssign
  have hn : (0 : Int) ≤ (vals.length : Int) := Int.natCast_nonneg _
  -- `s'`, `e`: the bounds clipped to the list; `e - s' = min n (L - s')` cells are replaced
  generalize hs : (if s > L then L else s) = s'
  have hs' : (L < s ∧ s' = L) ∨ (s ≤ L ∧ s' = s) := by rw [← hs]; split <;> omega
  generalize he : (if s + (vals.length : Int) > L then L else s + (vals.length : Int)) = e
  have he' : (L < s + vals.length ∧ e = L) ∨ (s + vals.length ≤ L ∧ e = s + vals.length) := by
    rw [← he]; split <;> omega
  simp only [if_neg (show ¬ e < s' by omega)]
  refine Prod.ext (funext fun k => ?_) ?_
  · show (if k < s' then cells k else if k < s' + _ then _ else if _ < L then cells _ else cells k) =
      if s' ≤ k ∧ k < s' + _ then _ else cells k
    by_cases h1 : k < s'
    · simp only [h1, if_true, Int.not_le.2 h1, false_and, if_false]
    · by_cases h2 : k < s' + (vals.length : Int)
      · simp only [h1, h2, if_false, if_true, Int.not_lt.1 h1, and_self]
      · simp only [h1, h2, if_false, and_false]
        -- behind the bytes: the segment was cut at the end of the list (nothing there), or `e - s' = n`
        split
        · congr 1; omega
        · rfl
  · show L - _ + _ = _
    split <;> omega

theorem write_eq : ObsMemGen.write = write := by
  funext m s bytes
  unfold ObsMemGen.write write
  simp only [listSliceAssign_overlay]

/-- One operation of a history, performed with the generated methods. -/
def apply (reply : Reply) (m : OM) : Op → Out × OM
  | .subR addrs cb => (.unit, ObsMemGen.subscribe_to_read m addrs cb)
  | .subW addrs cb => (.unit, ObsMemGen.subscribe_to_write m addrs cb)
  | .get a => let r := ObsMemGen.getitem_int reply m a; (.val r.1, r.2)
  | .set a v => (.unit, ObsMemGen.setitem_int reply m a v)
  | .getSlice s e st =>
    match ObsMemGen.getitem_slice reply m ⟨s, e, st⟩ with
    | some r => (.vals r.1, r.2)
    | none => (.valueError, m)
  | .setSlice s e st vs =>
    match ObsMemGen.setitem_slice reply m ⟨s, e, st⟩ vs with
    | some m' => (.unit, m')
    | none => (.valueError, m)
  | .write s bs => (.unit, ObsMemGen.write m s bs)

def run (reply : Reply) (m : OM) (hist : List Op) : OM :=
  hist.foldl (fun m op => (apply reply m op).2) m

theorem apply_eq : apply = Model.ObsMem.apply := by
  funext reply m op
  cases op <;>
    simp only [apply, Model.ObsMem.apply, subscribe_to_read_eq, subscribe_to_write_eq, getitem_int_eq,
      setitem_int_eq, getitem_slice_eq, setitem_slice_eq, write_eq] <;> rfl

theorem run_eq : run = Model.ObsMem.run := by
  funext reply m hist
  unfold run Model.ObsMem.run
  rw [apply_eq]

/-- One device access on the generated `ObservableMemory`. -/
def obsStep (reply : Reply) (m : OM) : MemEv → Option Int × OM
  | .r a => let r := ObsMemGen.getitem_int reply m a; (some r.1, r.2)
  | .w a v => (none, ObsMemGen.setitem_int reply m a v)

def replayObs (reply : Reply) : OM → List MemEv → List (Option Int) × OM
  | m, [] => ([], m)
  | m, e :: es =>
    let r := obsStep reply m e
    let r2 := replayObs reply r.2 es
    (r.1 :: r2.1, r2.2)

theorem obsStep_eq : obsStep = Spec.ObsMem.obsStep := by
  funext reply m e
  cases e <;> simp only [obsStep, Spec.ObsMem.obsStep, getitem_int_eq, setitem_int_eq]

theorem replayObs_eq : replayObs = Spec.ObsMem.replayObs := by
  funext reply m evs
  induction evs generalizing m with
  | nil => rfl
  | cons e es ih => simp only [replayObs, Spec.ObsMem.replayObs, ih, obsStep_eq]

end Py65.Proofs.ObsMemGenEq
