/-
Evaluation of closed `Py.land/lor/lxor/lnot` terms inside the simp sets `pyarith` and `pyconst`,
and the rotate idioms whose `| 1`, `| NEGATIVE` are data, not flag updates.
-/
import Py65.Proofs.FlagLits
import Py65.Machine
import Mathlib.Tactic.SplitIfs

namespace Py
open Lean Meta Simp

/-- `Py.lnot <literal>` ↦ literal (definitional). -/
dsimproc [pyarith, pyconst] reduceLnot (Py.lnot _) := fun e => do
  let_expr Py.lnot a := e | return .continue
  let some v ← Int.fromExpr? a | return .continue
  return .done (toExpr (-v - 1))

/-- `Py.lor <literal> <literal>` ↦ literal (definitional; kernel evaluates `Nat.lor`). -/
dsimproc [pyarith, pyconst] reduceLor (Py.lor _ _) := fun e => do
  let_expr Py.lor a b := e | return .continue
  let some x ← Int.fromExpr? a | return .continue
  let some y ← Int.fromExpr? b | return .continue
  return .done (toExpr (Py.lor x y))

dsimproc [pyarith, pyconst] reduceLand (Py.land _ _) := fun e => do
  let_expr Py.land a b := e | return .continue
  let some x ← Int.fromExpr? a | return .continue
  let some y ← Int.fromExpr? b | return .continue
  return .done (toExpr (Py.land x y))

dsimproc [pyarith, pyconst] reduceLxor (Py.lxor _ _) := fun e => do
  let_expr Py.lxor a b := e | return .continue
  let some x ← Int.fromExpr? a | return .continue
  let some y ← Int.fromExpr? b | return .continue
  return .done (toExpr (Py.lxor x y))

attribute [pyarith] land_lnot_right'

/-- rotate-left data idiom `(t << 1) | 1` (must not be read as a flag update) -/
@[flagalg ↓, pyarith ↓] theorem lor_shl_one (x : Int) : lor (shl x 1) 1 = x * 2 + 1 := by
  rw [lor_lit_1, land_lit_1]; simp [shl]

/-- rotate-right data idioms `(t >> 1) | NEGATIVE` -/
@[flagalg ↓, pyarith ↓] theorem lor_shr_128 (x : Int) : lor (shr x 1) 128 = x / 2 + 128 - x / 2 / 128 % 2 * 128 := by
  rw [lor_lit_128, land_lit_128]; simp [shr]
@[flagalg ↓, pyarith ↓] theorem lor_shr_32768 (x : Int) :
    lor (shr x 1) 32768 = x / 2 + 32768 - x / 2 / 32768 % 2 * 32768 := by
  rw [lor_lit_32768, land_lit_32768]; simp [shr]

attribute [pyarith ↓] lor_land
attribute [pyarith] land_neg shl shr

end Py
