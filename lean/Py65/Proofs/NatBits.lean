/-
Nat-level bit facts that core/Mathlib do not state in the form needed:
`a ||| b + a &&& b = a + b`, `a ^^^ b + 2 * (a &&& b) = a + b`, sub-mask subtraction.
-/
import Mathlib.Data.Nat.Bitwise

namespace Py65.NatBits

theorem or_add_and (a b : Nat) : (a ||| b) + (a &&& b) = a + b := by
  induction a using Nat.binaryRec generalizing b with
  | zero => simp
  | bit x a ih =>
    induction b using Nat.binaryRec with
    | zero => simp
    | bit y b _ =>
      rw [Nat.lor_bit, Nat.land_bit]
      simp only [Nat.bit_val]
      have := ih b
      cases x <;> cases y <;> simp <;> omega

theorem xor_add_two_and (a b : Nat) : (a ^^^ b) + 2 * (a &&& b) = a + b := by
  induction a using Nat.binaryRec generalizing b with
  | zero => simp
  | bit x a ih =>
    induction b using Nat.binaryRec with
    | zero => simp
    | bit y b _ =>
      rw [Nat.xor_bit, Nat.land_bit]
      simp only [Nat.bit_val]
      have := ih b
      cases x <;> cases y <;> simp <;> omega

theorem testBit_sub_and (v u i : Nat) :
    (v - (v &&& u)).testBit i = (v.testBit i && !u.testBit i) := by
  have h : v - (v &&& u) = v ^^^ (v &&& u) := by
    have h1 := xor_add_two_and v (v &&& u)
    have h2 : v &&& (v &&& u) = v &&& u := by
      apply Nat.eq_of_testBit_eq; intro j; simp
    rw [h2] at h1
    have : v &&& u ≤ v := Nat.and_le_left
    omega
  rw [h]; simp
  cases v.testBit i <;> cases u.testBit i <;> rfl

end Py65.NatBits
