/-
`step^[n]` of a generated device (what `Monitor._run` computes, C17 `run_is_iterate`) against the history
theorems C13h (`cycles_history`, `cycles_history_65c02_exact`) and C05h (`closed_history`), for
`Props/C17h.lean`.  `Hist.run d (List.replicate n Op.step)` is `d.step^[n]` (`iter_eq_run`); the
per-call hypotheses of the history theorems (`CycOK`, `OpOK`) become hypotheses about the first `n` states
of the iteration.
-/
import Py65.Props.C13h
import Py65.Props.C05h
import Py65.Proofs.Compose2Step

namespace Py65.Proofs.Compose2
open Py65 Py65.Gen Py65.Spec Py65.Proofs Py65.Proofs.Hist
open Py65.Props.C13h (docCycles opCycles CycOK braCount)

/-- A property of every `step()` call of the history of `n` steps = of the first `n` states of the iteration. -/
theorem along_steps (d : Dev) (Q : Op → St → Prop) (n : Nat) (s : St) :
    Along d Q (steps n) s ↔ ∀ m, m < n → Q .step (d.step^[m] s) := by
  induction n generalizing s with
  | zero => simp [steps, Along]
  | succ n ih =>
    rw [steps_succ]
    simp only [Along, ih]
    constructor
    · rintro ⟨h0, h⟩ m hm
      cases m with
      | zero => exact h0
      | succ m => exact h m (by omega)
    · intro h
      exact ⟨h 0 (by omega), fun m hm => h (m + 1) (by omega)⟩

/-- 65Org16: the opcode cells the first `n` steps execute hold bytes 0..255 (above 255 the real `step()`
raises IndexError, DESIGN 0.5: outside the quantifiers of C05 / C13).  Nothing for the 6502 / 65C02. -/
def CellsOK (d : Dev) (n : Nat) (s : St) : Prop :=
  d = .org16 → ∀ m, m < n → (d.step^[m] s).mem (d.step^[m] s).pc < 256

/-- 65C02: none of the first `n` steps executes BRA `$80` (C13b's exclusion; the exact form needs no such
hypothesis).  Nothing for the 6502 / 65Org16. -/
def NoBra (d : Dev) (n : Nat) (s : St) : Prop :=
  d = .cmos → ∀ m, m < n → (d.step^[m] s).waiting = false → (d.step^[m] s).mem (d.step^[m] s).pc ≠ 0x80

theorem opOK_steps (d : Dev) (n : Nat) (s : St) (h : CellsOK d n s) : Along d (OpOK d) (steps n) s :=
  (along_steps d _ n s).2 fun m hm hd => h hd m hm

theorem cycOK_steps (d : Dev) (n : Nat) (s : St) (h1 : CellsOK d n s) (h2 : NoBra d n s) :
    Along d (CycOK d) (steps n) s :=
  (along_steps d _ n s).2 fun m hm => ⟨fun hd hw => h2 hd m hm hw, fun hd => h1 hd m hm⟩

theorem CellsOK.mono {d : Dev} {n m : Nat} {s : St} (h : CellsOK d n s) (hm : m ≤ n) : CellsOK d m s :=
  fun hd k hk => h hd k (by omega)

theorem NoBra.mono {d : Dev} {n m : Nat} {s : St} (h : NoBra d n s) (hm : m ≤ n) : NoBra d m s :=
  fun hd k hk => h hd k (by omega)

/-- C05h over an iteration: every state of the first `n` steps, and the state after them, is well-formed. -/
theorem iter_inv (d : Dev) (n : Nat) (s : St) (hi : Inv d s) (h : CellsOK d n s) :
    ∀ m, m ≤ n → Inv d (d.step^[m] s) := by
  intro m hm
  rw [iter_eq_run]
  exact (Py65.Props.C05h.closed_history d (steps m) s hi (opOK_steps d m s (h.mono hm))).2

theorem iter_cycles (d : Dev) (n : Nat) (s : St) (hi : Inv d s) (h1 : CellsOK d n s) (h2 : NoBra d n s) :
    (d.step^[n] s).cycles = s.cycles + docCycles d (steps n) s := by
  rw [iter_eq_run]
  exact Py65.Props.C13h.cycles_history d (steps n) s hi (steps_noReset n) (cycOK_steps d n s h1 h2)

/-- The counter never decreases on the way: start ≤ after `m` steps ≤ after `n` steps. -/
theorem iter_cycles_mono (d : Dev) (n : Nat) (s : St) (hi : Inv d s) (h1 : CellsOK d n s) (h2 : NoBra d n s)
    (m : Nat) (hm : m ≤ n) :
    s.cycles ≤ (d.step^[m] s).cycles ∧ (d.step^[m] s).cycles ≤ (d.step^[n] s).cycles := by
  have e : steps n = steps m ++ steps (n - m) := by
    simp only [steps, List.replicate_append_replicate]; congr 1; omega
  have := Py65.Props.C13h.cycles_monotone_prefix d (steps m) (steps (n - m)) s hi
    (by rw [← e]; exact steps_noReset n) (by rw [← e]; exact cycOK_steps d n s h1 h2)
  rw [← e, ← iter_eq_run, ← iter_eq_run] at this
  exact this

/-- 65C02, every iteration (BRA included): documented sum minus one per executed BRA. -/
theorem iter_cycles_65c02 (n : Nat) (s : St) (hs : WF dev65c02.cfg s) :
    ((Dev.step .cmos)^[n] s).cycles = s.cycles + docCycles .cmos (steps n) s - braCount (steps n) s := by
  rw [iter_eq_run]
  exact Py65.Props.C13h.cycles_history_65c02_exact (steps n) s hs (steps_noReset n)

theorem iter_cycles_mono_65c02 (n : Nat) (s : St) (hs : WF dev65c02.cfg s) (m : Nat) (hm : m ≤ n) :
    s.cycles ≤ ((Dev.step .cmos)^[m] s).cycles ∧ ((Dev.step .cmos)^[m] s).cycles ≤ ((Dev.step .cmos)^[n] s).cycles := by
  have hi : Inv .cmos s := ⟨hs, fun h => absurd rfl h⟩
  have him := iter_inv .cmos m s hi (fun h => by cases h) m (Nat.le_refl _)
  refine ⟨?_, ?_⟩
  · rw [iter_eq_run]
    exact Py65.Props.C13h.cycles_monotone_history_65c02 (steps m) s hs (steps_noReset m)
  · have e : (Dev.step .cmos)^[n] s = (Dev.step .cmos)^[n - m] ((Dev.step .cmos)^[m] s) := by
      rw [← Function.iterate_add_apply]; congr 1; omega
    rw [e, iter_eq_run .cmos (n - m)]
    exact Py65.Props.C13h.cycles_monotone_history_65c02 (steps (n - m)) _ him.1 (steps_noReset _)

end Py65.Proofs.Compose2
