/-
Helper lemmas for C19 about the display-command model `Py65/Model/Show.lean`: closed forms of
`advance`, and the two inductions on the fuel of `walk` (what a completed walk visited; when a walk
completes).  Property theorems: `Py65/Props/C19c.lean`.
-/
import Py65.Model.Show
import Mathlib.Tactic.SplitIfs
import Mathlib.Data.List.Forall2

namespace Py65.Proofs.Show
open Py65.Model.PyStr Py65.Model.Show

/-- In an ordinary range (`start ≤ end`) the address just advances by the length. -/
theorem advance_plain (maxA : Int) : ∀ (n : Nat) (cur : Int) (nw : Bool),
    advance maxA false n cur nw = (cur + n, nw) := by
  intro n
  induction n with
  | zero => intro cur nw; simp [advance]
  | succ k ih =>
    intro cur nw
    simp only [advance, Bool.false_eq_true, false_and, if_false, ih]
    ext
    · push_cast; omega
    · rfl

/-- In a wrapping range (`start > end`) the address advances by the length modulo the size of the
address space, and passing the top ends the `needs_wrap` phase. -/
theorem advance_wrap (maxA : Int) : ∀ (n : Nat) (cur : Int) (nw : Bool), 0 ≤ cur → cur ≤ maxA → (n : Int) ≤ maxA + 1 →
    advance maxA true n cur nw = if cur + n > maxA then (cur + n - (maxA + 1), false) else (cur + n, nw) := by
  intro n
  induction n with
  | zero =>
    intro cur nw _ h2 _
    have : ¬ (cur + ((0 : Nat) : Int) > maxA) := by simp; omega
    rw [if_neg this]
    simp [advance]
  | succ k ih =>
    intro cur nw h1 h2 h3
    simp only [advance, true_and]
    by_cases hc : cur + 1 > maxA
    · have hk : ¬ ((0 : Int) + (k : Int) > maxA) := by push_cast at h3; omega
      have hk' : cur + ((k + 1 : Nat) : Int) > maxA := by push_cast; omega
      rw [if_pos hc, ih 0 false (Int.le_refl 0) (by omega) (by push_cast at h3; omega), if_neg hk, if_pos hk']
      ext
      · push_cast; omega
      · rfl
    · rw [if_neg hc, ih (cur + 1) nw (by omega) (by omega) (by push_cast at h3; omega)]
      by_cases hw : cur + 1 + (k : Int) > maxA
      · have hw' : cur + ((k + 1 : Nat) : Int) > maxA := by push_cast; omega
        rw [if_pos hw, if_pos hw']
        ext
        · push_cast; omega
        · rfl
      · have hw' : ¬ (cur + ((k + 1 : Nat) : Int) > maxA) := by push_cast; omega
        rw [if_neg hw, if_neg hw']
        ext
        · push_cast; omega
        · rfl

theorem advance_nonneg (maxA : Int) (w : Bool) : ∀ (n : Nat) (cur : Int) (nw : Bool), 0 ≤ cur →
    0 ≤ (advance maxA w n cur nw).1 := by
  intro n
  induction n with
  | zero => intro cur nw h; simpa [advance] using h
  | succ k ih =>
    intro cur nw h
    simp only [advance]
    split_ifs
    · exact ih 0 false (Int.le_refl 0)
    · exact ih (cur + 1) nw (by omega)

variable {ε : Type} (iat : Int → Except ε (Int × Str)) (fmt : Int → Int → Str → Except ε Str)

/-- What a COMPLETED walk printed: one line per visited instruction, in order, each the formatter's
text for (address, length, instruction text). -/
theorem walk_visits (maxA start end_ : Int) :
    ∀ (fuel : Nat) (cur : Int) (nw : Bool) (lines : List Str),
      walk iat fmt maxA start end_ fuel cur nw = (lines, .done) →
      ∃ vs, Visits iat maxA start end_ cur nw vs ∧
        List.Forall₂ (fun v line => fmt v.1 v.2.1 v.2.2 = .ok line) vs lines := by
  intro fuel
  induction fuel with
  | zero => intro cur nw lines h; simp [walk] at h
  | succ f ih =>
    intro cur nw lines h
    unfold walk at h
    by_cases hc : nw = true ∨ cur ≤ end_
    · simp only [hc, if_true] at h
      cases hi : iat cur with
      | error e => simp [hi] at h
      | ok t =>
        obtain ⟨len, text⟩ := t
        simp only [hi] at h
        cases hf : fmt cur len text with
        | error e => simp [hf] at h
        | ok line =>
          simp only [hf] at h
          by_cases hl : 0 ≤ len ∧ len < (f : Int)
          · simp only [hl, and_self, if_true, Prod.mk.injEq] at h
            obtain ⟨h1, h2⟩ := h
            obtain ⟨vs, hv, hfa⟩ := ih _ _ _ (Prod.ext rfl h2)
            refine ⟨(cur, len, text) :: vs, Visits.step hc hi hl.1 hv, ?_⟩
            rw [← h1]
            exact List.Forall₂.cons hf hfa
          · simp [hl] at h
    · simp only [hc, if_false, Prod.mk.injEq] at h
      exact ⟨[], Visits.stop hc, by rw [← h.1]; exact List.Forall₂.nil⟩

/-- In an ordinary range the visited instructions are consecutive: `Steps`. -/
theorem visits_plain (maxA start end_ : Int) (hse : ¬ start > end_) :
    ∀ (vs : List (Int × Int × Str)) (cur : Int), Visits iat maxA start end_ cur false vs → Steps iat end_ cur vs := by
  intro vs
  induction vs with
  | nil =>
    intro cur h
    cases h with
    | stop hn => exact Steps.stop (by simp at hn; omega)
  | cons v rest ih =>
    intro cur h
    cases h with
    | step hc hi hl hv =>
      have hd : decide (start > end_) = false := by simpa using hse
      rw [hd, advance_plain] at hv
      simp only [Bool.false_eq_true, false_or] at hc
      rename_i len text
      have : (len.toNat : Int) = len := Int.toNat_of_nonneg hl
      rw [this] at hv
      exact Steps.step hc hi hl (ih _ hv)

/-- Every visited address and length is non-negative when the walk starts at one. -/
theorem visits_nonneg (maxA start end_ : Int) :
    ∀ (vs : List (Int × Int × Str)) (cur : Int) (nw : Bool), 0 ≤ cur → Visits iat maxA start end_ cur nw vs →
      ∀ v ∈ vs, 0 ≤ v.1 ∧ 0 ≤ v.2.1 := by
  intro vs
  induction vs with
  | nil => intro cur nw _ _ v hv; simp at hv
  | cons w rest ih =>
    intro cur nw h0 h v hv
    cases h with
    | step hc hi hl hvs =>
      rcases List.mem_cons.1 hv with rfl | hm
      · exact ⟨h0, hl⟩
      · exact ih _ _ (advance_nonneg _ _ _ _ _ h0) hvs v hm

/-- An ordinary range whose instructions (from `lo` on: the walk never looks below where it starts)
all have a length in `1 … L` and a printable line is walked to its end within `cells + L + 1` units
of fuel (`cells` = addresses from `cur` to `end`). -/
theorem walk_complete (maxA start end_ : Int) (hse : ¬ start > end_) (L : Nat) (lo : Int)
    (hi : ∀ a, lo ≤ a → a ≤ end_ → ∃ len text line, iat a = .ok (len, text) ∧ 1 ≤ len ∧ len ≤ (L : Int) ∧
      fmt a len text = .ok line) :
    ∀ (fuel : Nat) (cur : Int), lo ≤ cur → (end_ - cur + 1).toNat + L + 1 ≤ fuel →
      (walk iat fmt maxA start end_ fuel cur false).2 = .done := by
  intro fuel
  induction fuel with
  | zero => intro cur _ h; omega
  | succ f ih =>
    intro cur hlo h
    unfold walk
    by_cases hc : cur ≤ end_
    · obtain ⟨len, text, line, h1, h2, h3, h4⟩ := hi cur hlo hc
      have hl : 0 ≤ len ∧ len < (f : Int) := by omega
      have hd : decide (start > end_) = false := by simpa using hse
      simp only [Bool.false_eq_true, false_or, hc, if_true, h1, h4, hl, and_self, hd, advance_plain]
      have : (len.toNat : Int) = len := Int.toNat_of_nonneg (by omega)
      apply ih <;> omega
    · simp [hc]

theorem advance_flag_false (maxA : Int) (w : Bool) : ∀ (n : Nat) (cur : Int), (advance maxA w n cur false).2 = false := by
  intro n
  induction n with
  | zero => intro cur; rfl
  | succ k ih => intro cur; simp only [advance]; split_ifs <;> exact ih _

/-- While a wrapping walk still has to wrap, its address is inside the address space. -/
theorem advance_flag_le (maxA : Int) : ∀ (n : Nat) (cur : Int) (nw : Bool), cur ≤ maxA →
    (advance maxA true n cur nw).2 = true → (advance maxA true n cur nw).1 ≤ maxA := by
  intro n
  induction n with
  | zero => intro cur nw h _; simpa [advance] using h
  | succ k ih =>
    intro cur nw h hf
    simp only [advance, true_and] at hf ⊢
    by_cases hc : cur + 1 > maxA
    · rw [if_pos hc] at hf
      rw [advance_flag_false] at hf
      exact absurd hf (by simp)
    · rw [if_neg hc] at hf ⊢
      exact ih _ _ (by omega) hf

/-- Every visited address lies inside the address space when the range does (`end ≤ maxA`, and
`start ≤ maxA` for a wrapping walk). -/
theorem visits_le (maxA start end_ : Int) (he : end_ ≤ maxA) :
    ∀ (vs : List (Int × Int × Str)) (cur : Int) (nw : Bool),
      (nw = true → decide (start > end_) = true ∧ cur ≤ maxA) → Visits iat maxA start end_ cur nw vs →
      ∀ v ∈ vs, v.1 ≤ maxA := by
  intro vs
  induction vs with
  | nil => intro cur nw _ _ v hv; simp at hv
  | cons w rest ih =>
    intro cur nw hinv h v hv
    cases h with
    | step hc hi hl hvs =>
      have hcur : cur ≤ maxA := by
        rcases hc with hnw | hle
        · exact (hinv hnw).2
        · omega
      rcases List.mem_cons.1 hv with rfl | hm
      · exact hcur
      · refine ih _ _ ?_ hvs v hm
        intro hf
        cases nw with
        | false => rw [advance_flag_false] at hf; exact absurd hf (by simp)
        | true =>
          have hw := (hinv rfl).1
          rw [hw] at hf ⊢
          exact ⟨rfl, advance_flag_le maxA _ _ _ hcur hf⟩

theorem forall₂_and_left {α β : Type} {R : α → β → Prop} {Q : α → Prop} :
    ∀ {l : List α} {m : List β}, List.Forall₂ R l m → (∀ a ∈ l, Q a) → List.Forall₂ (fun a b => Q a ∧ R a b) l m := by
  intro l m h
  induction h with
  | nil => intro _; exact List.Forall₂.nil
  | cons hr _ ih =>
    intro hq
    exact List.Forall₂.cons ⟨hq _ (List.mem_cons_self ..), hr⟩ (ih fun a ha => hq a (List.mem_cons_of_mem _ ha))

end Py65.Proofs.Show
