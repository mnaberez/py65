/-
`Eff` of the operation helpers, over an arbitrary addressing-mode helper `x`, and of the handler of every
table row (`stdHandler_eff`): a row's handler is its operation applied to its mode and a PC increment, so its
case is one application; the handlers that are written out in py65 (BRK, JSR, RTS, RTI, the stack and
transfer instructions, the jumps) are followed access by access.
-/
import Py65.Proofs.HistLog
import Py65.Proofs.Rows

namespace Py65.Proofs
open Py65 Py65.Gen Py65.Spec Py

theorem FlagsNZ_log (c : Cfg) (v : Int) (s : St) : (Mpu6502.FlagsNZ c v s).log = s.log :=
  (apply_ite St.log _ _ _).trans (ite_self _)

/-- `same_lm [op]` proves `t.log = s'.log ∧ t.mem = s'.mem` where `t` is `s'` after the flag and register
updates of the operation `op`: unfold it and push the two projections through its conditionals. -/
macro "same_lm" "[" ops:Lean.Parser.Tactic.simpLemma,* "]" : tactic =>
  `(tactic| simp only [$ops,*, FlagsNZ_log, FlagsNZ_mem, apply_ite Prod.fst,
      apply_ite Prod.snd, apply_ite St.log, apply_ite St.mem, ite_self, and_self])

section ops
variable {c : Cfg} {x : St → Int × St}

theorem ModeEff.a_eq (hx : ModeEff c x) (s : St) : (x s).2.a = s.a := congrArg AState.a (hx.core s)
theorem ModeEff.x_eq (hx : ModeEff c x) (s : St) : (x s).2.x = s.x := congrArg AState.x (hx.core s)
theorem ModeEff.y_eq (hx : ModeEff c x) (s : St) : (x s).2.y = s.y := congrArg AState.y (hx.core s)

theorem ModeEff.byte (hx : ModeEff c x) {s : St} (hr : Rng c s) (k : Int) :
    InB c.BYTE_WIDTH ((x s).2.mem k) :=
  have e : (x s).2.mem = s.mem := congrArg AState.mem (hx.core s)
  e ▸ hr.mem k

theorem HandlerEff.bump {h : St → St} (hh : HandlerEff c h) (k : Int) :
    HandlerEff c fun s => bump k (h s) := fun s => (hh s).regs

theorem ModeEff.operand (hx : ModeEff c x) (s : St) : Eff c s (Mpu6502.ByteAt c (x s).1 (x s).2).2 :=
  (hx.eff s).read _ (hx.addr s)

theorem opORA_eff (hx : ModeEff c x) : HandlerEff c (Mpu6502.opORA c x) := fun s =>
  (hx.operand s).congr ⟨FlagsNZ_log _ _ _, FlagsNZ_mem _ _ _⟩
theorem opAND_eff (hx : ModeEff c x) : HandlerEff c (Mpu6502.opAND c x) := fun s =>
  (hx.operand s).congr ⟨FlagsNZ_log _ _ _, FlagsNZ_mem _ _ _⟩
theorem opEOR_eff (hx : ModeEff c x) : HandlerEff c (Mpu6502.opEOR c x) := fun s =>
  (hx.operand s).congr ⟨FlagsNZ_log _ _ _, FlagsNZ_mem _ _ _⟩
theorem opLDA_eff (hx : ModeEff c x) : HandlerEff c (Mpu6502.opLDA c x) := fun s =>
  (hx.operand s).congr ⟨FlagsNZ_log _ _ _, FlagsNZ_mem _ _ _⟩
theorem opLDX_eff (hx : ModeEff c x) : HandlerEff c (Mpu6502.opLDX c x) := fun s =>
  (hx.operand s).congr ⟨FlagsNZ_log _ _ _, FlagsNZ_mem _ _ _⟩
theorem opLDY_eff (hx : ModeEff c x) : HandlerEff c (Mpu6502.opLDY c x) := fun s =>
  (hx.operand s).congr ⟨FlagsNZ_log _ _ _, FlagsNZ_mem _ _ _⟩
theorem opBIT_eff (hx : ModeEff c x) : HandlerEff c (Mpu6502.opBIT c x) := fun s =>
  (hx.operand s).congr (by same_lm [Mpu6502.opBIT])
theorem opCMPR_eff (hx : ModeEff c x) (r : St → Int) : HandlerEff c fun s => Mpu6502.opCMPR c x (r s) s :=
  fun s => (hx.operand s).congr (by same_lm [Mpu6502.opCMPR])
theorem opADC_eff (hx : ModeEff c x) : HandlerEff c (Mpu6502.opADC c x) := fun s =>
  (hx.operand s).congr (by same_lm [Mpu6502.opADC])
theorem opSBC_eff (hx : ModeEff c x) : HandlerEff c (Mpu6502.opSBC c x) := fun s =>
  (hx.operand s).congr (by same_lm [Mpu6502.opSBC])

theorem opSTA_eff (hx : ModeEff c x) : HandlerEff c (Mpu6502.opSTA c x) := fun s =>
  (hx.eff s).write _ _ fun hr => ⟨hx.addr s hr, hx.a_eq s ▸ hr.a⟩
theorem opSTX_eff (hx : ModeEff c x) : HandlerEff c (Mpu6502.opSTX c x) := fun s =>
  (hx.eff s).write _ _ fun hr => ⟨hx.addr s hr, hx.x_eq s ▸ hr.x⟩
theorem opSTY_eff (hx : ModeEff c x) : HandlerEff c (Mpu6502.opSTY c x) := fun s =>
  (hx.eff s).write _ _ fun hr => ⟨hx.addr s hr, hx.y_eq s ▸ hr.y⟩
theorem opSTZ_eff (hc : IsDev c) (hx : ModeEff c x) : HandlerEff c (Mpu65c02.opSTZ c x) := fun s =>
  (hx.eff s).write _ _ fun hr => ⟨hx.addr s hr, inB_zero hc.W⟩

/- Read, modify, write back: the value written is masked, or a byte shifted right or with bits set / cleared. -/

theorem opASL_mem_eff (hc : IsDev c) (hx : ModeEff c x) : HandlerEff c (Mpu6502.opASL_mem c x) := fun s =>
  Eff.write ((hx.operand s).congr (by same_lm [Mpu6502.opASL_mem])) _ _ fun hr =>
    ⟨hx.addr s hr, inB_land_byteMask hc _⟩
theorem opROL_mem_eff (hc : IsDev c) (hx : ModeEff c x) : HandlerEff c (Mpu6502.opROL_mem c x) := fun s =>
  Eff.write ((hx.operand s).congr (by same_lm [Mpu6502.opROL_mem])) _ _ fun hr =>
    ⟨hx.addr s hr, inB_land_byteMask hc _⟩
theorem opINCR_mem_eff (hc : IsDev c) (hx : ModeEff c x) : HandlerEff c (Mpu6502.opINCR_mem c x) := fun s =>
  Eff.write ((hx.operand s).congr (by same_lm [Mpu6502.opINCR_mem])) _ _ fun hr =>
    ⟨hx.addr s hr, inB_land_byteMask hc _⟩
theorem opDECR_mem_eff (hc : IsDev c) (hx : ModeEff c x) : HandlerEff c (Mpu6502.opDECR_mem c x) := fun s =>
  Eff.write ((hx.operand s).congr (by same_lm [Mpu6502.opDECR_mem])) _ _ fun hr =>
    ⟨hx.addr s hr, inB_land_byteMask hc _⟩
theorem opLSR_mem_eff (hx : ModeEff c x) : HandlerEff c (Mpu6502.opLSR_mem c x) := fun s =>
  Eff.write ((hx.operand s).congr (by same_lm [Mpu6502.opLSR_mem])) _ _ fun hr =>
    ⟨hx.addr s hr, inB_shr1 (hx.byte hr _)⟩
theorem opROR_mem_eff (hc : IsDev c) (hx : ModeEff c x) : HandlerEff c (Mpu6502.opROR_mem c x) := fun s =>
  Eff.write ((hx.operand s).congr (by same_lm [Mpu6502.opROR_mem])) _ _ fun hr =>
    ⟨hx.addr s hr, by
      rw [apply_ite Prod.fst]
      exact inB_ite (inB_lor (inB_shr1 (hx.byte hr _)) (inB_consts hc).2.2.2.2.2.2.2.1) (inB_shr1 (hx.byte hr _))⟩
theorem opTSB_eff (hx : ModeEff c x) : HandlerEff c (Mpu65c02.opTSB c x) := fun s =>
  Eff.write ((show Eff c s (memGet _ _).2 from hx.operand s).congr (by same_lm [Mpu65c02.opTSB])) _ _ fun hr =>
    ⟨hx.addr s hr, by
      rw [apply_ite St.a, ite_self]
      exact inB_lor (hx.byte hr _) (hx.a_eq s ▸ hr.a)⟩
theorem opTRB_eff (hx : ModeEff c x) : HandlerEff c (Mpu65c02.opTRB c x) := fun s =>
  Eff.write ((show Eff c s (memGet _ _).2 from hx.operand s).congr (by same_lm [Mpu65c02.opTRB])) _ _ fun hr =>
    ⟨hx.addr s hr, inB_land_left _ (hx.byte hr _)⟩
theorem opRMB_eff (hx : ModeEff c x) (m : Int) : HandlerEff c (Mpu65c02.opRMB c x m) := fun s =>
  (hx.operand s).write _ _ fun hr => ⟨hx.addr s hr, inB_land_left _ (hx.byte hr _)⟩
theorem opSMB_eff (hx : ModeEff c x) {m : Int} (hm : InB c.BYTE_WIDTH m) :
    HandlerEff c (Mpu65c02.opSMB c x m) := fun s =>
  (hx.operand s).write _ _ fun hr => ⟨hx.addr s hr, inB_lor (hx.byte hr _) hm⟩

theorem HandlerEff.pure {h : St → St} (hlm : ∀ s, (h s).log = s.log ∧ (h s).mem = s.mem) :
    HandlerEff c h := fun s => (Eff.refl c s).congr (hlm s)

theorem opASL_acc_eff (c : Cfg) : HandlerEff c (Mpu6502.opASL_acc c) := .pure fun _ => by same_lm [Mpu6502.opASL_acc]
theorem opLSR_acc_eff (c : Cfg) : HandlerEff c (Mpu6502.opLSR_acc c) := .pure fun _ => by same_lm [Mpu6502.opLSR_acc]
theorem opROL_acc_eff (c : Cfg) : HandlerEff c (Mpu6502.opROL_acc c) := .pure fun _ => by same_lm [Mpu6502.opROL_acc]
theorem opROR_acc_eff (c : Cfg) : HandlerEff c (Mpu6502.opROR_acc c) := .pure fun _ => by same_lm [Mpu6502.opROR_acc]
theorem opINCR_acc_eff (c : Cfg) : HandlerEff c (Mpu6502.opINCR_acc c) :=
  .pure fun _ => by same_lm [Mpu6502.opINCR_acc]
theorem opDECR_acc_eff (c : Cfg) : HandlerEff c (Mpu6502.opDECR_acc c) :=
  .pure fun _ => by same_lm [Mpu6502.opDECR_acc]
theorem opSET_eff (c : Cfg) (m : Int) : HandlerEff c (Mpu6502.opSET c m) := fun s => (Eff.refl c s).regs
theorem opCLR_eff (c : Cfg) (m : Int) : HandlerEff c (Mpu6502.opCLR c m) := fun s => (Eff.refl c s).regs

/-- a register transfer or increment followed by `FlagsNZ` -/
theorem flagsNZ_eff (c : Cfg) (f : St → St) (v : St → Int) (hf : ∀ s, (f s).log = s.log ∧ (f s).mem = s.mem) :
    HandlerEff c fun s => Mpu6502.FlagsNZ c (v s) (f s) :=
  .pure fun s => ⟨(FlagsNZ_log _ _ _).trans (hf s).1, (FlagsNZ_mem _ _ _).trans (hf s).2⟩

theorem BranchRelAddr_eff (c : Cfg) : HandlerEff c (Mpu6502.BranchRelAddr c) := fun s =>
  Eff.congr (s' := (Mpu6502.ImmediateByte c { s with excycles := s.excycles + 1 }).2)
    ((Eff.refl c s).read s.pc (·.pc)) (by same_lm [Mpu6502.BranchRelAddr])
theorem opBST_eff (c : Cfg) (m : Int) : HandlerEff c (Mpu6502.opBST c m) := fun s =>
  Eff.ite (BranchRelAddr_eff c s) (Eff.refl c s)
theorem opBCL_eff (c : Cfg) (m : Int) : HandlerEff c (Mpu6502.opBCL c m) := fun s =>
  Eff.ite (Eff.refl c s) (BranchRelAddr_eff c s)

theorem irq_eff (hc : IsDev c) : HandlerEff c (Mpu6502.irq c) := fun s =>
  Eff.ite (Eff.refl c s)
    ((((Eff.refl c s).pushWord hc _ (·.sp)).regs.push hc _ fun _ => inB_land_byteMask hc _).regs.wordAt hc c.IRQ
      fun _ => (inA_vectors hc).1).regs.regs

theorem nmi_eff (hc : IsDev c) : HandlerEff c (Mpu6502.nmi c) := fun s =>
  ((((Eff.refl c s).pushWord hc _ (·.sp)).regs.push hc _ fun _ => inB_land_byteMask hc _).regs.wordAt hc c.NMI
    fun _ => (inA_vectors hc).2.1).regs.regs

theorem reset_vec_eff (hc : IsDev c) : HandlerEff c (Mpu6502.reset_vec c) := fun s =>
  ((Eff.refl c s).wordAt hc c.RESET fun _ => (inA_vectors hc).2.2).congr (by same_lm [Mpu6502.reset_vec])

theorem reset_at_eff (c : Cfg) (a : Int) : HandlerEff c (Mpu6502.reset_at c a) :=
  .pure fun _ => by same_lm [Mpu6502.reset_at]

end ops

section rows
variable {c : Cfg} {v : Variant} {mo : Mode} {f : (St → Int × St) → St → St} {h : St → St} (hc : IsDev c)
include hc

theorem modeFn_eff {x : St → Int × St} (hx : modeFn c v mo = some x) : ModeEff c x :=
  modeFn_rec (Q := fun x _ => ModeEff c x) hx ProgramCounter_eff (ZeroPageAddr_eff hc) (ZeroPageXAddr_eff hc)
    (ZeroPageYAddr_eff hc) (AbsoluteAddr_eff hc) (AbsoluteXAddr_eff hc) (AbsoluteYAddr_eff hc)
    (IndirectXAddr_eff hc) (IndirectYAddr_eff hc) fun _ => ZeroPageIndirectAddr_eff hc

theorem viaMode_eff (hh : viaMode c v mo f = some h) (hf : ∀ x, ModeEff c x → HandlerEff c (f x)) :
    HandlerEff c h :=
  viaMode_rec hh fun x hx => (hf x (modeFn_eff hc hx)).bump _

theorem viaAddr_eff (hh : viaAddr c v mo f = some h) (hf : ∀ x, ModeEff c x → HandlerEff c (f x)) :
    HandlerEff c h :=
  viaAddr_rec hh fun _ x hx => (hf x (modeFn_eff hc hx)).bump _

theorem rmwHandler_eff {a : St → St} (hh : rmwHandler c v mo a f = some h) (ha : HandlerEff c a)
    (hf : ∀ x, ModeEff c x → HandlerEff c (f x)) : HandlerEff c h :=
  rmwHandler_rec (Q := fun _ h => HandlerEff c h) hh ha fun _ _ x hx => (hf x (modeFn_eff hc hx)).bump _

end rows

theorem inB_bit {W : Nat} (hW : W = 8 ∨ W = 16) {b : Nat} (hb : b < 8) : InB W ((2 : Int) ^ b) := by
  have h : 2 ^ b < 2 ^ 8 := Nat.pow_lt_pow_right (by decide) hb
  exact inB_small hW _ (Int.pow_nonneg (by decide)) (by exact_mod_cast Nat.le_of_lt_succ h)

theorem cmosHandler_eff {c : Cfg} (hc : IsDev c) {mn : Mn} {mo : Mode} {h : St → St}
    (hh : cmosHandler c mn mo = some h) : HandlerEff c h := by
  cases mn with
  | BRA => exact atMode_rec hh (BranchRelAddr_eff c)
  | PHX => exact atMode_rec hh fun s => (Eff.refl c s).push hc _ (·.sp)
  | PHY => exact atMode_rec hh fun s => (Eff.refl c s).push hc _ (·.sp)
  | PLX => exact atMode_rec hh fun s => ((Eff.refl c s).pop hc).regs.congr ⟨FlagsNZ_log _ _ _, FlagsNZ_mem _ _ _⟩
  | PLY => exact atMode_rec hh fun s => ((Eff.refl c s).pop hc).regs.congr ⟨FlagsNZ_log _ _ _, FlagsNZ_mem _ _ _⟩
  | WAI => exact atMode_rec hh fun s => (Eff.refl c s).regs
  | STZ => exact viaAddr_eff hc hh fun _ => opSTZ_eff hc
  | TSB => exact viaAddr_eff hc hh fun _ => opTSB_eff
  | TRB => exact viaAddr_eff hc hh fun _ => opTRB_eff
  | RMB b => exact bitRow_rec hh fun _ hh => viaAddr_eff hc hh fun _ hx => opRMB_eff hx _
  | SMB b => exact bitRow_rec hh fun hb hh => viaAddr_eff hc hh fun _ hx => opSMB_eff hx (inB_bit hc.W hb)
  | _ => cases hh

theorem stdHandler_eff {c : Cfg} (hc : IsDev c) {v : Variant} {mn : Mn} {mo : Mode} {h : St → St}
    (hh : stdHandler c v mn mo = some h) : HandlerEff c h := by
  cases mn with
  | ORA => exact viaMode_eff hc hh fun _ => opORA_eff
  | AND => exact viaMode_eff hc hh fun _ => opAND_eff
  | EOR => exact viaMode_eff hc hh fun _ => opEOR_eff
  | ADC => exact viaMode_eff hc hh fun _ => opADC_eff
  | SBC => exact viaMode_eff hc hh fun _ => opSBC_eff
  | LDA => exact viaMode_eff hc hh fun _ => opLDA_eff
  | LDX => exact viaMode_eff hc hh fun _ => opLDX_eff
  | LDY => exact viaMode_eff hc hh fun _ => opLDY_eff
  | CMP => exact viaMode_eff hc hh fun _ hx => opCMPR_eff hx (·.a)
  | CPX => exact viaMode_eff hc hh fun _ hx => opCMPR_eff hx (·.x)
  | CPY => exact viaMode_eff hc hh fun _ hx => opCMPR_eff hx (·.y)
  | BIT =>
    by_cases hm : mo = .imm
    · subst hm
      refine cmosOnly_rec hh fun _ hh => ?_
      obtain rfl := Option.some.inj hh
      exact fun s => Eff.congr (s' := (Mpu6502.ImmediateByte c s).2) ((Eff.refl c s).read s.pc (·.pc))
        (by same_lm [Mpu65c02.inst_0x89])
    · exact viaMode_eff hc ((if_neg hm).symm.trans hh) fun _ => opBIT_eff
  | STA => exact viaAddr_eff hc hh fun _ => opSTA_eff
  | STX => exact viaAddr_eff hc hh fun _ => opSTX_eff
  | STY => exact viaAddr_eff hc hh fun _ => opSTY_eff
  | ASL => exact rmwHandler_eff hc hh (opASL_acc_eff c) fun _ => opASL_mem_eff hc
  | LSR => exact rmwHandler_eff hc hh (opLSR_acc_eff c) fun _ => opLSR_mem_eff
  | ROL => exact rmwHandler_eff hc hh (opROL_acc_eff c) fun _ => opROL_mem_eff hc
  | ROR => exact rmwHandler_eff hc hh (opROR_acc_eff c) fun _ => opROR_mem_eff hc
  | INC => exact rmwHandler_eff hc hh (opINCR_acc_eff c) fun _ => opINCR_mem_eff hc
  | DEC => exact rmwHandler_eff hc hh (opDECR_acc_eff c) fun _ => opDECR_mem_eff hc
  | BRK =>
    cases v with
    | nmos =>
      exact atMode_rec hh fun s =>
        ((((Eff.refl c s).pushWord hc _ (·.sp)).regs.push hc _ fun _ => inB_land_byteMask hc _).regs.wordAt hc
          c.IRQ fun _ => (inA_vectors hc).1).regs
    | cmos =>
      exact atMode_rec hh fun s =>
        ((((Eff.refl c s).pushWord hc _ (·.sp)).regs.push hc _ fun _ => inB_land_byteMask hc _).regs.wordAt hc
          c.IRQ fun _ => (inA_vectors hc).1).regs.regs
  | JSR =>
    exact atMode_rec hh fun s =>
      (((Eff.refl c s).pushWord hc _ (·.sp)).wordAt hc _ fun hr => (stPushWord_pc _ s).symm ▸ hr.pc).regs
  | RTS => exact atMode_rec hh fun s => ((Eff.refl c s).popWord hc).regs.regs
  | RTI => exact atMode_rec hh fun s => (((Eff.refl c s).pop hc).regs.popWord hc).regs
  | JMP =>
    cases mo with
    | abs =>
      obtain rfl := Option.some.inj hh
      exact fun s => ((Eff.refl c s).wordAt hc s.pc (·.pc)).regs
    | ind =>
      obtain rfl := Option.some.inj hh
      cases v with
      | nmos => exact fun s => (((Eff.refl c s).wordAt hc s.pc (·.pc)).wrapAt hc _ fun hr => hr.wordAt hc s.pc).regs
      | cmos => exact fun s => (((Eff.refl c s).wordAt hc s.pc (·.pc)).wordAt hc _ fun hr => hr.wordAt hc s.pc).regs
    | iax =>
      refine cmosOnly_rec hh fun _ hh => ?_
      obtain rfl := Option.some.inj hh
      exact fun s => (((IndirectAbsXAddr_eff hc).eff s).wordAt hc _ ((IndirectAbsXAddr_eff hc).addr s)).regs
    | _ => cases hh
  | PHP => exact atMode_rec hh fun s => (Eff.refl c s).push hc _ (·.sp)
  | PLP => exact atMode_rec hh fun s => ((Eff.refl c s).pop hc).regs
  | PHA => exact atMode_rec hh fun s => (Eff.refl c s).push hc _ (·.sp)
  | PLA => exact atMode_rec hh fun s => ((Eff.refl c s).pop hc).regs.congr ⟨FlagsNZ_log _ _ _, FlagsNZ_mem _ _ _⟩
  | BPL => exact atMode_rec hh (opBCL_eff c _)
  | BMI => exact atMode_rec hh (opBST_eff c _)
  | BVC => exact atMode_rec hh (opBCL_eff c _)
  | BVS => exact atMode_rec hh (opBST_eff c _)
  | BCC => exact atMode_rec hh (opBCL_eff c _)
  | BCS => exact atMode_rec hh (opBST_eff c _)
  | BNE => exact atMode_rec hh (opBCL_eff c _)
  | BEQ => exact atMode_rec hh (opBST_eff c _)
  | CLC => exact atMode_rec hh (opCLR_eff c _)
  | SEC => exact atMode_rec hh (opSET_eff c _)
  | CLI => exact atMode_rec hh (opCLR_eff c _)
  | SEI => exact atMode_rec hh (opSET_eff c _)
  | CLV => exact atMode_rec hh (opCLR_eff c _)
  | CLD => exact atMode_rec hh (opCLR_eff c _)
  | SED => exact atMode_rec hh (opSET_eff c _)
  | TAX => exact atMode_rec hh (flagsNZ_eff c _ _ fun _ => ⟨rfl, rfl⟩)
  | TAY => exact atMode_rec hh (flagsNZ_eff c _ _ fun _ => ⟨rfl, rfl⟩)
  | TXA => exact atMode_rec hh (flagsNZ_eff c _ _ fun _ => ⟨rfl, rfl⟩)
  | TYA => exact atMode_rec hh (flagsNZ_eff c _ _ fun _ => ⟨rfl, rfl⟩)
  | TSX => exact atMode_rec hh (flagsNZ_eff c _ _ fun _ => ⟨rfl, rfl⟩)
  | TXS => exact atMode_rec hh fun s => (Eff.refl c s).regs
  | INX => exact atMode_rec hh (flagsNZ_eff c _ _ fun _ => ⟨rfl, rfl⟩)
  | INY => exact atMode_rec hh (flagsNZ_eff c _ _ fun _ => ⟨rfl, rfl⟩)
  | DEX => exact atMode_rec hh (flagsNZ_eff c _ _ fun _ => ⟨rfl, rfl⟩)
  | DEY => exact atMode_rec hh (flagsNZ_eff c _ _ fun _ => ⟨rfl, rfl⟩)
  | NOP => exact atMode_rec hh (Eff.refl c)
  | _ => exact cmosOnly_rec hh fun _ hh => cmosHandler_eff hc hh

end Py65.Proofs
