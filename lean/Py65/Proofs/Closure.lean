/-
Closure facts for C05: what `step()` does at an undeclared opcode, and the sign of `normP`.
-/
import Py65.Proofs.Interrupts

set_option linter.unusedSimpArgs false

namespace Py65.Proofs
open Py65 Py65.Gen Py65.Spec Py

/-- An opcode byte whose table slot is the default handler changes nothing but PC (+2, modulo the
address space) - registers, flags, memory and the cycle counter stay (given a zero cycle entry). -/
theorem step_undeclared (c : Cfg) (hc : IsDev c) (t : Tbl) (s : St) (hs : WF c s)
    (h : t.instruct (s.mem s.pc) = Mpu6502.inst_not_implemented c) (hc0 : t.cycletime (s.mem s.pc) = 0) :
    core (Mpu6502.step c t s) = { core s with pc := (s.pc + 2) % AM c.BYTE_WIDTH } ∧
    (Mpu6502.step c t s).cycles = s.cycles := by
  have hpc := hs.pc
  rw [step_unfold, h, hc0]
  simp only [Mpu6502.inst_not_implemented, afterFetch, core]
  rcases hc with rfl | rfl <;>
  · constfold at hpc ⊢
    simp only [pyarith]
    refine ⟨?_, by omega⟩
    simp only [AState.mk.injEq, true_and, and_true]
    omega

/-- Forcing bits 4 and 5 does not change the sign. -/
theorem normP_nonneg_iff (p : Int) : 0 ≤ normP p ↔ 0 ≤ p := by
  simp only [normP, setFlag, bitB, bitU]; simp; omega

end Py65.Proofs
