/-
Stack helpers and the control-transfer / stack instructions.
-/
import Py65.Proofs.Ops3

namespace Py65.Proofs
open Py65 Py65.Gen Py65.Spec Py

/-- How PHP, PLP, RTI and BRK force bits 4 and 5. -/
theorem normP_code {c : Cfg} (hc : IsDev c) (r : Int) : lor (lor r c.BREAK) c.UNUSED = normP r := by
  rcases hc with rfl | rfl <;> (constfold; simp only [flagalg, normP, bitB, bitU])

theorem word_range {c : Cfg} (hc : IsDev c) (lo hi : Int) (hlo : 0 ≤ lo ∧ lo ≤ c.byteMask)
    (hhi : 0 ≤ hi ∧ hi ≤ c.byteMask) :
    0 ≤ lo + hi * BM c.BYTE_WIDTH ∧ lo + hi * BM c.BYTE_WIDTH ≤ c.addrMask := by
  rcases hc with rfl | rfl <;> (constfold at hlo hhi ⊢; omega)

theorem hi_byte {c : Cfg} (hc : IsDev c) (x : Int) :
    x % AM c.BYTE_WIDTH / BM c.BYTE_WIDTH % BM c.BYTE_WIDTH = x % AM c.BYTE_WIDTH / BM c.BYTE_WIDTH := by
  rcases hc with rfl | rfl <;> (constfold; omega)

theorem pc_mod {c : Cfg} (hc : IsDev c) (x : Int) (hx : 0 ≤ x ∧ x ≤ c.addrMask) :
    x % AM c.BYTE_WIDTH = x := by
  rcases hc with rfl | rfl <;> (constfold at hx ⊢; omega)

theorem word_mod {c : Cfg} (hc : IsDev c) (lo hi : Int) (hlo : 0 ≤ lo ∧ lo ≤ c.byteMask)
    (hhi : 0 ≤ hi ∧ hi ≤ c.byteMask) :
    (lo + hi * BM c.BYTE_WIDTH) % AM c.BYTE_WIDTH = lo + hi * BM c.BYTE_WIDTH :=
  pc_mod hc _ (word_range hc lo hi hlo hhi)

theorem spBase_eq {c : Cfg} (hc : IsDev c) : c.spBase = BM c.BYTE_WIDTH := by
  rcases hc with rfl | rfl <;> rfl

/-- two memory functions that differ only in how the updated address is written -/
theorem mem_update_congr (m : Int → Int) (a b v w : Int) (h1 : a = b) (h2 : v = w) :
    (fun k => if k = a then v else m k) = (fun k => if k = b then w else m k) := by
  rw [h1, h2]

theorem stPush_core (c : Cfg) (hc : IsDev c) (z : Int) (s : St) :
    core (Mpu6502.stPush c z s) = push c.BYTE_WIDTH (core s) (z % BM c.BYTE_WIDTH) := by
  simp only [Mpu6502.stPush, memSet, push, write, core, land_byteMask hc, AState.mk.injEq, true_and,
    and_true]
  exact mem_update_congr _ _ _ _ _ (by rw [spBase_eq hc, Int.add_comm]) rfl

@[simp] theorem stPush_p (c : Cfg) (z : Int) (s : St) : (Mpu6502.stPush c z s).p = s.p := rfl
@[simp] theorem stPushWord_p (c : Cfg) (z : Int) (s : St) : (Mpu6502.stPushWord c z s).p = s.p := rfl

theorem stPop_val (c : Cfg) (hc : IsDev c) (s : St) :
    (Mpu6502.stPop c s).1 = (pull c.BYTE_WIDTH (core s)).1 := by
  simp only [Mpu6502.stPop, ByteAt_val, pull, core, land_byteMask hc, spBase_eq hc, Int.add_comm]

theorem stPop_core (c : Cfg) (hc : IsDev c) (s : St) :
    core (Mpu6502.stPop c s).2 = (pull c.BYTE_WIDTH (core s)).2 := by
  simp only [Mpu6502.stPop, ByteAt_core]
  simp only [pull, core, land_byteMask hc]

theorem stPushWord_core (c : Cfg) (hc : IsDev c) (z : Int) (s : St) :
    core (Mpu6502.stPushWord c z s) =
      push c.BYTE_WIDTH (push c.BYTE_WIDTH (core s) (z / BM c.BYTE_WIDTH % BM c.BYTE_WIDTH))
        (z % BM c.BYTE_WIDTH) := by
  simp only [Mpu6502.stPushWord, stPush_core c hc, land_byteMask hc, Int.emod_emod_of_dvd _ (dvd_refl _)]
  rfl

theorem stPopWord_val (c : Cfg) (hc : IsDev c) (s : St) :
    (Mpu6502.stPopWord c s).1 =
      (pull c.BYTE_WIDTH (core s)).1 +
        (pull c.BYTE_WIDTH (pull c.BYTE_WIDTH (core s)).2).1 * BM c.BYTE_WIDTH := by
  simp only [Mpu6502.stPopWord, stPop_val c hc, stPop_core c hc]
  rfl

theorem stPopWord_core (c : Cfg) (hc : IsDev c) (s : St) :
    core (Mpu6502.stPopWord c s).2 = (pull c.BYTE_WIDTH (pull c.BYTE_WIDTH (core s)).2).2 := by
  simp only [Mpu6502.stPopWord, stPop_core c hc]

theorem absH_of_core (c : Cfg) (s' : St) (A : AState) (h : core s' = A) :
    absH c s' = { A with p := normP A.p, pc := A.pc % (c.addrMask + 1) } := by
  subst h; rfl

theorem abs_of_core (s' : St) (A : AState) (h : core s' = A) : abs s' = { A with p := normP A.p } := by
  subst h; rfl

theorem push_reg_ok (c : Cfg) (hc : IsDev c) (v : Variant) :
    HandlerOK c v (Mpu6502.inst_0x48 c) .PHA .imp ∧ HandlerOK c v (Mpu65c02.inst_0xda c) .PHX .imp ∧
    HandlerOK c v (Mpu65c02.inst_0x5a c) .PHY .imp := by
  refine ⟨?_, ?_, ?_⟩ <;>
  · intro s hs
    simp only [Mpu6502.inst_0x48, Mpu65c02.inst_0xda, Mpu65c02.inst_0x5a]
    rw [absH_of_core c _ _ (stPush_core c hc _ s)]
    simp only [exec, abs, core, push, write, nextPc, Mode.len, byte_mod hc _ hs.a, byte_mod hc _ hs.x,
      byte_mod hc _ hs.y, addrMask_succ hc, Int.sub_self, Int.add_zero]
    rfl

theorem h_48 (c : Cfg) (hc : IsDev c) (v : Variant) : HandlerOK c v (Mpu6502.inst_0x48 c) .PHA .imp :=
  (push_reg_ok c hc v).1

/-- PHP: pushes the status with bits 4 and 5 set. -/
theorem h_08 (c : Cfg) (hc : IsDev c) (v : Variant) : HandlerOK c v (Mpu6502.inst_0x08 c) .PHP .imp := by
  intro s hs
  simp only [Mpu6502.inst_0x08, normP_code hc]
  rw [absH_of_core c _ _ (stPush_core c hc _ s)]
  simp only [exec, abs, core, push, write, nextPc, Mode.len, byte_mod hc _ (normP_range hc _ hs.p),
    addrMask_succ hc, Int.sub_self, Int.add_zero]
  rfl

theorem pull_val_range {c : Cfg} (s : St) (hs : WF c s) :
    0 ≤ (pull c.BYTE_WIDTH (core s)).1 ∧ (pull c.BYTE_WIDTH (core s)).1 ≤ c.byteMask := hs.mem _

theorem pull_reg_ok (c : Cfg) (hc : IsDev c) (v : Variant) :
    HandlerOK c v (Mpu6502.inst_0x68 c) .PLA .imp ∧ HandlerOK c v (Mpu65c02.inst_0xfa c) .PLX .imp ∧
    HandlerOK c v (Mpu65c02.inst_0x7a c) .PLY .imp := by
  refine ⟨?_, ?_, ?_⟩ <;>
  · intro s hs
    have hv := stPop_val c hc s
    obtain ⟨ha, hxx, hy, hsp, hp, hpc, hmem, hw⟩ := core_eq (stPop_core c hc s)
    simp only [Mpu6502.inst_0x68, Mpu65c02.inst_0xfa, Mpu65c02.inst_0x7a]
    rw [absH_FlagsNZ hc _ _ (hv ▸ pull_val_range s hs)]
    simp only [exec, absH, abs, core, nextPc, Mode.len, hv, ha, hxx, hy, hsp, hp, hpc, hmem, hw,
      addrMask_succ hc, Int.sub_self, Int.add_zero]
    rfl

theorem h_68 (c : Cfg) (hc : IsDev c) (v : Variant) : HandlerOK c v (Mpu6502.inst_0x68 c) .PLA .imp :=
  (pull_reg_ok c hc v).1

theorem h_28 (c : Cfg) (hc : IsDev c) (v : Variant) : HandlerOK c v (Mpu6502.inst_0x28 c) .PLP .imp := by
  intro s hs
  obtain ⟨ha, hxx, hy, hsp, hp, hpc, hmem, hw⟩ := core_eq (stPop_core c hc s)
  simp only [Mpu6502.inst_0x28, normP_code hc, exec, absH, abs, core, nextPc, Mode.len, stPop_val c hc, ha,
    hxx, hy, hsp, hpc, hmem, hw, normP_idem, addrMask_succ hc, Int.sub_self, Int.add_zero]
  rfl

theorem h_4c (c : Cfg) (hc : IsDev c) (v : Variant) : HandlerOK c v (Mpu6502.inst_0x4c c) .JMP .abs := by
  intro s hs
  simp only [Mpu6502.inst_0x4c, exec, absH, abs, core, opnd16, opnd1, opnd2, WordAt_val c hc, WordAt_a,
    WordAt_x, WordAt_y, WordAt_sp, WordAt_p, WordAt_mem, WordAt_waiting, addrMask_succ hc,
    word_mod hc _ _ (hs.mem _) (hs.mem _)]

/-- JMP (ind), NMOS: the pointer's high byte comes from the same page. -/
theorem h_6c (c : Cfg) (hc : IsDev c) : HandlerOK c .nmos (Mpu6502.inst_0x6c c) .JMP .ind := by
  intro s hs
  have hw := word_range hc _ _ (hs.mem s.pc) (hs.mem ((s.pc + 1) % AM c.BYTE_WIDTH))
  simp only [Mpu6502.inst_0x6c, exec, absH, abs, core, opnd16, opnd1, opnd2, word, WrapAt_a, WrapAt_x, WrapAt_y,
    WrapAt_sp, WrapAt_p, WrapAt_mem, WrapAt_waiting, WordAt_a, WordAt_x, WordAt_y, WordAt_sp, WordAt_p, WordAt_mem,
    WordAt_waiting, addrMask_succ hc, WordAt_val c hc, WrapAt_val c hc _ _ hw,
    word_mod hc _ _ (hs.mem _) (hs.mem _)]

theorem h_60 (c : Cfg) (hc : IsDev c) (v : Variant) : HandlerOK c v (Mpu6502.inst_0x60 c) .RTS .imp := by
  intro s hs
  obtain ⟨ha, hxx, hy, hsp, hp, hpc, hmem, hw⟩ := core_eq (stPopWord_core c hc s)
  simp only [Mpu6502.inst_0x60, exec, absH, abs, core, stPopWord_val c hc, ha, hxx, hy, hsp, hp, hmem, hw,
    addrMask_succ hc]
  rfl

theorem h_40 (c : Cfg) (hc : IsDev c) (v : Variant) : HandlerOK c v (Mpu6502.inst_0x40 c) .RTI .imp := by
  intro s hs
  obtain ⟨ha1, hx1, hy1, hsp1, hp1, hpc1, hmem1, hw1⟩ := core_eq (stPop_core c hc s)
  simp only [Mpu6502.inst_0x40, normP_code hc]
  generalize hs1 : ({ (Mpu6502.stPop c s).2 with p := normP (Mpu6502.stPop c s).1 } : St) = s1
  have hc1 : core s1 = { (pull c.BYTE_WIDTH (core s)).2 with p := normP (pull c.BYTE_WIDTH (core s)).1 } := by
    subst hs1; simp only [core, stPop_val c hc, ha1, hx1, hy1, hsp1, hpc1, hmem1, hw1]
  obtain ⟨ha, hxx, hy, hsp, hp, hpc, hmem, hw⟩ := core_eq ((stPopWord_core c hc s1).trans (by rw [hc1]))
  rw [stPopWord_val c hc s1, hc1]
  simp only [exec, absH, abs, core, pull, ha, hxx, hy, hsp, hp, hmem, hw, normP_idem, addrMask_succ hc,
    word_mod hc _ _ (hs.mem _) (hs.mem _)]

theorem push_mem_other (W : Nat) (A : AState) (v k : Int) (hk : k ≠ BM W + A.sp) :
    (push W A v).mem k = A.mem k := by
  simp [push, write, hk]

theorem push_sp (W : Nat) (A : AState) (v : Int) : (push W A v).sp = (A.sp - 1) % BM W := rfl

/-- The precondition of JSR: the two stack cells it writes are not its own operand bytes
(the property's "instruction overwrites its own operand bytes" exclusion). -/
def NoSelfOverwriteJSR (c : Cfg) (s : St) : Prop :=
  let W := c.BYTE_WIDTH
  BM W + s.sp ≠ s.pc ∧ BM W + s.sp ≠ (s.pc + 1) % AM W ∧
  BM W + (s.sp - 1) % BM W ≠ s.pc ∧ BM W + (s.sp - 1) % BM W ≠ (s.pc + 1) % AM W

theorem h_20 (c : Cfg) (hc : IsDev c) (v : Variant) :
    HandlerOKp c v (Mpu6502.inst_0x20 c) .JSR .abs (NoSelfOverwriteJSR c) := by
  intro s hs ⟨hP1, hP2, hP3, hP4⟩
  have hpush := stPushWord_core c hc (land (s.pc + 1) c.addrMask) s
  rw [land_addrMask hc, hi_byte hc] at hpush
  obtain ⟨ha, hxx, hy, hsp, hp, hpc, hmem, hw⟩ := core_eq hpush
  -- the operand bytes are read after the pushes, from cells the pushes did not touch
  have hm : ∀ k, k ≠ BM c.BYTE_WIDTH + s.sp → k ≠ BM c.BYTE_WIDTH + (s.sp - 1) % BM c.BYTE_WIDTH →
      (Mpu6502.stPushWord c ((s.pc + 1) % AM c.BYTE_WIDTH) s).mem k = s.mem k := fun k h1 h2 => by
    rw [hmem, push_mem_other _ _ _ _ h2, push_mem_other _ _ _ _ h1]; rfl
  have hpc' : (Mpu6502.stPushWord c ((s.pc + 1) % AM c.BYTE_WIDTH) s).pc = s.pc := rfl
  simp only [Mpu6502.inst_0x20, land_addrMask hc, exec, absH, abs, opnd16, opnd1, opnd2, WordAt_val c hc, WordAt_a,
    WordAt_x, WordAt_y, WordAt_sp, WordAt_p, WordAt_mem, WordAt_waiting, hpc', addrMask_succ hc,
    hm _ (Ne.symm hP1) (Ne.symm hP3), hm _ (Ne.symm hP2) (Ne.symm hP4), word_mod hc _ _ (hs.mem _) (hs.mem _)]
  simp only [core, ha, hxx, hy, hsp, hp, hmem, hw]
  rfl

theorem brk_masks {c : Cfg} (hc : IsDev c) (r : Int) :
    lor (lor (lor r c.BREAK) c.BREAK) c.UNUSED = normP r ∧
    lor (lor r c.BREAK) c.INTERRUPT = setFlag (setFlag r bitB true) bitI true := by
  rcases hc with rfl | rfl <;> (constfold; simp only [flagalg, normP, bitB, bitU, and_self])

/-- After the three pushes of BRK / IRQ / NMI the vector cells still hold their old contents:
the stack page ends below them (8 bit) or begins above them (16 bit). -/
theorem vector_untouched (c : Cfg) (hc : IsDev c) (A : AState) (hsp : 0 ≤ A.sp ∧ A.sp ≤ c.byteMask)
    (v1 v2 v3 k : Int) (hk : 65530 ≤ k ∧ k ≤ 65535) :
    (push c.BYTE_WIDTH (push c.BYTE_WIDTH (push c.BYTE_WIDTH A v1) v2) v3).mem k = A.mem k := by
  have hb : ∀ x : Int, k ≠ BM c.BYTE_WIDTH + x % BM c.BYTE_WIDTH := fun x => by
    rcases hc with rfl | rfl <;> (constfold; omega)
  have h1 : k ≠ BM c.BYTE_WIDTH + A.sp := byte_mod hc _ hsp ▸ hb A.sp
  rw [push_mem_other _ _ _ _ (hb _), push_mem_other _ _ _ _ (hb _), push_mem_other _ _ _ _ h1]

theorem vec_IRQ {c : Cfg} (hc : IsDev c) : c.IRQ = irqVector := by rcases hc with rfl | rfl <;> rfl
theorem vec_NMI {c : Cfg} (hc : IsDev c) : c.NMI = nmiVector := by rcases hc with rfl | rfl <;> rfl
theorem vec_RESET {c : Cfg} (hc : IsDev c) : c.RESET = resetVector := by rcases hc with rfl | rfl <;> rfl

/-- What BRK, IRQ and NMI share: push the word `z` and the byte `q`, leave `p2` in the status register,
load PC from the vector.  The model reads the vector after the pushes, the specification before them:
`vector_untouched`. -/
theorem vector_entry (c : Cfg) (hc : IsDev c) (s : St) (hs : WF c s) (z p1 q p2 vec : Int)
    (hz : z / BM c.BYTE_WIDTH % BM c.BYTE_WIDTH = z / BM c.BYTE_WIDTH) (hq : 0 ≤ q ∧ q ≤ c.byteMask)
    (hvec : 65530 ≤ vec ∧ vec ≤ 65534) :
    let s5 : St := { Mpu6502.stPush c q { Mpu6502.stPushWord c z s with p := p1 } with p := p2 }
    core { (Mpu6502.WordAt c vec s5).2 with pc := (Mpu6502.WordAt c vec s5).1 } =
      { push c.BYTE_WIDTH (push c.BYTE_WIDTH (push c.BYTE_WIDTH (core s) (z / BM c.BYTE_WIDTH))
          (z % BM c.BYTE_WIDTH)) q with p := p2, pc := word c.BYTE_WIDTH (core s) vec (vec + 1) } := by
  intro s5
  have h5 : core s5 = { push c.BYTE_WIDTH (push c.BYTE_WIDTH (push c.BYTE_WIDTH (core s)
      (z / BM c.BYTE_WIDTH)) (z % BM c.BYTE_WIDTH)) q with p := p2 } := by
    have h1 := stPushWord_core c hc z s
    have h2 := stPush_core c hc q { Mpu6502.stPushWord c z s with p := p1 }
    rw [hz] at h1
    rw [byte_mod hc _ hq, show core { Mpu6502.stPushWord c z s with p := p1 } =
      { core (Mpu6502.stPushWord c z s) with p := p1 } from rfl, h1] at h2
    show ({ core (Mpu6502.stPush c q { Mpu6502.stPushWord c z s with p := p1 }) with p := p2 } : AState) = _
    rw [h2]; rfl
  have hm : (vec + 1) % AM c.BYTE_WIDTH = vec + 1 := by
    rcases hc with rfl | rfl <;> (constfold; omega)
  show ({ core (Mpu6502.WordAt c vec s5).2 with pc := (Mpu6502.WordAt c vec s5).1 } : AState) = _
  rw [WordAt_core, WordAt_val c hc, hm, show s5.mem = (core s5).mem from rfl, h5]
  dsimp only
  rw [vector_untouched c hc (core s) hs.sp _ _ _ vec (by omega),
    vector_untouched c hc (core s) hs.sp _ _ _ (vec + 1) (by omega)]
  rfl

theorem h_00 (c : Cfg) (hc : IsDev c) : HandlerOK c .nmos (Mpu6502.inst_0x00 c) .BRK .imp := by
  intro s hs
  simp only [Mpu6502.inst_0x00, land_addrMask hc, stPush_p, stPushWord_p, brk_masks hc, vec_IRQ hc]
  refine (absH_of_core _ _ _ (vector_entry c hc s hs ((s.pc + 1) % AM c.BYTE_WIDTH) (lor s.p c.BREAK) (normP s.p)
    (setFlag (setFlag s.p bitB true) bitI true) irqVector (hi_byte hc _) (normP_range hc _ hs.p)
    (by decide))).trans ?_
  have e3 : normP (setFlag (setFlag s.p bitB true) bitI true) = setFlag (normP s.p) bitI true := by
    simp only [normP, bitB, bitU, bitI, flagalg]
  dsimp only [exec, abs, core, push, write, word]
  rw [e3, addrMask_succ hc, word_mod hc _ _ (hs.mem _) (hs.mem _)]
end Py65.Proofs
