/-
Tie by regeneration, C16: the GENERATED `_fill` (`Py65/Gen/MonFillGen.lean`, translated from
`Monitor._fill` of py65/monitor.py by `harness/py2lean_mon.py` on every run) equals the hand-written
model `Py65.Model.MonMem.fill`, for ALL start / end / filler / memory.

The Python `while address <= end:` loop has no bound; the generated loop function takes a `fuel`.
`fill_eq` states when the loop ends and then equals the model: the end address the loop works with
(`fillStop`: for a one-address range the clipped extension, otherwise `end` itself) is at most
`addrMask` -- for a one-address range that is automatic (the code clips), for a proper range it is
the hypothesis `stop ≤ d.addrMask`, which `do_fill` guarantees through the address parser
(`rangeL_ordered`).  Above `addrMask` the Python loop never ends (`address &= addrMask` keeps the
address below `end` for ever): `fill_diverges` proves that for the generated loop.
These are the proof obligations a change of `Monitor._fill` breaks.
-/
import Py65.Gen.MonFillGen
import Py65.Proofs.MonLemmas
import Py65.Proofs.PyDataLemmas

namespace Py65.Proofs.MonFillGenEq
open Py65 Py65.Model Py65.Model.PyStr Py65.Model.ObsMem Py65.Model.MonMem Py65.Model.MonGenRt Py65.Gen
open Py65.Spec.MonMem

/-- The line `_fill` prints: `("Wrote +%d bytes from $" + addrFmt + " to $" + addrFmt) % (count, start, end)`. -/
def wroteLine (d : Dev) (count start stop : Int) : Str :=
  "Wrote +".toList ++ pyFmtD count ++ " bytes from ".toList ++ "$".toList ++ pyFmtX d.addrFmtW start ++
    " to $".toList ++ pyFmtX d.addrFmtW stop

/-- How the model's result of `fill` reads as an end of the generated method: "Wrote …" is one more
output line and normal completion; the `IndexError` of an empty filler leaves the method with the
memory as it was. -/
def fillFlow (d : Dev) (σ : FillSt) (r : FillRes × OM) : Flow FillSt Unit :=
  match r.1 with
  | .wrote c s e => .ok () { memory := r.2, out := σ.out ++ [wroteLine d c s e] }
  | .indexError => .raise .IndexError { memory := r.2, out := σ.out }

theorem addrMask_nonneg (d : Dev) : 0 ≤ d.addrMask := by
  unfold Dev.addrMask
  have : (0 : Int) < 2 ^ d.AW := by positivity
  omega

theorem land_ge (d : Dev) (a : Int) (h : a ≤ d.addrMask) : a ≤ Py.land a d.addrMask := by
  by_cases h0 : 0 ≤ a
  · rw [land_addrMask d h0 h]
  · have := Py.land_nonneg a d.addrMask (addrMask_nonneg d)
    omega

theorem getItem_filler {filler : List Int} {idx : Nat} (hidx : idx < filler.length) :
    pyGetItem filler (idx : Int) = some (filler.getD idx 0) := by
  rw [pyGetItem_nat, List.getD_eq_getElem?_getD, List.getElem?_eq_getElem hidx]
  rfl

theorem index_wrap_cast (idx len : Nat) :
    (if (idx : Int) + 1 = (len : Int) then (0 : Int) else (idx : Int) + 1) =
      ((if idx + 1 = len then 0 else idx + 1 : Nat) : Int) := by
  split_ifs <;> omega

/-- The generated loop and the model's loop run in lockstep: with the model's fuel `n` covering the
distance to the end address and more generated fuel than that, the generated loop ends normally
with the memory the model computes. -/
theorem while1_eq (reply : Reply) (d : Dev) (filler : List Int) (E : Int) (hE : E ≤ d.addrMask) :
    ∀ (n fuel : Nat) (address : Int) (idx : Nat) (σ : FillSt),
      E + 1 - address ≤ n → n < fuel → idx < filler.length →
      ∃ a i, MonFillGen._fill_while1 reply d E filler (filler.length : Int) fuel address (idx : Int) σ =
        .ok (a, i) { memory := fillLoop reply d filler E n address idx σ.memory, out := σ.out } := by
  intro n
  induction n with
  | zero =>
    intro fuel address idx σ h1 h2 _
    obtain ⟨f, rfl⟩ : ∃ f, fuel = f + 1 := ⟨fuel - 1, by omega⟩
    have hgt : ¬ address ≤ E := by
      simp only [Nat.cast_zero] at h1; omega
    refine ⟨address, idx, ?_⟩
    simp only [MonFillGen._fill_while1, hgt, if_false, fillLoop]
  | succ n ih =>
    intro fuel address idx σ h1 h2 hidx
    obtain ⟨f, rfl⟩ : ∃ f, fuel = f + 1 := ⟨fuel - 1, by omega⟩
    by_cases hle : address ≤ E
    · have hge := land_ge d address (by omega)
      obtain ⟨a, i, hrec⟩ := ih f (Py.land address d.addrMask + 1)
        (if idx + 1 = filler.length then 0 else idx + 1)
        { memory := ObsMem.set reply σ.memory (Py.land address d.addrMask) (Py.land (filler.getD idx 0) d.byteMask),
          out := σ.out }
        (by omega) (by omega) (index_step_lt _ _ hidx)
      refine ⟨a, i, ?_⟩
      simp only [MonFillGen._fill_while1, hle, if_true, getItem_filler hidx, index_wrap_cast, fillLoop]
      exact hrec
    · refine ⟨address, idx, ?_⟩
      simp only [MonFillGen._fill_while1, hle, if_false, fillLoop]

theorem gen_fill_def (reply : Reply) (d : Dev) (fuel : Nat) (start stop : Int) (filler : List Int) (σ : FillSt) :
    MonFillGen._fill reply d fuel start stop filler σ =
      let E := fillStop d start stop filler.length
      (MonFillGen._fill_while1 reply d E filler (filler.length : Int) fuel start 0 σ).bind fun _ σ' =>
        .ok () { memory := σ'.memory, out := σ'.out ++ [wroteLine d (E - start + 1) start E] } := rfl

/-- `GenEq` for `_fill`: whenever the end address the loop works with is inside the address space
(`hstop`: nothing to assume for a one-address range) and the fuel exceeds the length of the range,
the generated `_fill` ends exactly as the model's `fill`: same memory object, the same three numbers
in the "Wrote" line, the same `IndexError` (memory untouched) for an empty filler. -/
theorem fill_eq (reply : Reply) (d : Dev) (fuel : Nat) (start stop : Int) (filler : List Int) (σ : FillSt)
    (hstop : start ≠ stop → stop ≤ d.addrMask)
    (hfuel : (fillStop d start stop filler.length + 1 - start).toNat < fuel) :
    MonFillGen._fill reply d fuel start stop filler σ =
      fillFlow d σ (fill reply d start stop filler σ.memory) := by
  have hE := fillStop_le d start stop filler.length hstop
  rw [gen_fill_def, fill_def]
  generalize fillStop d start stop filler.length = E at hE hfuel
  by_cases hne : filler = []
  · subst hne
    obtain ⟨f, rfl⟩ : ∃ f, fuel = f + 1 := ⟨fuel - 1, by omega⟩
    by_cases hle : start ≤ E
    · have hget : pyGetItem ([] : List Int) (0 : Int) = none := rfl
      simp only [MonFillGen._fill_while1, hle, if_true, hget, Flow.bind_raise, fillFlow, true_and]
    · have h0 : (E + 1 - start).toNat = 0 := by omega
      simp only [MonFillGen._fill_while1, hle, if_false, Flow.bind_ok, fillFlow, and_false, h0, fillLoop]
  · obtain ⟨a, i, hloop⟩ := while1_eq reply d filler E hE (E + 1 - start).toNat fuel start 0 σ
      (by omega) hfuel (List.length_pos_of_ne_nil hne)
    have hnot : ¬ (filler = [] ∧ start ≤ E) := fun h => hne h.1
    simp only [Nat.cast_zero] at hloop
    simp only [hloop, hnot, if_false, fillFlow, Flow.bind_ok]

theorem fill_eq_wrote (reply : Reply) (d : Dev) (fuel : Nat) (start stop : Int) (filler : List Int) (σ : FillSt)
    (hstop : start ≠ stop → stop ≤ d.addrMask)
    (hfuel : (fillStop d start stop filler.length + 1 - start).toNat < fuel) {c s e : Int}
    (h : (fill reply d start stop filler σ.memory).1 = .wrote c s e) :
    MonFillGen._fill reply d fuel start stop filler σ =
      .ok () { memory := (fill reply d start stop filler σ.memory).2, out := σ.out ++ [wroteLine d c s e] } := by
  rw [fill_eq reply d fuel start stop filler σ hstop hfuel]
  simp only [fillFlow, h]

/-- Is the hypothesis `stop ≤ addrMask` really needed?  Yes: for a proper range that ends above
`addrMask` (and starts inside the address space, with a non-empty filler) the generated loop is out
of fuel for EVERY fuel -- the Python loop does not terminate, because `address &= self.addrMask`
keeps the address at most `addrMask < end`.  (`do_fill` cannot produce such a call: the address
parser raises `OverflowError`; that is `fill_rejects`.) -/
theorem fill_diverges (reply : Reply) (d : Dev) (filler : List Int) (E : Int) (hE : d.addrMask < E) :
    ∀ (fuel : Nat) (address : Int) (idx : Nat) (σ : FillSt), address ≤ d.addrMask + 1 → idx < filler.length →
      MonFillGen._fill_while1 reply d E filler (filler.length : Int) fuel address (idx : Int) σ = .nofuel := by
  intro fuel
  induction fuel with
  | zero => intro address idx σ _ _; rfl
  | succ f ih =>
    intro address idx σ ha hidx
    have hle : address ≤ E := by omega
    have hm : Py.land address d.addrMask ≤ d.addrMask := by
      unfold Dev.addrMask
      rw [Py.land_mask]
      have := Int.emod_lt_of_pos address (show (0 : Int) < 2 ^ d.AW by positivity)
      omega
    simp only [MonFillGen._fill_while1, hle, if_true, getItem_filler hidx, index_wrap_cast]
    exact ih _ _ _ (by omega) (index_step_lt _ _ hidx)

theorem ofFill_wrote {r : FillRes} {c s e : Int} (h : Out.ofFill r = .wrote c s e) : r = .wrote c s e := by
  cases r with
  | wrote c' s' e' => simpa [Out.ofFill] using h
  | indexError => simp [Out.ofFill] at h

/-- The call `self._fill(start, end, filler)` that `do_fill` makes after parsing (`doFill_eq_fill`; the part of
`do_fill` before it is regenerated separately: `MonMemGenEq.do_fill_eq`): when the model's `doFill` reports "Wrote …", the generated `_fill` on the parsed values
ends normally with the model's memory and that line. -/
theorem doFill_eq (reply : Reply) (d : Dev) (P : AddrParser.Parser) (σ : FillSt) (r : Str) (pieces : List Str)
    (start stop : Int) (data : List Int) (fuel : Nat) (hwf : P.WF) (hP : P.maxaddr = d.addrMask)
    (hr : AddrParser.rangeL P r = .ok start stop) (hp : PiecesOk d P pieces data) (hne : data ≠ [])
    (hfuel : (fillStop d start stop data.length + 1 - start).toNat < fuel) {c s e : Int}
    (h : (doFill reply d P (r :: pieces) σ.memory).1 = .wrote c s e) :
    MonFillGen._fill reply d fuel start stop data σ =
      .ok () { memory := (doFill reply d P (r :: pieces) σ.memory).2, out := σ.out ++ [wroteLine d c s e] } := by
  obtain ⟨_, _, hb⟩ := Py65.Proofs.Num.rangeL_ordered hwf hr
  rw [doFill_eq_fill reply d P σ.memory r pieces start stop data hr hp hne] at h ⊢
  exact fill_eq_wrote reply d fuel start stop data σ (fun _ => hP ▸ hb) hfuel (ofFill_wrote h)

end Py65.Proofs.MonFillGenEq
