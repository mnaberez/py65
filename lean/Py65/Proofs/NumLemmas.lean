/-
Helper lemmas for C15 (address parsing) and the number-formatting round trips reused by
C19 / C08 / C16:  `pyIntL (digits) b = value`,  `value (toDigits b n) = n`,  leading zeros, letter
case, the 4300-digit limit, scanner lemmas for the two patterns of `addressing.py`, fuel
independence of `numberF`, and the bounds / error-kind facts of `number` and `range`.
-/
import Py65.Model.PyStr
import Py65.Model.AddrParser

namespace Py65.Proofs.Num
open Py65.Model Py65.Model.PyStr Py65.Model.AddrParser

def IsDig (b : Nat) (c : Char) : Prop := ∃ d, digitVal c = some d ∧ d < b

def DigStr (b : Nat) (cs : Str) : Prop := ∀ c ∈ cs, IsDig b c

theorem digitVal_digitChar : ∀ d, d < 36 → digitVal (digitChar d) = some d := by decide

theorem digitVal_upper_digitChar : ∀ d, d < 36 → digitVal (upper (digitChar d)) = some d := by decide

theorem digitVal_range {c : Char} {d : Nat} (h : digitVal c = some d) :
    (48 ≤ c.toNat ∧ c.toNat ≤ 57) ∨ (97 ≤ c.toNat ∧ c.toNat ≤ 122) ∨ (65 ≤ c.toNat ∧ c.toNat ≤ 90) := by
  unfold digitVal at h
  simp only at h
  split at h
  · left; assumption
  · split at h
    · right; left; assumption
    · split at h
      · right; right; assumption
      · cases h

theorem ne_of_toNat_ne {c d : Char} (h : c.toNat ≠ d.toNat) : c ≠ d := fun e => h (by rw [e])

/-- What a digit character is not: underscore, blank, sign, prefix character, separator. -/
structure Alnum (c : Char) : Prop where
  us : c ≠ '_'
  plus : c ≠ '+'
  minus : c ≠ '-'
  cspace : isCSpace c = false
  respace : isReSpace c = false
  label : isLabelChar c = true
  notsep : isSep c = false
  notpre : isPrefixChar c = false

theorem IsDig.alnum {b : Nat} {c : Char} (h : IsDig b c) : Alnum c := by
  obtain ⟨d, hd, _⟩ := h
  have r := digitVal_range hd
  have h1 : c ≠ '_' := ne_of_toNat_ne (by show c.toNat ≠ 95; omega)
  have h2 : c ≠ '+' := ne_of_toNat_ne (by show c.toNat ≠ 43; omega)
  have h3 : c ≠ '-' := ne_of_toNat_ne (by show c.toNat ≠ 45; omega)
  have h4 : c ≠ '$' := ne_of_toNat_ne (by show c.toNat ≠ 36; omega)
  have h5 : c ≠ '%' := ne_of_toNat_ne (by show c.toNat ≠ 37; omega)
  have h6 : c ≠ ':' := ne_of_toNat_ne (by show c.toNat ≠ 58; omega)
  have h7 : c ≠ ',' := ne_of_toNat_ne (by show c.toNat ≠ 44; omega)
  have hc : isCSpace c = false := by
    simp only [isCSpace, Bool.or_eq_false_iff, Bool.and_eq_false_iff, decide_eq_false_iff_not]; omega
  have hr : isReSpace c = false := by
    simp only [isReSpace, hc, Bool.false_or, Bool.and_eq_false_iff, decide_eq_false_iff_not]; omega
  exact ⟨h1, h2, h3, hc, hr, by simp [isLabelChar, hr, h2, h3], by simp [isSep, h6, h7],
    by simp [isPrefixChar, h4, h2, h5]⟩

theorem isDig_zero {b : Nat} (hb : 0 < b) : IsDig b '0' := ⟨0, by decide, hb⟩

theorem isDig_digitChar {b d : Nat} (hb : b ≤ 36) (hd : d < b) : IsDig b (digitChar d) :=
  ⟨d, digitVal_digitChar d (by omega), hd⟩

theorem isDig_upper_digitChar {b d : Nat} (hb : b ≤ 36) (hd : d < b) : IsDig b (upper (digitChar d)) :=
  ⟨d, digitVal_upper_digitChar d (by omega), hd⟩

theorem IsDig.not_prefixLetter {b : Nat} {c : Char} (h : IsDig b c) : isPrefixLetter b c = false := by
  obtain ⟨d, hd, hlt⟩ := h
  unfold isPrefixLetter
  have key : ∀ (x : Char) (v : Nat), digitVal x = some v → b ≤ v → c ≠ x := by
    intro x v hx hv e
    subst e
    rw [hx] at hd
    cases hd
    omega
  by_cases h16 : b = 16
  · subst h16
    have := key 'x' 33 (by decide) (by omega)
    have := key 'X' 33 (by decide) (by omega)
    simp [*]
  · by_cases h8 : b = 8
    · subst h8
      have := key 'o' 24 (by decide) (by omega)
      have := key 'O' 24 (by decide) (by omega)
      simp [*]
    · by_cases h2 : b = 2
      · subst h2
        have := key 'b' 11 (by decide) (by omega)
        have := key 'B' 11 (by decide) (by omega)
        simp [*]
      · simp [*]

def dv (c : Char) : Nat := (digitVal c).getD 0

def valAcc (b : Nat) (acc : Nat) (cs : Str) : Nat := cs.foldl (fun a c => a * b + dv c) acc

def valL (b : Nat) (cs : Str) : Nat := valAcc b 0 cs

@[simp] theorem valAcc_nil (b acc : Nat) : valAcc b acc [] = acc := rfl
@[simp] theorem valAcc_cons (b acc : Nat) (c : Char) (cs : Str) :
    valAcc b acc (c :: cs) = valAcc b (acc * b + dv c) cs := rfl
theorem valAcc_append (b acc : Nat) (xs ys : Str) :
    valAcc b acc (xs ++ ys) = valAcc b (valAcc b acc xs) ys := by
  simp [valAcc, List.foldl_append]

theorem valAcc_zeros (b z : Nat) : valAcc b 0 (List.replicate z '0') = 0 := by
  induction z with
  | zero => rfl
  | succ k ih =>
    rw [List.replicate_succ, valAcc_cons]
    have : dv '0' = 0 := by decide
    simpa [this] using ih

theorem valL_zeros_append (b z : Nat) (cs : Str) : valL b (List.replicate z '0' ++ cs) = valL b cs := by
  unfold valL
  rw [valAcc_append, valAcc_zeros]

theorem valL_snoc (b : Nat) (cs : Str) (c : Char) : valL b (cs ++ [c]) = valL b cs * b + dv c := by
  unfold valL
  rw [valAcc_append]; rfl

theorem scanDigits_digits {b : Nat} (cs rest : Str) (acc cnt : Nat) (h : DigStr b cs) :
    scanDigits b (cs ++ rest) acc cnt false
      = scanDigits b rest (valAcc b acc cs) (cnt + cs.length) false := by
  induction cs generalizing acc cnt with
  | nil => simp
  | cons c cs ih =>
    have hc : IsDig b c := h c (by simp)
    obtain ⟨d, hd, hlt⟩ := hc
    have hus : c ≠ '_' := (IsDig.alnum ⟨d, hd, hlt⟩).us
    have hdv : dv c = d := by simp [dv, hd]
    rw [List.cons_append, scanDigits]
    simp only [hus, if_false, hd, hlt, if_true]
    rw [ih _ _ (fun x hx => h x (by simp [hx]))]
    simp only [valAcc_cons, hdv, List.length_cons]
    congr 1
    omega

/-- `int(s, b)` once the leading blanks and the sign are gone. -/
def intBody (b : Nat) (neg : Bool) (s : Str) : Option Int :=
  if startsWithChar (dropPrefix b s) '_' then none else
  match scanDigits b (dropPrefix b s) 0 0 false with
  | none => none
  | some (v, cnt, rest) =>
    if cnt = 0 then none
    else if !isPow2Base b && maxStrDigits < cnt then none
    else if rest.all isCSpace then some (if neg then -(v : Int) else (v : Int))
    else none

theorem pyIntL_eq (s : Str) (b : Nat) :
    pyIntL s b = if b < 2 ∨ 36 < b then none else
      match s.dropWhile isCSpace with
      | c :: r => if c = '+' then intBody b false r else if c = '-' then intBody b true r else intBody b false (c :: r)
      | [] => intBody b false [] := by
  unfold pyIntL intBody
  by_cases hb : b < 2 ∨ 36 < b
  · rw [if_pos hb, if_pos hb]
  rw [if_neg hb, if_neg hb]
  cases s.dropWhile isCSpace with
  | nil => rfl
  | cons c r =>
    by_cases hp : c = '+'
    · simp only [if_pos hp]; rfl
    · by_cases hm : c = '-'
      · simp only [if_neg hp, if_pos hm]; rfl
      · simp only [if_neg hp, if_neg hm]; rfl

/-- `int(cs, b)` and `int('-' + cs, b)` on a non-empty string of base-`b` digits: the positional
value, unless CPython's digit limit (bases that are not a power of two) refuses the string. -/
theorem pyIntL_sign_digits {b : Nat} {cs : Str} (neg : Bool) (hb2 : 2 ≤ b) (hb36 : b ≤ 36) (hne : cs ≠ [])
    (h : DigStr b cs) :
    pyIntL ((if neg then ['-'] else []) ++ cs) b =
      if !isPow2Base b && maxStrDigits < cs.length then none
      else some (if neg then -(valL b cs : Int) else valL b cs) := by
  obtain ⟨c, cs', rfl⟩ := List.exists_cons_of_ne_nil hne
  have ac := (h c (by simp)).alnum
  have hdp : dropPrefix b (c :: cs') = c :: cs' := by
    cases cs' with
    | nil => rfl
    | cons l r => simp [dropPrefix, (h l (by simp)).not_prefixLetter]
  have hscan := scanDigits_digits (b := b) (c :: cs') [] 0 0 h
  rw [List.append_nil] at hscan
  have hbody : intBody b neg (c :: cs') = if !isPow2Base b && maxStrDigits < (c :: cs').length then none
      else some (if neg then -(valL b (c :: cs') : Int) else valL b (c :: cs')) := by
    simp [intBody, hdp, hscan, scanDigits, startsWithChar, ac.us, valL]
  have hm : isCSpace '-' = false ∧ ('-' : Char) ≠ '+' := by decide
  rw [pyIntL_eq, if_neg (by omega), ← hbody]
  cases neg <;> simp [ac.cspace, ac.plus, ac.minus, hm]

private theorem limit_false {b : Nat} {cs : Str} (hlim : isPow2Base b = true ∨ cs.length ≤ maxStrDigits) :
    ¬ (!isPow2Base b && decide (maxStrDigits < cs.length)) = true := by
  rcases hlim with hp | hl
  · simp [hp]
  · simp [Nat.not_lt.mpr hl]

theorem pyIntL_digits {b : Nat} {cs : Str} (hb2 : 2 ≤ b) (hb36 : b ≤ 36) (hne : cs ≠ [])
    (h : DigStr b cs) (hlim : isPow2Base b = true ∨ cs.length ≤ maxStrDigits) :
    pyIntL cs b = some ((valL b cs : Nat) : Int) :=
  (pyIntL_sign_digits false hb2 hb36 hne h).trans (if_neg (limit_false hlim))

theorem pyIntL_neg_digits {b : Nat} {cs : Str} (hb2 : 2 ≤ b) (hb36 : b ≤ 36) (hne : cs ≠ [])
    (h : DigStr b cs) (hlim : isPow2Base b = true ∨ cs.length ≤ maxStrDigits) :
    pyIntL ('-' :: cs) b = some (-((valL b cs : Nat) : Int)) :=
  (pyIntL_sign_digits true hb2 hb36 hne h).trans (if_neg (limit_false hlim))

/-- More than 4300 decimal digits: CPython refuses (`ValueError`). -/
theorem pyIntL_digits_limit {b : Nat} {cs : Str} (hb2 : 2 ≤ b) (hb36 : b ≤ 36) (hne : cs ≠ [])
    (h : DigStr b cs) (hp : isPow2Base b = false) (hlen : maxStrDigits < cs.length) :
    pyIntL cs b = none :=
  (pyIntL_sign_digits false hb2 hb36 hne h).trans (if_pos (by simp [hp, hlen]))

def IsDigCh (b : Nat) (c : Char) : Prop := ∃ d, d < b ∧ c = digitChar d

theorem toDigits_ne_nil (b n : Nat) : toDigits b n ≠ [] := by
  rw [toDigits]
  split <;> simp

theorem toDigits_digCh {b : Nat} (hb : 2 ≤ b) (n : Nat) : ∀ c ∈ toDigits b n, IsDigCh b c := by
  induction n using Nat.strongRecOn with
  | _ n ih =>
    rw [toDigits]
    split
    · rename_i h
      intro c hc
      simp only [List.mem_singleton] at hc
      exact ⟨n, by omega, hc⟩
    · rename_i h
      intro c hc
      rw [List.mem_append] at hc
      rcases hc with hc | hc
      · exact ih (n / b) (Nat.div_lt_self (by omega) (by omega)) c hc
      · simp only [List.mem_singleton] at hc
        exact ⟨n % b, Nat.mod_lt _ (by omega), hc⟩

theorem dv_digitChar {d : Nat} (h : d < 36) : dv (digitChar d) = d := by
  simp [dv, digitVal_digitChar d h]

theorem valL_toDigits {b : Nat} (hb : 2 ≤ b) (hb36 : b ≤ 36) (n : Nat) : valL b (toDigits b n) = n := by
  induction n using Nat.strongRecOn with
  | _ n ih =>
    rw [toDigits]
    split
    · rename_i h
      have : n < 36 := by omega
      simp [valL, dv_digitChar this]
    · rename_i h
      rw [valL_snoc, ih (n / b) (Nat.div_lt_self (by omega) (by omega)),
        dv_digitChar (by have := Nat.mod_lt n (show 0 < b by omega); omega)]
      exact Nat.div_add_mod' n b

theorem toDigits_length_le {b : Nat} (hb : 2 ≤ b) (k n : Nat) (hn : n < b ^ (k + 1)) :
    (toDigits b n).length ≤ k + 1 := by
  induction k generalizing n with
  | zero =>
    rw [toDigits]
    have : n < b := by simpa using hn
    simp [this]
  | succ k ih =>
    rw [toDigits]
    split
    · simp
    · have hd : n / b < b ^ (k + 1) := by
        rw [Nat.div_lt_iff_lt_mul (by omega)]
        rwa [Nat.pow_succ] at hn
      have := ih (n / b) hd
      simp only [List.length_append, List.length_singleton]
      omega

/-- What the digit loop sees of a string is the list of its digit values, and the letter case does not
change that. -/
theorem mixCase_digitVal {b : Nat} (hb36 : b ≤ 36) (m : List Bool) {cs : Str} (h : ∀ c ∈ cs, IsDigCh b c) :
    (mixCase m cs).map digitVal = cs.map digitVal := by
  induction cs generalizing m with
  | nil => cases m <;> rfl
  | cons c cs ih =>
    obtain ⟨d, hd, rfl⟩ := h c (by simp)
    cases m with
    | nil => rfl
    | cons t m =>
      have := ih m (fun x hx => h x (by simp [hx]))
      cases t <;>
        simp [mixCase, this, digitVal_upper_digitChar d (by omega), digitVal_digitChar d (by omega)]

theorem digStr_iff {b : Nat} {cs : Str} : DigStr b cs ↔ ∀ o ∈ cs.map digitVal, ∃ d, o = some d ∧ d < b := by
  simp [DigStr, IsDig]

theorem valAcc_eq (b acc : Nat) (cs : Str) :
    valAcc b acc cs = (cs.map digitVal).foldl (fun a o => a * b + o.getD 0) acc := by
  simp [valAcc, dv, List.foldl_map]

theorem digStr_zeros {b : Nat} (hb : 0 < b) (z : Nat) : DigStr b (List.replicate z '0') := by
  intro c hc
  rw [List.mem_replicate] at hc
  rw [hc.2]
  exact isDig_zero hb

theorem digStr_append {b : Nat} {xs ys : Str} (hx : DigStr b xs) (hy : DigStr b ys) : DigStr b (xs ++ ys) := by
  intro c hc
  rw [List.mem_append] at hc
  rcases hc with hc | hc
  · exact hx c hc
  · exact hy c hc

/-- The spelling of `n` (leading zeros, any letter case) is a non-empty digit string of value `n`. -/
theorem spelling_spec {b : Nat} (hb : 2 ≤ b) (hb36 : b ≤ 36) (z : Nat) (m : List Bool) (n : Nat) :
    spelling b z m n ≠ [] ∧ DigStr b (spelling b z m n) ∧ valL b (spelling b z m n) = n ∧
    (spelling b z m n).length = z + (toDigits b n).length := by
  have hd := toDigits_digCh hb n
  have hm := mixCase_digitVal hb36 m hd
  have hlen : (mixCase m (toDigits b n)).length = (toDigits b n).length := by
    simpa using congrArg List.length hm
  refine ⟨?_, ?_, ?_, ?_⟩
  · intro e
    have h0 := congrArg List.length e
    have := List.length_pos_iff.mpr (toDigits_ne_nil b n)
    rw [spelling, List.length_append, hlen, List.length_nil] at h0
    omega
  · refine digStr_append (digStr_zeros (by omega) z) (digStr_iff.mpr ?_)
    rw [hm]
    exact digStr_iff.mp fun c hc => by obtain ⟨d, hd, rfl⟩ := hd c hc; exact isDig_digitChar hb36 hd
  · unfold spelling
    rw [valL_zeros_append, valL, valAcc_eq, hm, ← valAcc_eq]
    exact valL_toDigits hb hb36 n
  · simp [spelling, hlen]
/-- Round trip at the `int()` level: every spelling of `n` in base `b` parses back to `n`. -/
theorem pyIntL_spelling {b : Nat} (hb : 2 ≤ b) (hb36 : b ≤ 36) (z : Nat) (m : List Bool) (n : Nat)
    (hlim : isPow2Base b = true ∨ z + (toDigits b n).length ≤ maxStrDigits) :
    pyIntL (spelling b z m n) b = some (n : Int) := by
  obtain ⟨h1, h2, h3, h4⟩ := spelling_spec hb hb36 z m n
  rw [pyIntL_digits hb hb36 h1 h2 (by rw [h4]; exact hlim), h3]

theorem span_stop {p : Char → Bool} {l r : Str} (hl : ∀ c ∈ l, p c = true)
    (hr : ∀ c, r.head? = some c → p c = false) :
    (l ++ r).takeWhile p = l ∧ (l ++ r).dropWhile p = r := by
  induction l with
  | nil =>
    cases r with
    | nil => simp
    | cons c r' =>
      have : p c = false := hr c rfl
      simp [this]
  | cons c l ih =>
    have hc : p c = true := hl c (by simp)
    have := ih (fun x hx => hl x (by simp [hx]))
    simp [hc, this.1, this.2]

theorem mem_takeWhile_true {p : Char → Bool} {l : Str} {c : Char} (h : c ∈ l.takeWhile p) : p c = true := by
  induction l with
  | nil => simp at h
  | cons x l ih =>
    by_cases hx : p x = true
    · simp only [List.takeWhile_cons, hx, if_true, List.mem_cons] at h
      rcases h with rfl | h
      · exact hx
      · exact ih h
    · simp [hx] at h

theorem span_all {p : Char → Bool} {l : Str} (hl : ∀ c ∈ l, p c = true) :
    l.takeWhile p = l ∧ l.dropWhile p = [] := by
  have := span_stop (p := p) (l := l) (r := []) hl (by simp)
  simpa using this

theorem head_append_of {xs ys : Str} {q : Char → Prop} (hx : ∀ c ∈ xs, q c)
    (hy : ∀ c, ys.head? = some c → q c) : ∀ c, (xs ++ ys).head? = some c → q c := by
  intro c hc
  cases xs with
  | nil => exact hy c (by simpa using hc)
  | cons x xs =>
    simp only [List.cons_append, List.head?_cons, Option.some.injEq] at hc
    exact hx c (by simp [hc])

/-- a character `int()` accepts somewhere: blank, sign, underscore, letter or digit -/
abbrev IntChar (c : Char) : Prop := isCSpace c = true ∨ c ∈ ['+', '-', '_'] ∨ (digitVal c).isSome = true

theorem scanDigits_chars (b : Nat) : ∀ (s : Str) (acc cnt : Nat) (p : Bool) {v n : Nat} {rest : Str},
    scanDigits b s acc cnt p = some (v, n, rest) → ∀ c ∈ s, c ∈ rest ∨ IntChar c := by
  intro s
  induction s with
  | nil => intro _ _ _ _ _ _ _ c hc; cases hc
  | cons y s ih =>
    intro acc cnt p v n rest h c hc
    have stop : some (acc, cnt, y :: s) = some (v, n, rest) → c ∈ rest ∨ IntChar c := by
      intro e; cases e; exact .inl hc
    have go : ∀ {acc cnt p}, scanDigits b s acc cnt p = some (v, n, rest) → IntChar y → c ∈ rest ∨ IntChar c := by
      intro _ _ _ h' hy
      rcases List.mem_cons.1 hc with rfl | hc
      · exact .inr hy
      · exact ih _ _ _ h' c hc
    rw [scanDigits] at h
    split at h
    · split at h
      · cases h
      · exact go h (.inr (.inl (by simp [*])))
    · split at h
      · rename_i d hd
        split at h
        · exact go h (.inr (.inr (by simp [hd])))
        · split at h
          · cases h
          · exact stop h
      · split at h
        · cases h
        · exact stop h

theorem dropPrefix_chars (b : Nat) (s : Str) : ∀ c ∈ s, c ∈ dropPrefix b s ∨ IntChar c := by
  intro c hc
  unfold dropPrefix
  split
  · rename_i z l r
    split
    · rename_i hz
      have hl : (digitVal l).isSome = true := by
        have := hz.2
        simp only [isPrefixLetter, Bool.or_eq_true, Bool.and_eq_true, decide_eq_true_eq] at this
        rcases this with (⟨_, rfl | rfl⟩ | ⟨_, rfl | rfl⟩) | ⟨_, rfl | rfl⟩ <;> decide
      simp only [List.mem_cons] at hc
      rcases hc with rfl | rfl | hc
      · exact .inr (.inr (.inr (by rw [hz.1]; decide)))
      · exact .inr (.inr (.inr hl))
      · split
        · rename_i u r'
          split
          · rcases List.mem_cons.1 hc with rfl | hc
            · exact .inr (.inr (.inl (by simp [*])))
            · exact .inl hc
          · exact .inl hc
        · exact .inl hc
    · exact .inl hc
  · exact .inl hc

theorem intBody_chars {b : Nat} {neg : Bool} {s : Str} {v : Int} (h : intBody b neg s = some v) :
    ∀ c ∈ s, IntChar c := by
  intro c hc
  unfold intBody at h
  split at h
  · cases h
  cases hs : scanDigits b (dropPrefix b s) 0 0 false with
  | none => rw [hs] at h; cases h
  | some t =>
    obtain ⟨n, cnt, rest⟩ := t
    rw [hs] at h
    by_cases hall : rest.all isCSpace = true
    · rcases dropPrefix_chars b s c hc with h3 | h3
      · rcases scanDigits_chars b _ _ _ _ hs c h3 with h4 | h4
        · exact .inl (List.all_eq_true.mp hall c h4)
        · exact h4
      · exact h3
    · simp [hall] at h

theorem pyIntL_chars {s : Str} {b : Nat} {v : Int} (h : pyIntL s b = some v) :
    ∀ c ∈ s, isCSpace c = true ∨ c ∈ ['+', '-', '_'] ∨ (digitVal c).isSome = true := by
  intro c hc
  rw [pyIntL_eq] at h
  split at h
  · cases h
  rw [← List.takeWhile_append_dropWhile (p := isCSpace) (l := s), List.mem_append] at hc
  rcases hc with hc | hc
  · exact .inl (mem_takeWhile_true hc)
  split at h
  · rename_i x r hx
    rw [hx] at hc
    have hr : IntChar x → (c ∈ r → IntChar c) → IntChar c := fun h1 h2 =>
      (List.mem_cons.1 hc).elim (fun e => e ▸ h1) h2
    split at h
    · exact hr (.inr (.inl (by simp [*]))) (intBody_chars h c)
    split at h
    · exact hr (.inr (.inl (by simp [*]))) (intBody_chars h c)
    · exact intBody_chars h c hc
  · rename_i hx
    rw [hx] at hc
    cases hc

/-- Two facts about the concrete `offsetClass` that hold for `\d` as well as for `[0-9a-fA-F]` (each
proof closes under either definition).  Only `isDig16_offsetClass` below needs the wider class. -/
theorem offsetClass_hex {c : Char} (h : offsetClass c = true) : isHexDigit c = true := by
  unfold offsetClass at h
  first
    | exact h
    | simp [isHexDigit, h]

theorem offsetClass_of_digit {c : Char} (h : isDigit c = true) : offsetClass c = true := by
  unfold offsetClass
  first
    | exact h
    | simp [isHexDigit, h]

theorem isHexDigit_isDig {c : Char} (h : isHexDigit c = true) : IsDig 16 c := by
  simp only [isHexDigit, isDigit, Bool.or_eq_true, Bool.and_eq_true, decide_eq_true_eq] at h
  rcases h with (h | h) | h
  · exact ⟨c.toNat - 48, by simp [digitVal, h.1, h.2], by omega⟩
  · have h1 : ¬ (48 ≤ c.toNat ∧ c.toNat ≤ 57) := by omega
    have h2 : (97 ≤ c.toNat ∧ c.toNat ≤ 122) := by omega
    exact ⟨c.toNat - 87, by simp [digitVal, h1, h2], by omega⟩
  · have h1 : ¬ (48 ≤ c.toNat ∧ c.toNat ≤ 57) := by omega
    have h2 : ¬ (97 ≤ c.toNat ∧ c.toNat ≤ 122) := by omega
    have h3 : (65 ≤ c.toNat ∧ c.toNat ≤ 90) := by omega
    exact ⟨c.toNat - 55, by simp [digitVal, h1, h2, h3], by omega⟩

theorem isDig16_offsetClass {c : Char} (h : IsDig 16 c) : offsetClass c = true := by
  obtain ⟨d, hd, hlt⟩ := h
  unfold digitVal at hd
  simp only at hd
  simp only [offsetClass, isHexDigit, isDigit, Bool.or_eq_true, Bool.and_eq_true, decide_eq_true_eq]
  split at hd
  · left; left; assumption
  · split at hd
    · cases hd; left; right; omega
    · split at hd
      · cases hd; right; omega
      · cases hd

theorem offsetClass_label {c : Char} (h : offsetClass c = true) :
    isLabelChar c = true ∧ isPrefixChar c = false ∧ isReSpace c = false ∧ c ≠ '\n' := by
  have a := (isHexDigit_isDig (offsetClass_hex h)).alnum
  refine ⟨a.label, a.notpre, a.respace, ?_⟩
  intro e
  subst e
  revert h
  decide

theorem isPrefixChar_cases {p : Char} (h : isPrefixChar p = true) : p = '$' ∨ p = '+' ∨ p = '%' := by
  simpa [isPrefixChar, or_assoc] using h

theorem isPrefixChar_not_space {p : Char} (h : isPrefixChar p = true) : isReSpace p = false := by
  rcases isPrefixChar_cases h with rfl | rfl | rfl <;> decide

theorem splitPrefix_spec (r : Str) :
    (splitPrefix r).1 ++ (splitPrefix r).2 = r ∧
    ((splitPrefix r).1 = [] ∨ ∃ p, (splitPrefix r).1 = [p] ∧ isPrefixChar p = true) := by
  cases r with
  | nil => simp [splitPrefix]
  | cons p r =>
    by_cases hp : isPrefixChar p = true
    · simp [splitPrefix, hp]
    · simp [splitPrefix, hp]

/-- What the pattern matched: the label, blanks, the sign, blanks, the offset and an optional newline. -/
theorem matchOffset_split {s l off : Str} {sg : Char} (h : matchOffset s = some (l, sg, off)) :
    ∃ ws1 ws2 tail, s = l ++ (ws1 ++ sg :: (ws2 ++ (off ++ tail))) ∧ (∀ c ∈ ws1, isReSpace c = true) ∧
      (∀ c ∈ ws2, isReSpace c = true) ∧ (tail = [] ∨ tail = ['\n']) ∧ (sg = '+' ∨ sg = '-') ∧ OffsetPat off := by
  unfold matchOffset at h
  simp only at h
  split at h
  · cases h
  split at h
  · cases h
  rename_i sign r hr
  split at h
  case isFalse => cases h
  rename_i hsg
  unfold matchOffsetTail at h
  simp only at h
  split at h
  · cases h
  rename_i hds
  split at h
  case isFalse => cases h
  rename_i htail
  cases h
  refine ⟨(s.dropWhile isLabelChar).takeWhile isReSpace, r.takeWhile isReSpace, _, ?_,
    fun _ => mem_takeWhile_true, fun _ => mem_takeWhile_true, htail, hsg,
    _, _, rfl, (splitPrefix_spec _).2, hds, fun _ => mem_takeWhile_true⟩
  rw [List.append_assoc, List.takeWhile_append_dropWhile, (splitPrefix_spec _).1,
    List.takeWhile_append_dropWhile, ← hr, List.takeWhile_append_dropWhile, List.takeWhile_append_dropWhile]

theorem matchOffset_pat {s l off : Str} {sg : Char} (h : matchOffset s = some (l, sg, off)) : OffsetPat off := by
  obtain ⟨_, _, _, _, _, _, _, _, hp⟩ := matchOffset_split h
  exact hp

theorem matchOffset_none_of_label {s : Str} (h : ∀ c ∈ s, isLabelChar c = true) : matchOffset s = none := by
  unfold matchOffset
  simp only [(span_all h).1, (span_all h).2, List.dropWhile_nil]
  split <;> rfl

/-- The pattern on `label blanks sign blanks [prefix] digits [\n]`. -/
theorem matchOffset_compose {l ws1 ws2 pre ds tail : Str} {sign : Char}
    (hl : l ≠ []) (hlc : ∀ c ∈ l, isLabelChar c = true)
    (hw1 : ∀ c ∈ ws1, isReSpace c = true) (hw2 : ∀ c ∈ ws2, isReSpace c = true)
    (hs : sign = '+' ∨ sign = '-')
    (hpre : pre = [] ∨ ∃ p, pre = [p] ∧ isPrefixChar p = true)
    (hds : ds ≠ []) (hdc : ∀ c ∈ ds, offsetClass c = true)
    (htail : tail = [] ∨ tail = ['\n']) :
    matchOffset (l ++ (ws1 ++ sign :: (ws2 ++ (pre ++ (ds ++ tail))))) = some (l, sign, pre ++ ds) := by
  have hsign_nl : isLabelChar sign = false := by rcases hs with rfl | rfl <;> decide
  have hsign_ns : isReSpace sign = false := by rcases hs with rfl | rfl <;> decide
  -- group 1
  have h1 := span_stop (p := isLabelChar) (l := l) (r := ws1 ++ sign :: (ws2 ++ (pre ++ (ds ++ tail)))) hlc
    (head_append_of (q := fun c => isLabelChar c = false)
      (fun c hc => by simp [isLabelChar, hw1 c hc])
      (fun c hc => by simp only [List.head?_cons, Option.some.injEq] at hc; exact hc ▸ hsign_nl))
  -- blanks before the sign
  have h2 := span_stop (p := isReSpace) (l := ws1) (r := sign :: (ws2 ++ (pre ++ (ds ++ tail)))) hw1
    (fun c hc => by simp only [List.head?_cons, Option.some.injEq] at hc; exact hc ▸ hsign_ns)
  -- digits and tail
  have htl : ∀ c, tail.head? = some c → offsetClass c = false := by
    intro c hc
    rcases htail with rfl | rfl
    · simp at hc
    · simp only [List.head?_cons, Option.some.injEq] at hc; subst hc; decide
  have h4 := span_stop (p := offsetClass) (l := ds) (r := tail) hdc htl
  obtain ⟨d, ds', rfl⟩ := List.exists_cons_of_ne_nil hds
  have hd := offsetClass_label (hdc d (by simp))
  -- blanks after the sign
  have h3 := span_stop (p := isReSpace) (l := ws2) (r := pre ++ (d :: ds' ++ tail)) hw2
    (by
      intro c hc
      rcases hpre with rfl | ⟨p, rfl, hp⟩
      · simp only [List.nil_append, List.cons_append, List.head?_cons, Option.some.injEq] at hc
        exact hc ▸ hd.2.2.1
      · simp only [List.cons_append, List.head?_cons, Option.some.injEq] at hc
        exact hc ▸ isPrefixChar_not_space hp)
  unfold matchOffset
  simp only [h1.1, h1.2, h2.2, hl, if_false, hs, if_true]
  unfold matchOffsetTail
  simp only [h3.2]
  rcases hpre with rfl | ⟨p, rfl, hp⟩
  · have hsp : splitPrefix ([] ++ (d :: ds' ++ tail)) = ([], d :: ds' ++ tail) := by
      simp [splitPrefix, hd.2.1]
    rw [hsp]
    simp only [h4.1, h4.2]
    rcases htail with rfl | rfl <;> simp
  · have hsp : splitPrefix ([p] ++ (d :: ds' ++ tail)) = ([p], d :: ds' ++ tail) := by
      simp [splitPrefix, hp]
    rw [hsp]
    simp only [h4.1, h4.2]
    rcases htail with rfl | rfl <;> simp

theorem numberF_succ (P : Parser) (fuel : Nat) (num : Str) :
    numberF P (fuel + 1) num =
      if startsWithChar num '$' then ofInt P (pyIntL (num.drop 1) 16)
      else if startsWithChar num '+' then ofInt P (pyIntL (num.drop 1) 10)
      else if startsWithChar num '%' then ofInt P (pyIntL (num.drop 1) 2)
      else
        match lookup P.labels num with
        | some a => .ok a
        | none =>
          match matchOffset num with
          | some (label, sign, offset) =>
            match lookup P.labels label with
            | none => .key
            | some base =>
              match numberF P fuel offset with
              | .ok off => constrain P (if sign = '+' then base + off else base - off)
              | .key => .key
              | .overflow => .overflow
              | .other => .other
          | none => ofInt P (pyIntL num P.radix) := by
  rfl

theorem noPrefix_of_head {s : Str} (h : ∀ c, s.head? = some c → isPrefixChar c = false) : NoPrefix s := by
  cases s with
  | nil => exact ⟨rfl, rfl, rfl⟩
  | cons c s =>
    have hc := h c rfl
    simp only [isPrefixChar, Bool.or_eq_false_iff, decide_eq_false_iff_not] at hc
    simp [NoPrefix, startsWithChar, hc.1.1, hc.1.2, hc.2]

/-- A string the offset group captures starts with a prefix character or is all label characters: the
pattern does not match it again. -/
theorem offsetPat_cases {sp : Str} (h : OffsetPat sp) :
    matchOffset sp = none ∨ ∃ p r, sp = p :: r ∧ isPrefixChar p = true := by
  obtain ⟨pre, ds, rfl, hpre, hds, hdc⟩ := h
  rcases hpre with rfl | ⟨p, rfl, hp⟩
  · exact .inl (matchOffset_none_of_label fun c hc => (offsetClass_label (hdc c (by simpa using hc))).1)
  · exact .inr ⟨p, ds, rfl, hp⟩

theorem offsetPat_no_match {sp : Str} (h : OffsetPat sp) (hp : NoPrefix sp) : matchOffset sp = none := by
  rcases offsetPat_cases h with hm | ⟨p, r, rfl, hpc⟩
  · exact hm
  · rcases isPrefixChar_cases hpc with rfl | rfl | rfl <;> simp [NoPrefix, startsWithChar] at hp

/-- The string handed to the inner `self.number(offset)` is decided without further recursion. -/
theorem numberF_pat (P : Parser) (k : Nat) {sp : Str} (h : OffsetPat sp) :
    numberF P (k + 1) sp = numberF P 1 sp := by
  rw [numberF_succ, numberF_succ]
  rcases offsetPat_cases h with hm | ⟨p, r, rfl, hp⟩
  · simp only [hm]
  · rcases isPrefixChar_cases hp with rfl | rfl | rfl <;> simp [startsWithChar]

/-- Recursion depth 2 is never exceeded: more fuel changes nothing. -/
theorem numberF_fuel (P : Parser) (k : Nat) (s : Str) : numberF P (k + 2) s = numberF P 2 s := by
  rw [numberF_succ P (k + 1), numberF_succ P 1]
  cases hm : matchOffset s with
  | none => rfl
  | some t =>
    obtain ⟨l, sg, off⟩ := t
    have hp := matchOffset_pat hm
    simp only [numberF_pat P k hp]

theorem constrain_ok {P : Parser} {a n : Int} (h : constrain P a = .ok n) :
    n = a ∧ 0 ≤ n ∧ n ≤ P.maxaddr := by
  unfold constrain at h
  split at h
  · cases h
  · rename_i hc
    cases h
    omega

theorem constrain_ne_other (P : Parser) (a : Int) : constrain P a ≠ .other := by
  unfold constrain
  split <;> simp

theorem constrain_in {P : Parser} {a : Int} (h0 : 0 ≤ a) (h1 : a ≤ P.maxaddr) : constrain P a = .ok a := by
  unfold constrain
  have : ¬ (a < 0 ∨ a > P.maxaddr) := by omega
  simp [this]

theorem constrain_out {P : Parser} {a : Int} (h : a < 0 ∨ P.maxaddr < a) : constrain P a = .overflow := by
  unfold constrain
  have : (a < 0 ∨ a > P.maxaddr) := by omega
  simp [this]

/-- `_constrain` on a natural number: the address width decides. -/
theorem constrain_natCast (P : Parser) (n : Nat) :
    constrain P n = if n < 2 ^ P.width then .ok n else .overflow := by
  have h : ((n : Int) < 0 ∨ (n : Int) > P.maxaddr) ↔ ¬ n < 2 ^ P.width := by
    have : ((2 ^ P.width : Nat) : Int) = (2 : Int) ^ P.width := Int.natCast_pow 2 _
    unfold Parser.maxaddr
    omega
  unfold constrain
  by_cases hn : n < 2 ^ P.width <;> simp [h, hn]

theorem ofInt_ok {P : Parser} {o : Option Int} {n : Int} (h : ofInt P o = .ok n) :
    0 ≤ n ∧ n ≤ P.maxaddr := by
  cases o with
  | none => cases h
  | some v => exact (constrain_ok h).2

theorem ofInt_ne_other (P : Parser) (o : Option Int) : ofInt P o ≠ .other := by
  cases o with
  | none => simp [ofInt]
  | some v => exact constrain_ne_other P v

/-- The ways one level of `number` ends: `int()` and `_constrain`, a label, an unknown label, the
constrained label ± offset, or whatever the inner call on the offset ended with when that is not a
value. -/
inductive Ends (P : Parser) (k : Nat) (s : Str) : Res → Prop
  | int (o : Option Int) : Ends P k s (ofInt P o)
  | label {a : Int} (h : lookup P.labels s = some a) : Ends P k s (.ok a)
  | nolabel : Ends P k s .key
  | offset (a : Int) : Ends P k s (constrain P a)
  | inner {l off : Str} {sg : Char} {r : Res} (hp : NoPrefix s) (hm : matchOffset s = some (l, sg, off))
      (hr : numberF P k off = r) (hn : ∀ n, r ≠ .ok n) : Ends P k s r

theorem numberF_ends (P : Parser) (k : Nat) (s : Str) : Ends P k s (numberF P (k + 1) s) := by
  rw [numberF_succ]
  split
  · exact .int _
  split
  · exact .int _
  split
  · exact .int _
  rename_i h1 h2 h3
  split
  · exact .label ‹_›
  split
  · rename_i l sg off hm
    have hp : NoPrefix s := ⟨by simpa using h1, by simpa using h2, by simpa using h3⟩
    split
    · exact .nolabel
    · split
      · exact .offset _
      · exact .inner hp hm ‹_› (fun n => by simp)
      · exact .inner hp hm ‹_› (fun n => by simp)
      · exact .inner hp hm ‹_› (fun n => by simp)
  · exact .int _

theorem numberF_bounded {P : Parser} (hwf : P.WF) (k : Nat) (s : Str) (n : Int) (h : numberF P k s = .ok n) :
    0 ≤ n ∧ n ≤ P.maxaddr := by
  cases k with
  | zero => cases h
  | succ k =>
    have e := numberF_ends P k s
    generalize numberF P (k + 1) s = r at h e
    cases e with
    | int o => exact ofInt_ok h
    | label hl => cases h; exact hwf _ _ hl
    | nolabel => cases h
    | offset a => exact (constrain_ok h).2
    | inner _ _ _ hn => exact absurd h (hn n)

theorem Ends.ne_other {P : Parser} {k : Nat} {s : Str} {r : Res} (e : Ends P k s r)
    (hin : ∀ l sg off, matchOffset s = some (l, sg, off) → NoPrefix s → numberF P k off ≠ .other) : r ≠ .other := by
  cases e with
  | int o => exact ofInt_ne_other P o
  | label _ => simp
  | nolabel => simp
  | offset a => exact constrain_ne_other P a
  | inner hp hm hr _ => exact hr ▸ hin _ _ _ hm hp

theorem numberL_ne_other (P : Parser) (s : Str) : numberL P s ≠ .other :=
  (numberF_ends P 1 s).ne_other fun _ _ _ hm _ =>
    (numberF_ends P 0 _).ne_other fun _ _ _ hm' hp' =>
      absurd (offsetPat_no_match (matchOffset_pat hm) hp' ▸ hm') (by simp)

theorem numberL_bounded {P : Parser} (hwf : P.WF) {s : Str} {n : Int} (h : numberL P s = .ok n) :
    0 ≤ n ∧ n ≤ P.maxaddr := numberF_bounded hwf 2 s n h

theorem numberL_prefix (P : Parser) (s : Str) :
    numberL P ('$' :: s) = ofInt P (pyIntL s 16) ∧
    numberL P ('+' :: s) = ofInt P (pyIntL s 10) ∧
    numberL P ('%' :: s) = ofInt P (pyIntL s 2) := by
  refine ⟨?_, ?_, ?_⟩ <;> (unfold numberL; rw [numberF_succ]; simp [startsWithChar])

theorem number_prefix (P : Parser) (s : String) :
    number P ("$" ++ s) = ofInt P (pyIntL s.toList 16) ∧
    number P ("+" ++ s) = ofInt P (pyIntL s.toList 10) ∧
    number P ("%" ++ s) = ofInt P (pyIntL s.toList 2) := by
  simp only [number, String.toList_append, String.reduceToList, List.cons_append, List.nil_append]
  exact numberL_prefix P s.toList

/-- Not a prefix, not a label, pattern does not match: `int(num, radix)`. -/
theorem numberL_bare (P : Parser) {s : Str} (hp : NoPrefix s) (hl : lookup P.labels s = none)
    (hm : matchOffset s = none) : numberL P s = ofInt P (pyIntL s P.radix) := by
  unfold numberL
  rw [numberF_succ]
  simp [hp.1, hp.2.1, hp.2.2, hl, hm]

theorem numberL_label (P : Parser) {s : Str} {a : Int} (hp : NoPrefix s) (hl : lookup P.labels s = some a) :
    numberL P s = .ok a := by
  unfold numberL
  rw [numberF_succ]
  simp [hp.1, hp.2.1, hp.2.2, hl]

/-- label ± offset, when the whole string is not itself a label. -/
theorem numberL_offset (P : Parser) {s l off : Str} {sg : Char} (hp : NoPrefix s)
    (hl : lookup P.labels s = none) (hm : matchOffset s = some (l, sg, off)) :
    numberL P s =
      match lookup P.labels l with
      | none => .key
      | some base =>
        match numberL P off with
        | .ok m => constrain P (if sg = '+' then base + m else base - m)
        | .key => .key
        | .overflow => .overflow
        | .other => .other := by
  have hpat := matchOffset_pat hm
  have hin : numberL P off = numberF P 1 off := numberF_pat P 1 hpat
  rw [hin]
  unfold numberL
  rw [numberF_succ]
  simp [hp.1, hp.2.1, hp.2.2, hl, hm]

/-- `label sign offset` with blanks around the sign, the whole not itself a label: the label is looked
up and the offset goes through `number` again (the one recursive call). -/
theorem number_offset (P : Parser) (l b1 b2 sp : String) (sign : Char)
    (hl : l.toList ≠ []) (hlc : ∀ c ∈ l.toList, isLabelChar c = true) (hlp : NoPrefix l.toList)
    (hb1 : ∀ c ∈ b1.toList, isReSpace c = true) (hb2 : ∀ c ∈ b2.toList, isReSpace c = true)
    (hs : sign = '+' ∨ sign = '-') (hsp : OffsetPat sp.toList)
    (hwhole : lookup P.labels (l ++ b1 ++ String.singleton sign ++ b2 ++ sp).toList = none) :
    number P (l ++ b1 ++ String.singleton sign ++ b2 ++ sp) =
      match lookup P.labels l.toList with
      | none => .key
      | some base =>
        match number P sp with
        | .ok m => constrain P (if sign = '+' then base + m else base - m)
        | .key => .key
        | .overflow => .overflow
        | .other => .other := by
  obtain ⟨pre, ds, hspe, hpre, hds, hdc⟩ := hsp
  have hmo := matchOffset_compose (tail := []) hl hlc hb1 hb2 hs hpre hds hdc (Or.inl rfl)
  have hstr : (l ++ b1 ++ String.singleton sign ++ b2 ++ sp).toList
      = l.toList ++ (b1.toList ++ sign :: (b2.toList ++ (pre ++ (ds ++ [])))) := by
    simp [String.toList_append, hspe]
  have hnp : NoPrefix (l.toList ++ (b1.toList ++ sign :: (b2.toList ++ (pre ++ (ds ++ []))))) := by
    obtain ⟨c, r, hcr⟩ := List.exists_cons_of_ne_nil hl
    rw [hcr] at hlp ⊢
    exact hlp
  rw [hstr] at hwhole
  simp only [number]
  rw [hstr, numberL_offset P hnp hwhole hmo, hspe]

theorem isReSpace_not_sep {c : Char} (h : isReSpace c = true) : isSep c = false := by
  have h6 : c ≠ ':' := by rintro rfl; revert h; decide
  have h7 : c ≠ ',' := by rintro rfl; revert h; decide
  simp [isSep, h6, h7]

theorem matchRange_none_of_nosep {s : Str} (h : ∀ c ∈ s, isSep c = false) : matchRange s = none := by
  have h' : ∀ c ∈ s, (fun c => !isSep c) c = true := by intro c hc; simp [h c hc]
  unfold matchRange
  simp only [(span_all h').1, (span_all h').2]
  split
  · rfl
  · simp

/-- `x seps blanks y` with `x`, `y` free of separators and `y` starting with a non-blank. -/
theorem matchRange_compose {x seps ws y : Str} (hx : x ≠ []) (hxc : ∀ c ∈ x, isSep c = false)
    (hs : seps ≠ []) (hsc : ∀ c ∈ seps, isSep c = true) (hw : ∀ c ∈ ws, isReSpace c = true)
    (hy : y ≠ []) (hyc : ∀ c ∈ y, isSep c = false) (hy0 : ∀ c, y.head? = some c → isReSpace c = false) :
    matchRange (x ++ (seps ++ (ws ++ y))) = some (x, y) := by
  have hxc' : ∀ c ∈ x, (fun c => !isSep c) c = true := by intro c hc; simp [hxc c hc]
  obtain ⟨s0, seps', rfl⟩ := List.exists_cons_of_ne_nil hs
  have h1 := span_stop (p := fun c => !isSep c) (l := x) (r := (s0 :: seps') ++ (ws ++ y)) hxc'
    (by intro c hc
        simp only [List.cons_append, List.head?_cons, Option.some.injEq] at hc
        subst hc; simp [hsc s0 (by simp)])
  have hwy : ∀ c ∈ ws ++ y, isSep c = false := by
    intro c hc
    rw [List.mem_append] at hc
    rcases hc with hc | hc
    · exact isReSpace_not_sep (hw c hc)
    · exact hyc c hc
  have h2 := span_stop (p := isSep) (l := s0 :: seps') (r := ws ++ y) hsc
    (fun c hc => hwy c (List.mem_of_mem_head? hc))
  have h3 := span_stop (p := isReSpace) (l := ws) (r := y) hw hy0
  have hany : (ws ++ y).any isSep = false := by
    rw [List.any_eq_false]
    intro c hc
    simp [hwy c hc]
  have hne : ws ++ y ≠ [] := by simp [hy]
  obtain ⟨last, hlast⟩ : ∃ last, (ws ++ y).getLast? = some last := by
    cases hgl : (ws ++ y).getLast? with
    | none => exact absurd (List.getLast?_eq_none_iff.mp hgl) hne
    | some v => exact ⟨v, rfl⟩
  unfold matchRange
  simp only [h1.1, h1.2, h2.1, h2.2, hx, if_false, hany, hlast, h3.2, hy]
  simp

theorem ordered_spec {x y a b : Int} (h : ordered x y = .ok a b) :
    a ≤ b ∧ ((a = x ∧ b = y) ∨ (a = y ∧ b = x)) := by
  unfold ordered at h
  split at h
  · cases h; omega
  · cases h; omega

/-- `range` ends with the ordered pair of two values of `number` (the same value twice for a single
address), or with the failure of one of its calls of `number`. -/
theorem rangeL_ends (P : Parser) (s : Str) :
    (∃ a b x y, numberL P a = .ok x ∧ numberL P b = .ok y ∧ rangeL P s = ordered x y) ∨
      rangeL P s = .key ∨ rangeL P s = .overflow ∨ ∃ a, numberL P a = .other ∧ rangeL P s = .other := by
  unfold rangeL
  split
  · split
    · split
      · exact .inl ⟨_, _, _, _, ‹_›, ‹_›, rfl⟩
      · exact .inr (.inl rfl)
      · exact .inr (.inr (.inl rfl))
      · exact .inr (.inr (.inr ⟨_, ‹_›, rfl⟩))
    · exact .inr (.inl rfl)
    · exact .inr (.inr (.inl rfl))
    · exact .inr (.inr (.inr ⟨_, ‹_›, rfl⟩))
  · split
    · exact .inl ⟨_, _, _, _, ‹_›, ‹_›, rfl⟩
    · exact .inr (.inl rfl)
    · exact .inr (.inr (.inl rfl))
    · exact .inr (.inr (.inr ⟨_, ‹_›, rfl⟩))

theorem rangeL_ordered {P : Parser} (hwf : P.WF) {s : Str} {a b : Int} (h : rangeL P s = .ok a b) :
    a ≤ b ∧ 0 ≤ a ∧ b ≤ P.maxaddr := by
  rcases rangeL_ends P s with ⟨_, _, x, y, hx, hy, e⟩ | e | e | ⟨_, _, e⟩ <;> rw [e] at h
  · have bx := numberL_bounded hwf hx
    have by' := numberL_bounded hwf hy
    have := ordered_spec h
    omega
  all_goals cases h

theorem rangeL_ne_other (P : Parser) (s : Str) : rangeL P s ≠ .other := by
  rcases rangeL_ends P s with ⟨_, _, x, y, _, _, e⟩ | e | e | ⟨_, ha, _⟩
  · rw [e]; unfold ordered; split <;> simp
  · rw [e]; simp
  · rw [e]; simp
  · exact absurd ha (numberL_ne_other P _)

theorem mem_of_lookup {L : Labels} {k : Str} {v : Int} (h : lookup L k = some v) : (k, v) ∈ L := by
  induction L with
  | nil => cases h
  | cons kv L ih =>
    obtain ⟨k', v'⟩ := kv
    rw [lookup] at h
    split at h
    · cases h; simp [*]
    · exact List.mem_cons_of_mem _ (ih h)

theorem lookup_insert (L : Labels) (k : Str) (v : Int) (x : Str) :
    lookup (AddrParser.insert L k v) x = if k = x then some v else lookup L x := by
  induction L with
  | nil => simp [AddrParser.insert, lookup]
  | cons kv rest ih =>
    obtain ⟨k', v'⟩ := kv
    by_cases h : k' = k
    · subst h
      by_cases hx : k' = x
      · simp [AddrParser.insert, lookup, hx]
      · simp [AddrParser.insert, lookup, hx]
    · by_cases hx : k' = x
      · have hkx : ¬ k = x := fun e => h (hx.trans e.symm)
        have hxk : ¬ x = k := fun e => hkx e.symm
        subst hx
        simp [AddrParser.insert, lookup, hxk, hkx]
      · simp [AddrParser.insert, lookup, h, hx, ih]

/-- `labels[k] = number(...)` (the monitor's `add_label`) keeps the table well formed. -/
theorem wf_insert {P : Parser} (hwf : P.WF) (k : Str) (v : Int) (h0 : 0 ≤ v) (h1 : v ≤ P.maxaddr) :
    ({ P with labels := AddrParser.insert P.labels k v } : Parser).WF := by
  intro x w hx
  simp only [lookup_insert] at hx
  show 0 ≤ w ∧ w ≤ P.maxaddr
  split at hx
  · cases hx; exact ⟨h0, h1⟩
  · exact hwf x w hx

theorem init_wf (w r : Nat) (ls : List (Str × Int)) (P : Parser) (h : Parser.init w r ls = some P) :
    P.WF ∧ P.width = w ∧ P.radix = r := by
  unfold Parser.init at h
  simp only at h
  -- invariant of the fold
  have inv : ∀ (ls : List (Str × Int)) (acc : Option Parser) (P : Parser),
      (∀ Q, acc = some Q → Q.WF ∧ Q.width = w ∧ Q.radix = r) →
      List.foldl (fun acc kv =>
        match acc with
        | none => none
        | some P =>
          match constrain { width := w, radix := r, labels := [] } kv.2 with
          | .ok v => some { P with labels := AddrParser.insert P.labels kv.1 v }
          | _ => none) acc ls = some P →
      P.WF ∧ P.width = w ∧ P.radix = r := by
    intro ls
    induction ls with
    | nil =>
      intro acc P hacc hP
      exact hacc P hP
    | cons kv rest ih =>
      intro acc P hacc hP
      rw [List.foldl_cons] at hP
      refine ih _ P ?_ hP
      intro Q hQ
      cases acc with
      | none => simp at hQ
      | some A =>
        obtain ⟨hA, hAw, hAr⟩ := hacc A rfl
        simp only at hQ
        split at hQ
        · rename_i v hv
          cases hQ
          have hc := constrain_ok hv
          have hmax : ({ width := w, radix := r, labels := [] } : Parser).maxaddr = A.maxaddr := by
            simp [Parser.maxaddr, hAw]
          refine ⟨wf_insert hA kv.1 v hc.2.1 (hmax ▸ hc.2.2), hAw, hAr⟩
        · cases hQ
  refine inv ls _ P ?_ h
  intro Q hQ
  cases hQ
  exact ⟨fun k v hk => by simp [lookup] at hk, rfl, rfl⟩

theorem mixCase_nil (cs : Str) : mixCase [] cs = cs := by cases cs <;> rfl

/-- `"%0<w>x" % n`, `"%0<w>o" % n`, `"{:b}".format(n).rjust(w, '0')`: zero padding is a spelling. -/
theorem rjustL_toDigits (b w n : Nat) :
    rjustL (toDigits b n) w '0' = spelling b (w - (toDigits b n).length) [] n := by
  simp [rjustL, spelling, mixCase_nil]

/-- Zero-padded digits in a base without digit limit read back: `int("%0<w>x" % n, 16) = n` and the like. -/
theorem pyIntL_rjustL_toDigits {b : Nat} (hb : 2 ≤ b) (hb36 : b ≤ 36) (hp : isPow2Base b = true) (w n : Nat) :
    pyIntL (rjustL (toDigits b n) w '0') b = some (n : Int) := by
  rw [rjustL_toDigits]
  exact pyIntL_spelling hb hb36 _ _ _ (.inl hp)

/-- `zfill` on a digit string (no sign in front) is zero padding on the left. -/
theorem zfillL_toDigits {b : Nat} (hb : 2 ≤ b) (hb36 : b ≤ 36) (w n : Nat) :
    zfillL (toDigits b n) w = spelling b (w - (toDigits b n).length) [] n := by
  obtain ⟨c, cs, hcs⟩ := List.exists_cons_of_ne_nil (toDigits_ne_nil b n)
  have hc : IsDigCh b c := toDigits_digCh hb n c (by rw [hcs]; simp)
  obtain ⟨d, hd, rfl⟩ := hc
  have hne : ∀ d, d < 36 → digitChar d ≠ '+' ∧ digitChar d ≠ '-' := by decide
  have := hne d (by omega)
  simp [zfillL, spelling, mixCase_nil, hcs, this.1, this.2]

/-- Fixed column width: a value that fits in `w` digits is printed with exactly `w` characters. -/
theorem rjustL_toDigits_length {b : Nat} (hb : 2 ≤ b) (w n : Nat) (hn : n < b ^ (w + 1)) :
    (rjustL (toDigits b n) (w + 1) '0').length = w + 1 := by
  have := toDigits_length_le hb w n hn
  simp only [rjustL, List.length_append, List.length_replicate]
  omega

/-- 16/24/32 bits, `foo = $c000`, `ten = 10`. -/
def exLabels : Labels := [("foo".toList, 0xc000), ("ten".toList, 10)]
def P16 : Parser := { width := 16, radix := 16, labels := exLabels }
def P24 : Parser := { width := 24, radix := 10, labels := exLabels }
def P32 : Parser := { width := 32, radix := 8, labels := exLabels }

theorem exWF (w r : Nat) (hw : 16 ≤ w) : ({ width := w, radix := r, labels := exLabels } : Parser).WF := by
  intro k v h
  have h65536 : (65536 : Int) ≤ 2 ^ w := by
    have h : (65536 : Nat) ≤ 2 ^ w := Nat.pow_le_pow_right (n := 2) (i := 16) (by decide) hw
    have h2 : ((65536 : Nat) : Int) ≤ ((2 ^ w : Nat) : Int) := Int.ofNat_le.mpr h
    rwa [Int.natCast_pow] at h2
  have hm : (k, v) ∈ exLabels := mem_of_lookup h
  rw [exLabels, List.mem_cons, List.mem_singleton, Prod.mk.injEq, Prod.mk.injEq] at hm
  unfold Parser.maxaddr
  rcases hm with ⟨-, rfl⟩ | ⟨-, rfl⟩ <;> (simp only; omega)

end Py65.Proofs.Num
