/-
BIT and the read-modify-write group (ASL LSR ROL ROR INC DEC, accumulator and memory forms).
-/
import Py65.Proofs.Ops

namespace Py65.Proofs
open Py65 Py65.Gen Py65.Spec Py

/-- The status register after BIT (non-immediate). -/
def bitFlags (W : Nat) (p a m : Int) : Int :=
  setFlag (setFlag (setFlag p bitZ (eqB (Py.land a m) 0)) (bitN W) (flag m (bitN W))) (bitV W)
    (flag m (bitV W))

theorem opBIT_core (c : Cfg) (hc : IsDev c) (x : St → Int × St) (mo : Mode) (hx : ModeSem c x mo)
    (s : St) (hs : WF c s) :
    core (Mpu6502.opBIT c x s) =
      { core s with p := bitFlags c.BYTE_WIDTH s.p s.a (s.mem (ea c.BYTE_WIDTH mo (core s))) } := by
  obtain ⟨hv, hcore⟩ := hx s hs
  obtain ⟨ha, hxx, hy, hsp, hp, hpc, hmem, hw⟩ := core_fields hcore
  have hm := hs.mem (ea c.BYTE_WIDTH mo (core s))
  generalize ea c.BYTE_WIDTH mo (core s) = e at hv hm
  simp only [Mpu6502.opBIT, ByteAt_val, ByteAt_p, ByteAt_a, hp, ha, hmem, hv]
  generalize s.mem e = m at hm
  rcases hc with rfl | rfl <;>
  · constfold [bitFlags] at hm ⊢
    simp only [flagalg]
    split_ifs <;> simp [core, flagalg, *] <;> flag_close

theorem normP_bitFlags (W : Nat) (hW : W = 8 ∨ W = 16) (p a m : Int) :
    normP (bitFlags W p a m) = bitFlags W (normP p) a m := by
  rcases hW with rfl | rfl <;>
  · simp only [bitFlags, bitN, bitV, bitZ, Nat.reduceSub]
    rw [normP_setFlag _ _ _ (by decide), normP_setFlag _ _ _ (by decide), normP_setFlag _ _ _ (by decide)]

theorem opBIT_ok (c : Cfg) (hc : IsDev c) (v : Variant) (x : St → Int × St) (mo : Mode)
    (hx : ModeSem c x mo) (hmo : mo ≠ .imm) :
    HandlerOK c v (fun s => bump (mo.len - 1) (Mpu6502.opBIT c x s)) .BIT mo := by
  intro s hs
  have h := opBIT_core c hc x mo hx s hs
  obtain ⟨ha, hxx, hy, hsp, hp, hpc, hmem, hw⟩ := core_eq h
  have e1 : exec c.BYTE_WIDTH v .BIT mo (abs s) =
      { abs s with p := bitFlags c.BYTE_WIDTH (abs s).p (abs s).a ((abs s).mem (ea c.BYTE_WIDTH mo (abs s))),
                   pc := nextPc c.BYTE_WIDTH mo (abs s) } := by
    cases mo <;> first | (exact absurd rfl hmo) | rfl
  rw [e1]
  simp only [ea_abs, nextPc_abs]
  simp only [absH, abs, bump, core, nextPc, ha, hxx, hy, hsp, hp, hpc, hmem, hw, addrMask_succ hc,
    normP_bitFlags _ hc.W]

def rmwV (W : Nat) (mn : Mn) (v : Int) (cin : Bool) : Int := (rmw W mn v cin).1
def rmwP (W : Nat) (mn : Mn) (p v : Int) (cin : Bool) : Int :=
  setNZ W (match (rmw W mn v cin).2 with | some c => setFlag p bitC c | none => p) (rmw W mn v cin).1

theorem normP_rmwP (W : Nat) (hW : W = 8 ∨ W = 16) (mn : Mn) (p v : Int) (cin : Bool) :
    normP (rmwP W mn p v cin) = rmwP W mn (normP p) v cin := by
  simp only [rmwP, normP_setNZ _ hW]
  cases (rmw W mn v cin).2 <;> simp only [bitC]
  rw [normP_setFlag _ _ _ (by decide)]

def IsRmw (mn : Mn) : Prop := mn = .ASL ∨ mn = .LSR ∨ mn = .ROL ∨ mn = .ROR ∨ mn = .INC ∨ mn = .DEC

theorem exec_rmw_mem (W : Nat) (v : Variant) (mn : Mn) (hmn : IsRmw mn) (mo : Mode) (hmo : mo ≠ .acc)
    (s : AState) :
    exec W v mn mo s =
      { write s (ea W mo s) (rmwV W mn (s.mem (ea W mo s)) (flag s.p bitC)) with
        p := rmwP W mn s.p (s.mem (ea W mo s)) (flag s.p bitC), pc := nextPc W mo s } := by
  rcases hmn with rfl | rfl | rfl | rfl | rfl | rfl <;> cases mo <;>
    first | (exact absurd rfl hmo) | rfl

theorem exec_rmw_acc (W : Nat) (v : Variant) (mn : Mn) (hmn : IsRmw mn) (s : AState) :
    exec W v mn .acc s =
      { s with a := rmwV W mn s.a (flag s.p bitC), p := rmwP W mn s.p s.a (flag s.p bitC),
               pc := nextPc W .acc s } := by
  rcases hmn with rfl | rfl | rfl | rfl | rfl | rfl <;> rfl

/- The accumulator and the memory form of a mnemonic run the same computation; each `*_pure` lemma
states it once, on integers, in the shape the code has after its fields are projected out. -/

/-- `nz_flags` after C N Z were cleared and C set from `co` (ASL). -/
theorem cnz_flags {c : Cfg} (hc : IsDev c) (p t : Int) (co : Bool) (ht : 0 ≤ t ∧ t ≤ c.byteMask) :
    (let p0 := land p (lnot (lor (lor c.CARRY c.NEGATIVE) c.ZERO))
     let p1 := if co = true then lor p0 c.CARRY else p0
     if t = 0 then lor p1 c.ZERO else lor p1 (land t c.NEGATIVE)) =
      setNZ c.BYTE_WIDTH (setFlag p bitC co) t := by
  rw [← nz_flags hc _ t ht]
  rcases hc with rfl | rfl <;> cases co <;>
  · simp only [Bool.false_eq_true, if_true, if_false]
    constfold
    simp only [flagalg]

theorem asl_pure {c : Cfg} (hc : IsDev c) (p m : Int) (cin : Bool) (hm : 0 ≤ m ∧ m ≤ c.byteMask) :
    let t := land (shl m 1) c.byteMask
    let p0 := land p (lnot (lor (lor c.CARRY c.NEGATIVE) c.ZERO))
    let p1 := if land m c.NEGATIVE ≠ 0 then lor p0 c.CARRY else p0
    t = rmwV c.BYTE_WIDTH .ASL m cin ∧
    (if t ≠ 0 then lor p1 (land t c.NEGATIVE) else lor p1 c.ZERO) = rmwP c.BYTE_WIDTH .ASL p m cin := by
  have hv : land (shl m 1) c.byteMask = (m * 2) % BM c.BYTE_WIDTH := by
    rw [land_byteMask hc]; rfl
  refine ⟨hv, ?_⟩
  simp only [hv, top_test hc m hm, ne_eq, ite_not]
  exact cnz_flags hc p _ _ (emod_byte hc _)

/-- LSR: the result's top bit is clear, so the code does not copy it. -/
theorem lsr_pure {c : Cfg} (hc : IsDev c) (p m : Int) (cin : Bool) (hm : 0 ≤ m ∧ m ≤ c.byteMask) :
    let p1 := lor (land p (lnot (lor (lor c.CARRY c.NEGATIVE) c.ZERO))) (land m 1)
    shr m 1 = rmwV c.BYTE_WIDTH .LSR m cin ∧
    (if shr m 1 ≠ 0 then p1 else lor p1 c.ZERO) = rmwP c.BYTE_WIDTH .LSR p m cin := by
  have hv : shr m 1 = m / 2 := rfl
  refine ⟨hv, ?_⟩
  have hl : eqB (m % 2) 1 = flag m 0 := by simp [flag]
  have ht : geB (m / 2) (2 ^ (c.BYTE_WIDTH - 1)) = false := by
    rcases hc with rfl | rfl <;> (constfold at hm ⊢; bool_omega)
  simp only [hv, rmwP, rmw, setNZ, ht, hl]
  by_cases h0 : m / 2 = 0
  · rcases hc with rfl | rfl <;> cases h : flag m 0 <;>
    · simp only [h0, ne_eq, not_true_eq_false, if_false]
      constfold
      simp only [flagalg, h, Bool.false_or]
      rfl
  · have hz : eqB (m / 2) 0 = false := by simp [eqB, h0]
    rcases hc with rfl | rfl <;> cases h : flag m 0 <;>
    · simp only [h0, hz, ne_eq, not_false_eq_true, if_true]
      constfold
      simp only [flagalg, h, Bool.false_or]

/-- INC and DEC: `FlagsNZ` of the masked result `x = m ± 1`. -/
theorem incdec_pure {c : Cfg} (hc : IsDev c) (p x : Int) :
    let t := land x c.byteMask
    let p0 := land p (lnot (lor c.ZERO c.NEGATIVE))
    t = x % BM c.BYTE_WIDTH ∧
    (if t ≠ 0 then lor p0 (land t c.NEGATIVE) else lor p0 c.ZERO) = setNZ c.BYTE_WIDTH p (x % BM c.BYTE_WIDTH) := by
  refine ⟨land_byteMask hc x, ?_⟩
  simp only [land_byteMask hc, ne_eq, ite_not]
  exact nz_flags hc p _ (emod_byte hc _)

theorem inc_pure {c : Cfg} (hc : IsDev c) (p m : Int) (cin : Bool) :
    let t := land (m + 1) c.byteMask
    let p0 := land p (lnot (lor c.ZERO c.NEGATIVE))
    t = rmwV c.BYTE_WIDTH .INC m cin ∧
    (if t ≠ 0 then lor p0 (land t c.NEGATIVE) else lor p0 c.ZERO) = rmwP c.BYTE_WIDTH .INC p m cin :=
  incdec_pure hc p (m + 1)

theorem dec_pure {c : Cfg} (hc : IsDev c) (p m : Int) (cin : Bool) :
    let t := land (m - 1) c.byteMask
    let p0 := land p (lnot (lor c.ZERO c.NEGATIVE))
    t = rmwV c.BYTE_WIDTH .DEC m cin ∧
    (if t ≠ 0 then lor p0 (land t c.NEGATIVE) else lor p0 c.ZERO) = rmwP c.BYTE_WIDTH .DEC p m cin :=
  incdec_pure hc p (m - 1)

theorem opASL_mem_core (c : Cfg) (hc : IsDev c) (x : St → Int × St) (mo : Mode) (hx : ModeSem c x mo)
    (s : St) (hs : WF c s) :
    core (Mpu6502.opASL_mem c x s) =
      { core s with
        p := rmwP c.BYTE_WIDTH .ASL s.p (s.mem (ea c.BYTE_WIDTH mo (core s))) (flag s.p bitC),
        mem := fun k => if k = ea c.BYTE_WIDTH mo (core s)
                 then rmwV c.BYTE_WIDTH .ASL (s.mem (ea c.BYTE_WIDTH mo (core s))) (flag s.p bitC)
                 else s.mem k } := by
  obtain ⟨hv, hcore⟩ := hx s hs
  obtain ⟨ha, hxx, hy, hsp, hp, hpc, hmem, hw⟩ := core_fields hcore
  have h := asl_pure hc s.p _ (flag s.p bitC) (hs.mem (ea c.BYTE_WIDTH mo (core s)))
  generalize ea c.BYTE_WIDTH mo (core s) = e at hv h
  rw [← h.1, ← h.2]
  clear h
  proj_simp [Mpu6502.opASL_mem, memSet]

theorem opLSR_mem_core (c : Cfg) (hc : IsDev c) (x : St → Int × St) (mo : Mode) (hx : ModeSem c x mo)
    (s : St) (hs : WF c s) :
    core (Mpu6502.opLSR_mem c x s) =
      { core s with
        p := rmwP c.BYTE_WIDTH .LSR s.p (s.mem (ea c.BYTE_WIDTH mo (core s))) (flag s.p bitC),
        mem := fun k => if k = ea c.BYTE_WIDTH mo (core s)
                 then rmwV c.BYTE_WIDTH .LSR (s.mem (ea c.BYTE_WIDTH mo (core s))) (flag s.p bitC)
                 else s.mem k } := by
  obtain ⟨hv, hcore⟩ := hx s hs
  obtain ⟨ha, hxx, hy, hsp, hp, hpc, hmem, hw⟩ := core_fields hcore
  have h := lsr_pure hc s.p _ (flag s.p bitC) (hs.mem (ea c.BYTE_WIDTH mo (core s)))
  generalize ea c.BYTE_WIDTH mo (core s) = e at hv h
  rw [← h.1, ← h.2]
  clear h
  proj_simp [Mpu6502.opLSR_mem, memSet]

theorem opDECR_mem_core (c : Cfg) (hc : IsDev c) (x : St → Int × St) (mo : Mode) (hx : ModeSem c x mo)
    (s : St) (hs : WF c s) :
    core (Mpu6502.opDECR_mem c x s) =
      { core s with
        p := rmwP c.BYTE_WIDTH .DEC s.p (s.mem (ea c.BYTE_WIDTH mo (core s))) (flag s.p bitC),
        mem := fun k => if k = ea c.BYTE_WIDTH mo (core s)
                 then rmwV c.BYTE_WIDTH .DEC (s.mem (ea c.BYTE_WIDTH mo (core s))) (flag s.p bitC)
                 else s.mem k } := by
  obtain ⟨hv, hcore⟩ := hx s hs
  obtain ⟨ha, hxx, hy, hsp, hp, hpc, hmem, hw⟩ := core_fields hcore
  have h := dec_pure hc s.p (s.mem (ea c.BYTE_WIDTH mo (core s))) (flag s.p bitC)
  generalize ea c.BYTE_WIDTH mo (core s) = e at hv h
  rw [← h.1, ← h.2]
  clear h
  proj_simp [Mpu6502.opDECR_mem, memSet]

theorem opINCR_mem_core (c : Cfg) (hc : IsDev c) (x : St → Int × St) (mo : Mode) (hx : ModeSem c x mo)
    (s : St) (hs : WF c s) :
    core (Mpu6502.opINCR_mem c x s) =
      { core s with
        p := rmwP c.BYTE_WIDTH .INC s.p (s.mem (ea c.BYTE_WIDTH mo (core s))) (flag s.p bitC),
        mem := fun k => if k = ea c.BYTE_WIDTH mo (core s)
                 then rmwV c.BYTE_WIDTH .INC (s.mem (ea c.BYTE_WIDTH mo (core s))) (flag s.p bitC)
                 else s.mem k } := by
  obtain ⟨hv, hcore⟩ := hx s hs
  obtain ⟨ha, hxx, hy, hsp, hp, hpc, hmem, hw⟩ := core_fields hcore
  have h := inc_pure hc s.p (s.mem (ea c.BYTE_WIDTH mo (core s))) (flag s.p bitC)
  generalize ea c.BYTE_WIDTH mo (core s) = e at hv h
  rw [← h.1, ← h.2]
  clear h
  proj_simp [Mpu6502.opINCR_mem, memSet]

theorem opASL_acc_core (c : Cfg) (hc : IsDev c) (s : St) (hs : WF c s) :
    core (Mpu6502.opASL_acc c s) =
      { core s with a := rmwV c.BYTE_WIDTH .ASL s.a (flag s.p bitC),
                    p := rmwP c.BYTE_WIDTH .ASL s.p s.a (flag s.p bitC) } := by
  have h := asl_pure hc s.p s.a (flag s.p bitC) hs.a
  rw [← h.1, ← h.2]
  clear h
  proj_simp [Mpu6502.opASL_acc]

theorem opLSR_acc_core (c : Cfg) (hc : IsDev c) (s : St) (hs : WF c s) :
    core (Mpu6502.opLSR_acc c s) =
      { core s with a := rmwV c.BYTE_WIDTH .LSR s.a (flag s.p bitC),
                    p := rmwP c.BYTE_WIDTH .LSR s.p s.a (flag s.p bitC) } := by
  have h := lsr_pure hc s.p s.a (flag s.p bitC) hs.a
  rw [← h.1, ← h.2]
  clear h
  proj_simp [Mpu6502.opLSR_acc]

theorem opDECR_acc_core (c : Cfg) (hc : IsDev c) (s : St) (_ : WF c s) :
    core (Mpu6502.opDECR_acc c s) =
      { core s with a := rmwV c.BYTE_WIDTH .DEC s.a (flag s.p bitC),
                    p := rmwP c.BYTE_WIDTH .DEC s.p s.a (flag s.p bitC) } := by
  have h := dec_pure hc s.p s.a (flag s.p bitC)
  rw [← h.1, ← h.2]
  clear h
  proj_simp [Mpu6502.opDECR_acc]

theorem opINCR_acc_core (c : Cfg) (hc : IsDev c) (s : St) (_ : WF c s) :
    core (Mpu6502.opINCR_acc c s) =
      { core s with a := rmwV c.BYTE_WIDTH .INC s.a (flag s.p bitC),
                    p := rmwP c.BYTE_WIDTH .INC s.p s.a (flag s.p bitC) } := by
  have h := inc_pure hc s.p s.a (flag s.p bitC)
  rw [← h.1, ← h.2]
  clear h
  proj_simp [Mpu6502.opINCR_acc]

/-- From a `core` equation of a memory-form helper to the handler contract. -/
theorem rmw_mem_ok (c : Cfg) (hc : IsDev c) (v : Variant) (f : St → St) (mn : Mn) (hmn : IsRmw mn)
    (mo : Mode) (hmo : mo ≠ .acc)
    (hcore : ∀ s, WF c s → core (f s) =
      { core s with
        p := rmwP c.BYTE_WIDTH mn s.p (s.mem (ea c.BYTE_WIDTH mo (core s))) (flag s.p bitC),
        mem := fun k => if k = ea c.BYTE_WIDTH mo (core s)
                 then rmwV c.BYTE_WIDTH mn (s.mem (ea c.BYTE_WIDTH mo (core s))) (flag s.p bitC)
                 else s.mem k }) :
    HandlerOK c v (fun s => bump (mo.len - 1) (f s)) mn mo := by
  intro s hs
  obtain ⟨ha, hxx, hy, hsp, hp, hpc, hmem, hw⟩ := core_eq (hcore s hs)
  rw [exec_rmw_mem _ _ _ hmn _ hmo]
  simp only [ea_abs, nextPc_abs]
  simp only [absH, abs, bump, core, write, nextPc, ha, hxx, hy, hsp, hp, hpc, hmem, hw,
    addrMask_succ hc, normP_rmwP _ hc.W, flag_normP _ _ (by decide : bitC ∈ [0, 1, 2, 3, 6, 7, 14, 15])]
  rfl

theorem rmw_acc_ok (c : Cfg) (hc : IsDev c) (v : Variant) (f : St → St) (mn : Mn) (hmn : IsRmw mn)
    (hcore : ∀ s, WF c s → core (f s) =
      { core s with a := rmwV c.BYTE_WIDTH mn s.a (flag s.p bitC),
                    p := rmwP c.BYTE_WIDTH mn s.p s.a (flag s.p bitC) }) :
    HandlerOK c v f mn .acc := by
  intro s hs
  obtain ⟨ha, hxx, hy, hsp, hp, hpc, hmem, hw⟩ := core_eq (hcore s hs)
  rw [exec_rmw_acc _ _ _ hmn]
  simp only [absH, abs, core, nextPc, Mode.len, ha, hxx, hy, hsp, hp, hpc, hmem, hw,
    addrMask_succ hc, normP_rmwP _ hc.W, flag_normP _ _ (by decide : bitC ∈ [0, 1, 2, 3, 6, 7, 14, 15])]
  simp

/-! Scripts for a core lemma of the group straight from the generated helper `f` (both widths at once). -/

set_option hygiene false in
macro "rmw_mem_core" f:ident : tactic =>
  `(tactic| (
    obtain ⟨hv, hcore⟩ := hx s hs
    obtain ⟨ha, hxx, hy, hsp, hp, hpc, hmem, hw⟩ := core_fields hcore
    have hm := hs.mem (ea c.BYTE_WIDTH mo (core s))
    generalize ea c.BYTE_WIDTH mo (core s) = e at hv hm
    simp only [$f:ident, Mpu6502.FlagsNZ, ByteAt_val, ByteAt_p, ByteAt_a, ByteAt_mem, hp, ha, hmem, hv, memSet]
    generalize s.mem e = m at hm
    rcases hc with rfl | rfl <;>
    · constfold [rmwP, rmwV, rmw, setNZ] at hm ⊢
      have hg8 : ∀ z : Int, 0 ≤ z ∧ z ≤ 255 → geB z 128 = flag z 7 := by intro z hz; bool_omega
      have hg16 : ∀ z : Int, 0 ≤ z ∧ z ≤ 65535 → geB z 32768 = flag z 15 := by intro z hz; bool_omega
      have hl : ∀ z : Int, eqB (z % 2) 1 = flag z 0 := by intro z; simp [flag]
      try rw [hg8 m hm]
      try rw [hg16 m hm]
      try rw [hl m]
      simp only [flagalg]
      simp only [pyarith, Int.reducePow, Int.reduceMul]
      split_ifs <;> simp [core, flagalg, *]
      all_goals flag_close))


set_option hygiene false in
macro "rmw_acc_core" f:ident : tactic =>
  `(tactic| (
    have ha := hs.a
    simp only [$f:ident, Mpu6502.FlagsNZ]
    generalize s.a = m at ha
    rcases hc with rfl | rfl <;>
    · constfold [rmwP, rmwV, rmw, setNZ] at ha ⊢
      have hg8 : ∀ z : Int, 0 ≤ z ∧ z ≤ 255 → geB z 128 = flag z 7 := by intro z hz; bool_omega
      have hg16 : ∀ z : Int, 0 ≤ z ∧ z ≤ 65535 → geB z 32768 = flag z 15 := by intro z hz; bool_omega
      have hl : ∀ z : Int, eqB (z % 2) 1 = flag z 0 := by intro z; simp [flag]
      try rw [hg8 m ha]
      try rw [hg16 m ha]
      try rw [hl m]
      simp only [flagalg]
      simp only [pyarith, Int.reducePow, Int.reduceMul]
      split_ifs <;> simp [core, flagalg, *]
      all_goals flag_close))

end Py65.Proofs
