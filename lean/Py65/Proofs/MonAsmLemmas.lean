/-
Helper lemmas for C20a about the hand model `Py65/Model/MonAsm.lean` (the `assemble` command, one-line and
interactive): what the ObservableMemory SLICE store does to the cells (inside the physical size: exactly the
element-wise store; at or above it: NOTHING, the range is clipped away), one iteration of the interactive
loop, and the assembler's top-of-memory bound.  Property statements live in `Py65/Props/C20a.lean`.
-/
import Py65.Model.MonAsm
import Py65.Proofs.MonLemmas
import Py65.Model.Asm

namespace Py65.Proofs.MonAsmLemmas
open Py65 Py65.Model Py65.Model.PyStr Py65.Model.ObsMem Py65.Model.AddrParser Py65.Model.MonMem
open Py65.Model.MonGenRt Py65.Model.MonAsmRt Py65.Model.MonAsm Py65.Spec.ObsMem Py65.Spec.MonMem

theorem setMany_shape (reply : Reply) : ∀ (idx vals : List Int) (m : OM), SameShape m (setMany reply idx vals m) := by
  intro idx
  induction idx with
  | nil => intro vals m; cases vals <;> exact SameShape.refl m
  | cons n ns ih =>
    intro vals m
    cases vals with
    | nil => exact SameShape.refl m
    | cons v vs => exact SameShape.trans (set_sameShape reply m n v) (ih vs _)

theorem sliceStore_shape (reply : Reply) (m : OM) (start : Int) (bytes : List Int) :
    SameShape m (sliceStore reply m start bytes) := setMany_shape reply _ _ m

theorem setMany_contig (reply : Reply) : ∀ (vs : List Int) (a : Int) (m : OM), WF m → WQuiet reply m →
    0 ≤ a → a + (vs.length : Int) ≤ m.physMask + 1 →
    (∀ i : Nat, i < vs.length → (setMany reply (addrRange a (a + (vs.length : Int) - 1)) vs m).subject (a + (i : Int)) = vs.getD i 0) ∧
    (∀ k, (k < a ∨ a + (vs.length : Int) ≤ k) →
      (setMany reply (addrRange a (a + (vs.length : Int) - 1)) vs m).subject k = m.subject k) := by
  intro vs
  induction vs with
  | nil =>
    intro a m _ _ _ _
    refine ⟨fun i hi => absurd hi (by simp), fun k _ => ?_⟩
    rw [addrRange_nil a _ (by simp)]
    rfl
  | cons v vs ih =>
    intro a m hw hq h0 h1
    have hlen : ((v :: vs).length : Int) = (vs.length : Int) + 1 := by simp
    rw [hlen] at h1 ⊢
    have hr : addrRange a (a + ((vs.length : Int) + 1) - 1) = a :: addrRange (a + 1) (a + 1 + (vs.length : Int) - 1) := by
      rw [addrRange_cons a _ (by omega)]
      congr 2; omega
    rw [hr]
    simp only [setMany]
    have hsh := set_sameShape reply m a v
    have hw' := hsh.wf hw
    have hq' := hsh.wquiet hq
    have hpm : (ObsMem.set reply m a v).physMask = m.physMask := hsh.1
    obtain ⟨i1, i2⟩ := ih (a + 1) (ObsMem.set reply m a v) hw' hq' (by omega) (by rw [hpm]; omega)
    have hsub : (ObsMem.set reply m a v).subject = upd m.subject a v := by
      rw [set_subject_quiet hw hq, phys_of_inRange h0 (by omega)]
    refine ⟨fun i hi => ?_, fun k hk => ?_⟩
    · cases i with
      | zero =>
        have := i2 a (Or.inl (by omega))
        simp only [Nat.cast_zero, Int.add_zero, List.getD_cons_zero]
        rw [this, hsub]; simp [upd]
      | succ j =>
        have hj : j < vs.length := by simpa using hi
        have := i1 j hj
        have e : a + ((j + 1 : Nat) : Int) = a + 1 + (j : Int) := by push_cast; omega
        rw [e, this]; simp
    · rw [i2 k (by omega), hsub]
      have : k ≠ a := by omega
      simp [upd, this]

theorem clip_inRange (m : OM) {x : Int} (h0 : 0 ≤ x) (h1 : x ≤ m.physMask + 1) : clip m x = x := by
  unfold clip clampBound
  rw [if_neg (by omega), if_neg (by omega)]

theorem clip_above (m : OM) {x : Int} (hp : 0 ≤ m.physMask + 1) (h : m.physMask + 1 ≤ x) :
    clip m x = m.physMask + 1 := by
  unfold clip clampBound
  rw [if_neg (by omega)]
  split <;> omega

/-- INSIDE the physical memory the slice store is exactly the element-wise store: the cell of
`start + i` holds `bytes[i]`, every other cell is unchanged, nothing else of the memory object changes -/
theorem sliceStore_inRange (reply : Reply) (m : OM) (start : Int) (bytes : List Int) (hw : WF m)
    (hq : WQuiet reply m) (h0 : 0 ≤ start) (h1 : start + (bytes.length : Int) ≤ m.physMask + 1) :
    (∀ i : Nat, i < bytes.length → (sliceStore reply m start bytes).subject (start + (i : Int)) = bytes.getD i 0) ∧
    (∀ k, (k < start ∨ start + (bytes.length : Int) ≤ k) → (sliceStore reply m start bytes).subject k = m.subject k) ∧
    SameShape m (sliceStore reply m start bytes) := by
  have hs : sliceStore reply m start bytes =
      setMany reply (addrRange start (start + (bytes.length : Int) - 1)) bytes m := by
    unfold sliceStore
    rw [clip_inRange m h0 (by omega), clip_inRange m (by omega) h1, pyRange_one]
  rw [hs]
  obtain ⟨i1, i2⟩ := setMany_contig reply bytes start m hw hq h0 h1
  exact ⟨i1, i2, setMany_shape reply _ _ m⟩

/-- AT OR ABOVE the physical size the slice store does NOTHING (`slice.indices` clips both bounds to the
size; item access at the same address would alias into the memory): the precondition of
`sliceStore_inRange` is needed -/
theorem sliceStore_above (reply : Reply) (m : OM) (start : Int) (bytes : List Int) (hp : 0 ≤ m.physMask + 1)
    (h : m.physMask + 1 ≤ start) : sliceStore reply m start bytes = m := by
  unfold sliceStore
  rw [clip_above m hp h, clip_above m hp (by omega), pyRange_one, addrRange_nil _ _ (by omega)]
  cases bytes <;> rfl

open Py65.Model.Asm in
theorem finish_ok {d : Asm.Dev} {pc : Int} {bytes bs : List Int} (h : finish d pc bytes = .ok bs) :
    bs = bytes ∧ pc + (bs.length : Int) ≤ (2 : Int) ^ d.addrWidth := by
  unfold finish at h
  split_ifs at h with hc
  · injection h with h; subst h; exact ⟨rfl, by omega⟩

open Py65.Model.Asm in
theorem emit_ok {d : Asm.Dev} {opcode mode : Str} {pc : Int} {groups : List Str} {bs : List Int}
    (h : emit d opcode pc mode groups = some (.ok bs)) :
    pc + (bs.length : Int) ≤ (2 : Int) ^ d.addrWidth ∧ bs ≠ [] := by
  have key : ∀ (op : Nat) (ops : List Int), finish d pc ((op : Int) :: ops) = .ok bs →
      pc + (bs.length : Int) ≤ (2 : Int) ^ d.addrWidth ∧ bs ≠ [] := fun op ops h => by
    obtain ⟨e, hb⟩ := finish_ok h
    exact ⟨hb, by rw [e]; simp⟩
  unfold emit at h
  split_ifs at h
  · split at h
    · cases h
    · split at h
      · cases h
      · split at h
        · cases h
        · split at h
          · cases h
          · split at h
            · injection h with h; exact key _ _ h
            · cases h
  · split at h
    · cases h
    · simp only [] at h
      split at h
      · injection h with h; exact key _ _ h
      · cases h

open Py65.Model.Asm in
theorem tryModes_ok {d : Asm.Dev} {opcode operand : Str} {pc : Int} {bs : List Int} :
    ∀ (l : List (Str × List TItem)), tryModes d opcode operand pc l = .ok bs →
      pc + (bs.length : Int) ≤ (2 : Int) ^ d.addrWidth ∧ bs ≠ [] := by
  intro l
  induction l with
  | nil => intro h; cases h
  | cons x xs ih =>
    obtain ⟨mode, items⟩ := x
    intro h
    unfold tryModes at h
    cases ht : tryMode d opcode operand pc mode items with
    | none => rw [ht] at h; exact ih h
    | some r =>
      rw [ht] at h
      simp only [] at h
      subst h
      unfold tryMode at ht
      split at ht
      · cases ht
      · exact emit_ok ht

open Py65.Model.Asm in
/-- whatever the hand model of the assembler returns as bytes is non-empty and ends inside the address space
(the check `pc + len(bytes) > 2 ** ADDR_WIDTH → OverflowError` of `assemble`) -/
theorem assembleL_ok_top {d : Asm.Dev} {P : Parser} {s : Str} {pc : Int} {bs : List Int}
    (h : assembleL d P s pc = .ok bs) : pc + (bs.length : Int) ≤ (2 : Int) ^ d.addrWidth ∧ bs ≠ [] := by
  unfold assembleL at h
  split at h
  · exact tryModes_ok _ h
  all_goals cases h

end Py65.Proofs.MonAsmLemmas
