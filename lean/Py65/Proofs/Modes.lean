/-
Fetch helpers and addressing-mode helpers of the generated model meet the specification's
operand / effective-address definitions (aspect *sem*), at both byte widths.  Statements
mention only the returned value and the `core` of the resulting state: how the helper logs
its reads or counts extra cycles is irrelevant here (aspects *log* and *cyc*).
-/
import Py65.Proofs.CpuBase

namespace Py65.Proofs
open Py65 Py65.Gen Py65.Spec Py

/-! ### the masks as moduli -/

theorem byte_pow {c : Cfg} (hc : IsDev c) : c.byteMask + 1 = 2 ^ c.BYTE_WIDTH := by
  rcases hc with rfl | rfl <;> simp [pyarith]

theorem emod_byte {c : Cfg} (hc : IsDev c) (x : Int) :
    0 ≤ x % BM c.BYTE_WIDTH ∧ x % BM c.BYTE_WIDTH ≤ c.byteMask := by
  have h := byte_pow hc
  have hpos : (0 : Int) < 2 ^ c.BYTE_WIDTH := Int.pow_pos (by decide)
  have h1 := Int.emod_nonneg x (Int.ne_of_gt hpos)
  have h2 := Int.emod_lt_of_pos x hpos
  simp only [BM]
  omega

theorem byte_mod {c : Cfg} (hc : IsDev c) (x : Int) (hx : 0 ≤ x ∧ x ≤ c.byteMask) :
    x % BM c.BYTE_WIDTH = x :=
  Int.emod_eq_of_lt hx.1 (by have := byte_pow hc; simp only [BM]; omega)

theorem land_byteMask {c : Cfg} (hc : IsDev c) (x : Int) : land x c.byteMask = x % BM c.BYTE_WIDTH := by
  rcases hc with rfl | rfl
  · exact land_lit_255 x
  · exact land_lit_65535 x

theorem land_addrMask {c : Cfg} (hc : IsDev c) (x : Int) : land x c.addrMask = x % AM c.BYTE_WIDTH := by
  rcases hc with rfl | rfl
  · exact land_lit_65535 x
  · exact land_lit_4294967295 x

theorem byteMask_le_addrMask {c : Cfg} (hc : IsDev c) : c.byteMask ≤ c.addrMask := by
  rcases hc with rfl | rfl <;> decide

theorem ByteAt_val (c : Cfg) (a : Int) (s : St) : (Mpu6502.ByteAt c a s).1 = s.mem a := rfl
theorem ByteAt_core (c : Cfg) (a : Int) (s : St) : core (Mpu6502.ByteAt c a s).2 = core s := rfl

theorem WordAt_val (c : Cfg) (hc : IsDev c) (a : Int) (s : St) :
    (Mpu6502.WordAt c a s).1 = s.mem a + s.mem ((a + 1) % AM c.BYTE_WIDTH) * BM c.BYTE_WIDTH := by
  rcases hc with rfl | rfl <;>
    simp [Mpu6502.WordAt, Mpu6502.ByteAt, memGet, AM, BM, pyarith]
theorem WordAt_core (c : Cfg) (a : Int) (s : St) : core (Mpu6502.WordAt c a s).2 = core s := rfl

/-- `WrapAt a`: low byte at `a`, high byte at the next address *within the same page*. -/
theorem WrapAt_val (c : Cfg) (hc : IsDev c) (a : Int) (s : St) (ha : 0 ≤ a ∧ a ≤ c.addrMask) :
    (Mpu6502.WrapAt c a s).1 =
      s.mem a + s.mem (a - a % BM c.BYTE_WIDTH + (a + 1) % BM c.BYTE_WIDTH) * BM c.BYTE_WIDTH := by
  rcases hc with rfl | rfl <;>
  · simp [Mpu6502.WrapAt, Mpu6502.ByteAt, memGet, BM, pyarith] at ha ⊢
    pyclose
theorem WrapAt_core (c : Cfg) (a : Int) (s : St) : core (Mpu6502.WrapAt c a s).2 = core s := rfl

/-! ### the fetch helpers change only the log -/
@[simp] theorem ByteAt_a (c : Cfg) (a : Int) (s : St) : (Mpu6502.ByteAt c a s).2.a = s.a := rfl
@[simp] theorem ByteAt_x (c : Cfg) (a : Int) (s : St) : (Mpu6502.ByteAt c a s).2.x = s.x := rfl
@[simp] theorem ByteAt_y (c : Cfg) (a : Int) (s : St) : (Mpu6502.ByteAt c a s).2.y = s.y := rfl
@[simp] theorem ByteAt_sp (c : Cfg) (a : Int) (s : St) : (Mpu6502.ByteAt c a s).2.sp = s.sp := rfl
@[simp] theorem ByteAt_p (c : Cfg) (a : Int) (s : St) : (Mpu6502.ByteAt c a s).2.p = s.p := rfl
@[simp] theorem ByteAt_pc (c : Cfg) (a : Int) (s : St) : (Mpu6502.ByteAt c a s).2.pc = s.pc := rfl
@[simp] theorem ByteAt_mem (c : Cfg) (a : Int) (s : St) : (Mpu6502.ByteAt c a s).2.mem = s.mem := rfl
@[simp] theorem ByteAt_waiting (c : Cfg) (a : Int) (s : St) : (Mpu6502.ByteAt c a s).2.waiting = s.waiting := rfl
@[simp] theorem ByteAt_cycles (c : Cfg) (a : Int) (s : St) : (Mpu6502.ByteAt c a s).2.cycles = s.cycles := rfl
@[simp] theorem ByteAt_addcycles (c : Cfg) (a : Int) (s : St) : (Mpu6502.ByteAt c a s).2.addcycles = s.addcycles := rfl
@[simp] theorem ByteAt_excycles (c : Cfg) (a : Int) (s : St) : (Mpu6502.ByteAt c a s).2.excycles = s.excycles := rfl
@[simp] theorem WordAt_a (c : Cfg) (a : Int) (s : St) : (Mpu6502.WordAt c a s).2.a = s.a := rfl
@[simp] theorem WordAt_x (c : Cfg) (a : Int) (s : St) : (Mpu6502.WordAt c a s).2.x = s.x := rfl
@[simp] theorem WordAt_y (c : Cfg) (a : Int) (s : St) : (Mpu6502.WordAt c a s).2.y = s.y := rfl
@[simp] theorem WordAt_sp (c : Cfg) (a : Int) (s : St) : (Mpu6502.WordAt c a s).2.sp = s.sp := rfl
@[simp] theorem WordAt_p (c : Cfg) (a : Int) (s : St) : (Mpu6502.WordAt c a s).2.p = s.p := rfl
@[simp] theorem WordAt_pc (c : Cfg) (a : Int) (s : St) : (Mpu6502.WordAt c a s).2.pc = s.pc := rfl
@[simp] theorem WordAt_mem (c : Cfg) (a : Int) (s : St) : (Mpu6502.WordAt c a s).2.mem = s.mem := rfl
@[simp] theorem WordAt_waiting (c : Cfg) (a : Int) (s : St) : (Mpu6502.WordAt c a s).2.waiting = s.waiting := rfl
@[simp] theorem WordAt_cycles (c : Cfg) (a : Int) (s : St) : (Mpu6502.WordAt c a s).2.cycles = s.cycles := rfl
@[simp] theorem WordAt_addcycles (c : Cfg) (a : Int) (s : St) : (Mpu6502.WordAt c a s).2.addcycles = s.addcycles := rfl
@[simp] theorem WordAt_excycles (c : Cfg) (a : Int) (s : St) : (Mpu6502.WordAt c a s).2.excycles = s.excycles := rfl
@[simp] theorem WrapAt_a (c : Cfg) (a : Int) (s : St) : (Mpu6502.WrapAt c a s).2.a = s.a := rfl
@[simp] theorem WrapAt_x (c : Cfg) (a : Int) (s : St) : (Mpu6502.WrapAt c a s).2.x = s.x := rfl
@[simp] theorem WrapAt_y (c : Cfg) (a : Int) (s : St) : (Mpu6502.WrapAt c a s).2.y = s.y := rfl
@[simp] theorem WrapAt_sp (c : Cfg) (a : Int) (s : St) : (Mpu6502.WrapAt c a s).2.sp = s.sp := rfl
@[simp] theorem WrapAt_p (c : Cfg) (a : Int) (s : St) : (Mpu6502.WrapAt c a s).2.p = s.p := rfl
@[simp] theorem WrapAt_pc (c : Cfg) (a : Int) (s : St) : (Mpu6502.WrapAt c a s).2.pc = s.pc := rfl
@[simp] theorem WrapAt_mem (c : Cfg) (a : Int) (s : St) : (Mpu6502.WrapAt c a s).2.mem = s.mem := rfl
@[simp] theorem WrapAt_waiting (c : Cfg) (a : Int) (s : St) : (Mpu6502.WrapAt c a s).2.waiting = s.waiting := rfl
@[simp] theorem WrapAt_cycles (c : Cfg) (a : Int) (s : St) : (Mpu6502.WrapAt c a s).2.cycles = s.cycles := rfl
@[simp] theorem WrapAt_addcycles (c : Cfg) (a : Int) (s : St) : (Mpu6502.WrapAt c a s).2.addcycles = s.addcycles := rfl
@[simp] theorem WrapAt_excycles (c : Cfg) (a : Int) (s : St) : (Mpu6502.WrapAt c a s).2.excycles = s.excycles := rfl

/-! ### modes -/

theorem ProgramCounter_sem (c : Cfg) : ModeSem c (Mpu6502.ProgramCounter c) .imm := by
  intro s _; exact ⟨rfl, rfl⟩

theorem ZeroPageAddr_sem (c : Cfg) : ModeSem c (Mpu6502.ZeroPageAddr c) .zpg := by
  intro s _; exact ⟨rfl, rfl⟩

theorem ZeroPageXAddr_sem (c : Cfg) (hc : IsDev c) : ModeSem c (Mpu6502.ZeroPageXAddr c) .zpx := by
  intro s _; refine ⟨?_, rfl⟩
  simp only [Mpu6502.ZeroPageXAddr, ByteAt_val, land_comm c.byteMask, land_byteMask hc, Int.add_comm s.x]
  rfl

theorem ZeroPageYAddr_sem (c : Cfg) (hc : IsDev c) : ModeSem c (Mpu6502.ZeroPageYAddr c) .zpy := by
  intro s _; refine ⟨?_, rfl⟩
  simp only [Mpu6502.ZeroPageYAddr, ByteAt_val, land_comm c.byteMask, land_byteMask hc, Int.add_comm s.y]
  rfl

theorem AbsoluteAddr_sem (c : Cfg) (hc : IsDev c) : ModeSem c (Mpu6502.AbsoluteAddr c) .abs := by
  intro s _; refine ⟨?_, rfl⟩
  simp only [Mpu6502.AbsoluteAddr, WordAt_val c hc]; rfl

/-- A pointer in page zero: `WrapAt` takes its high byte from `(z + 1) mod 2^W`. -/
theorem WrapAt_zp (c : Cfg) (hc : IsDev c) (z : Int) (s : St) (hz : 0 ≤ z ∧ z ≤ c.byteMask) :
    (Mpu6502.WrapAt c z s).1 = zpPtr c.BYTE_WIDTH (core s) z := by
  rw [WrapAt_val c hc z s ⟨hz.1, Int.le_trans hz.2 (byteMask_le_addrMask hc)⟩, byte_mod hc z hz, Int.sub_self,
    Int.zero_add]
  rfl

theorem IndirectXAddr_sem (c : Cfg) (hc : IsDev c) : ModeSem c (Mpu6502.IndirectXAddr c) .inx := by
  intro s _
  refine ⟨?_, by simp only [Mpu6502.IndirectXAddr, WrapAt_core, ByteAt_core]⟩
  simp only [Mpu6502.IndirectXAddr, ByteAt_val, ByteAt_x, land_comm c.byteMask, land_byteMask hc]
  exact WrapAt_zp c hc _ _ (emod_byte hc _)

theorem core_excycles (s : St) (k : Int) : core { s with excycles := k } = core s := rfl

/-- Absolute indexed by the register `r` (X or Y): the three branches of the helper (extra-cycle
accounting on a page crossing) return the same address and do not touch the core. -/
theorem indexed_sem {c : Cfg} (hc : IsDev c) (f : St → Int × St) (r : St → Int) (mo : Mode)
    (hf : ∀ s, (f s).1 = land ((Mpu6502.WordAt c s.pc s).1 + r s) c.addrMask ∧ core (f s).2 = core s)
    (hea : ∀ s, ea c.BYTE_WIDTH mo (core s) = (opnd16 c.BYTE_WIDTH (core s) + r s) % AM c.BYTE_WIDTH) :
    ModeSem c f mo := by
  intro s _
  refine ⟨?_, (hf s).2⟩
  rw [(hf s).1, hea, land_addrMask hc, WordAt_val c hc]
  rfl

theorem AbsoluteXAddr_sem (c : Cfg) (hc : IsDev c) : ModeSem c (Mpu6502.AbsoluteXAddr c) .abx :=
  indexed_sem hc _ St.x .abx
    (fun s => ⟨by simp only [Mpu6502.AbsoluteXAddr]; split <;> rfl, by
      simp only [Mpu6502.AbsoluteXAddr, apply_ite Prod.snd, apply_ite core, core_excycles, WordAt_core,
        ite_self]⟩)
    (fun _ => rfl)

theorem AbsoluteYAddr_sem (c : Cfg) (hc : IsDev c) : ModeSem c (Mpu6502.AbsoluteYAddr c) .aby :=
  indexed_sem hc _ St.y .aby
    (fun s => ⟨by simp only [Mpu6502.AbsoluteYAddr]; split <;> rfl, by
      simp only [Mpu6502.AbsoluteYAddr, apply_ite Prod.snd, apply_ite core, core_excycles, WordAt_core,
        ite_self]⟩)
    (fun _ => rfl)

theorem IndirectYAddr_sem (c : Cfg) (hc : IsDev c) : ModeSem c (Mpu6502.IndirectYAddr c) .iny := by
  intro s hs
  have hf : (Mpu6502.IndirectYAddr c s).1 =
      land ((Mpu6502.WrapAt c (s.mem s.pc) (Mpu6502.ByteAt c s.pc s).2).1 + s.y) c.addrMask ∧
      core (Mpu6502.IndirectYAddr c s).2 = core s := by
    refine ⟨by simp only [Mpu6502.IndirectYAddr]; split <;> rfl, ?_⟩
    simp only [Mpu6502.IndirectYAddr, apply_ite Prod.snd, apply_ite core, core_excycles, WrapAt_core,
      ByteAt_core, ite_self]
  refine ⟨?_, hf.2⟩
  rw [hf.1, land_addrMask hc, WrapAt_zp c hc _ _ (hs.mem s.pc)]
  rfl

theorem ZeroPageIndirectAddr_sem (c : Cfg) (hc : c = dev6502.cfg) :
    ModeSem c (Mpu65c02.ZeroPageIndirectAddr c) .zpi := by
  subst hc
  intro s hs
  refine ⟨?_, by simp only [Mpu65c02.ZeroPageIndirectAddr, WrapAt_core, ByteAt_core]⟩
  have h : land 255 (s.mem s.pc) = s.mem s.pc := by
    rw [land_lit_255_left]; exact byte_mod (Or.inl rfl) _ (hs.mem s.pc)
  simp only [Mpu65c02.ZeroPageIndirectAddr, ByteAt_val, h]
  exact WrapAt_zp _ (Or.inl rfl) _ _ (hs.mem s.pc)

end Py65.Proofs
