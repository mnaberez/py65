/-
Aspect *access log*: instructions that touch no memory beyond their opcode (`RegOnly`), and the
branches, which fetch the displacement only when taken (`BranchShape`).
-/
import Py65.Proofs.AccOps
set_option linter.unusedSimpArgs false
namespace Py65.Proofs
open Py65 Py65.Gen Py65.Spec Py

set_option hygiene false in
/-- unfold a whole handler down to record updates and push `acl` through -/
macro "inst_acl" "[" ls:Lean.Parser.Tactic.simpLemma,* "]" : tactic =>
  `(tactic| (
    dsimp +instances only [$ls,*, Mpu6502.FlagsNZ, Mpu6502.ByteAt, Mpu6502.WordAt, Mpu6502.WrapAt,
      Mpu6502.stPush, Mpu6502.stPushWord, Mpu6502.stPop, Mpu6502.stPopWord, Mpu6502.opSET, Mpu6502.opCLR,
      Mpu6502.ImmediateByte, Mpu6502.BranchRelAddr, memGet, memSet, acl]
    try simp +instances only [apply_ite Prod.snd, apply_ite Prod.fst, apply_ite St.log, ite_self,
      List.map_cons, accOf]))

section
variable (c : Cfg) (v : Variant)
theorem a_18 : HandlerAcc c v (Mpu6502.inst_0x18 c) .CLC .imp := none_acc (r_18 c).acl (fun _ => rfl)
theorem a_38 : HandlerAcc c v (Mpu6502.inst_0x38 c) .SEC .imp := none_acc (r_38 c).acl (fun _ => rfl)
theorem a_58 : HandlerAcc c v (Mpu6502.inst_0x58 c) .CLI .imp := none_acc (r_58 c).acl (fun _ => rfl)
theorem a_78 : HandlerAcc c v (Mpu6502.inst_0x78 c) .SEI .imp := none_acc (r_78 c).acl (fun _ => rfl)
theorem a_b8 : HandlerAcc c v (Mpu6502.inst_0xb8 c) .CLV .imp := none_acc (r_b8 c).acl (fun _ => rfl)
theorem a_d8 : HandlerAcc c v (Mpu6502.inst_0xd8 c) .CLD .imp := none_acc (r_d8 c).acl (fun _ => rfl)
theorem a_f8 : HandlerAcc c v (Mpu6502.inst_0xf8 c) .SED .imp := none_acc (r_f8 c).acl (fun _ => rfl)
theorem a_aa : HandlerAcc c v (Mpu6502.inst_0xaa c) .TAX .imp := none_acc (r_aa c).acl (fun _ => rfl)
theorem a_a8 : HandlerAcc c v (Mpu6502.inst_0xa8 c) .TAY .imp := none_acc (r_a8 c).acl (fun _ => rfl)
theorem a_8a : HandlerAcc c v (Mpu6502.inst_0x8a c) .TXA .imp := none_acc (r_8a c).acl (fun _ => rfl)
theorem a_98 : HandlerAcc c v (Mpu6502.inst_0x98 c) .TYA .imp := none_acc (r_98 c).acl (fun _ => rfl)
theorem a_ba : HandlerAcc c v (Mpu6502.inst_0xba c) .TSX .imp := none_acc (r_ba c).acl (fun _ => rfl)
theorem a_9a : HandlerAcc c v (Mpu6502.inst_0x9a c) .TXS .imp := none_acc (r_9a c).acl (fun _ => rfl)
theorem a_e8 : HandlerAcc c v (Mpu6502.inst_0xe8 c) .INX .imp := none_acc (r_e8 c).acl (fun _ => rfl)
theorem a_c8 : HandlerAcc c v (Mpu6502.inst_0xc8 c) .INY .imp := none_acc (r_c8 c).acl (fun _ => rfl)
theorem a_ca : HandlerAcc c v (Mpu6502.inst_0xca c) .DEX .imp := none_acc (r_ca c).acl (fun _ => rfl)
theorem a_88 : HandlerAcc c v (Mpu6502.inst_0x88 c) .DEY .imp := none_acc (r_88 c).acl (fun _ => rfl)
theorem a_ea : HandlerAcc c v (Mpu6502.inst_0xea c) .NOP .imp := none_acc (r_ea c).acl (fun _ => rfl)
end

theorem branch_acc (c : Cfg) (v : Variant) (f : St → St) (mn : Mn) (hf : BranchShape c f mn)
    (hdata : ∀ s, dataAccesses c.BYTE_WIDTH v mn .rel s = []) : HandlerAcc c v f mn .rel := by
  refine HandlerExact.toAcc fun s _ => ?_
  have e : (core s).p = s.p := rfl
  rw [hf, instrAccesses, fetched, hdata, e]
  cases branchCond c.BYTE_WIDTH mn s.p
  · rfl
  · rw [if_pos rfl, BranchRelAddr_eq]; rfl

theorem a_10 (c : Cfg) (hc : IsDev c) (v : Variant) : HandlerAcc c v (Mpu6502.inst_0x10 c) .BPL .rel :=
  branch_acc c v _ _ (b_10 c hc) fun _ => rfl
theorem a_30 (c : Cfg) (hc : IsDev c) (v : Variant) : HandlerAcc c v (Mpu6502.inst_0x30 c) .BMI .rel :=
  branch_acc c v _ _ (b_30 c hc) fun _ => rfl
theorem a_50 (c : Cfg) (hc : IsDev c) (v : Variant) : HandlerAcc c v (Mpu6502.inst_0x50 c) .BVC .rel :=
  branch_acc c v _ _ (b_50 c hc) fun _ => rfl
theorem a_70 (c : Cfg) (hc : IsDev c) (v : Variant) : HandlerAcc c v (Mpu6502.inst_0x70 c) .BVS .rel :=
  branch_acc c v _ _ (b_70 c hc) fun _ => rfl
theorem a_90 (c : Cfg) (hc : IsDev c) (v : Variant) : HandlerAcc c v (Mpu6502.inst_0x90 c) .BCC .rel :=
  branch_acc c v _ _ (b_90 c hc) fun _ => rfl
theorem a_b0 (c : Cfg) (hc : IsDev c) (v : Variant) : HandlerAcc c v (Mpu6502.inst_0xb0 c) .BCS .rel :=
  branch_acc c v _ _ (b_b0 c hc) fun _ => rfl
theorem a_d0 (c : Cfg) (hc : IsDev c) (v : Variant) : HandlerAcc c v (Mpu6502.inst_0xd0 c) .BNE .rel :=
  branch_acc c v _ _ (b_d0 c hc) fun _ => rfl
theorem a_f0 (c : Cfg) (hc : IsDev c) (v : Variant) : HandlerAcc c v (Mpu6502.inst_0xf0 c) .BEQ .rel :=
  branch_acc c v _ _ (b_f0 c hc) fun _ => rfl

end Py65.Proofs
