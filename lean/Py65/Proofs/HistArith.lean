/-
The generated ADC / SBC helpers and JSR, taken DIRECTLY on the generated code for both configurations,
BOTH arithmetic modes (binary and decimal) and without any side condition: the cases C01-C03 exclude
by hypothesis (decimal mode; a JSR whose pushes hit its own operand bytes) are covered here, so that
closure (C05h) needs no such hypothesis.  For ADC / SBC one frame lemma (`arithOp_frame`: only A and P
change, both stay bytes) serves register closure, PC, memory and `waiting` alike; for JSR the registers
are bounded one by one (`jsr_wfr`).
-/
import Py65.Proofs.HistSpecClosed
import Py65.Proofs.Ops4
import Py65.Proofs.Step

set_option linter.unusedSimpArgs false

namespace Py65.Proofs
open Py65 Py65.Gen Py65.Spec Py

/-- `WF` without the PC component (a handler leaves PC unreduced; `step()` masks it afterwards). -/
structure WFr (c : Cfg) (s : St) : Prop where
  a : InB c.BYTE_WIDTH s.a
  x : InB c.BYTE_WIDTH s.x
  y : InB c.BYTE_WIDTH s.y
  sp : InB c.BYTE_WIDTH s.sp
  p : InB c.BYTE_WIDTH s.p
  mem : ∀ k, InB c.BYTE_WIDTH (s.mem k)

theorem inB_iff {c : Cfg} (hc : IsDev c) (v : Int) :
    InB c.BYTE_WIDTH v ↔ (0 ≤ v ∧ v ≤ c.byteMask) := by
  rcases hc with rfl | rfl <;> (simp only [InB, BM]; constfold; omega)

theorem inA_iff {c : Cfg} (hc : IsDev c) (v : Int) :
    InA c.BYTE_WIDTH v ↔ (0 ≤ v ∧ v ≤ c.addrMask) := by
  rcases hc with rfl | rfl <;> (simp only [InA, AM]; constfold; omega)

theorem WF.toWFr {c : Cfg} (hc : IsDev c) {s : St} (hs : WF c s) : WFr c s :=
  ⟨(inB_iff hc _).2 hs.a, (inB_iff hc _).2 hs.x, (inB_iff hc _).2 hs.y, (inB_iff hc _).2 hs.sp,
   (inB_iff hc _).2 hs.p, fun k => (inB_iff hc _).2 (hs.mem k)⟩

theorem WFr.toWF {c : Cfg} (hc : IsDev c) {s : St} (hs : WFr c s) (hpc : 0 ≤ s.pc ∧ s.pc ≤ c.addrMask) :
    WF c s :=
  ⟨(inB_iff hc _).1 hs.a, (inB_iff hc _).1 hs.x, (inB_iff hc _).1 hs.y, (inB_iff hc _).1 hs.sp,
   (inB_iff hc _).1 hs.p, hpc, fun k => (inB_iff hc _).1 (hs.mem k)⟩

/-- The flag constants are inside the byte. -/
theorem inB_consts {c : Cfg} (hc : IsDev c) :
    InB c.BYTE_WIDTH c.CARRY ∧ InB c.BYTE_WIDTH c.ZERO ∧ InB c.BYTE_WIDTH c.INTERRUPT ∧
    InB c.BYTE_WIDTH c.DECIMAL ∧ InB c.BYTE_WIDTH c.BREAK ∧ InB c.BYTE_WIDTH c.UNUSED ∧
    InB c.BYTE_WIDTH c.OVERFLOW ∧ InB c.BYTE_WIDTH c.NEGATIVE ∧ InB c.BYTE_WIDTH c.byteMask := by
  rcases hc with rfl | rfl <;> (simp only [InB, BM]; constfold; decide)

/-- the decimal-mode accumulator: two nibbles -/
theorem inB_nibbles {W : Nat} (hW : W = 8 ∨ W = 16) (u w : Int) : InB W (shl (land u 15) 4 + land w 15) := by
  have h1 := land_nonneg u 15 (by decide); have h2 := land_le_right u 15 (by decide)
  have h3 := land_nonneg w 15 (by decide); have h4 := land_le_right w 15 (by decide)
  rcases hW with rfl | rfl <;> (simp only [InB, BM, shl]; omega)

/-- the binary-mode ADC accumulator -/
theorem inB_adc_bin {c : Cfg} (hc : IsDev c) {d a : Int} (q : Prop) [Decidable q]
    (hd : InB c.BYTE_WIDTH d) (ha : InB c.BYTE_WIDTH a) :
    InB c.BYTE_WIDTH (if d + a + (if q then 1 else 0) > c.byteMask
      then land (d + a + (if q then 1 else 0)) c.byteMask else d + a + (if q then 1 else 0)) := by
  have ht : (0 : Int) ≤ (if q then 1 else 0) := by split <;> decide
  generalize (if q then 1 else 0 : Int) = t at ht
  by_cases h : d + a + t > c.byteMask
  · rw [if_pos h]; exact inB_land_right _ (inB_consts hc).2.2.2.2.2.2.2.2
  · rw [if_neg h, inB_iff hc]
    have := hd.1; have := ha.1
    omega


/-- The generated helper behind an ADC / SBC table row (asked only at these two mnemonics; every
other one falls to the ADC branch). -/
def arithOp : Mn → Cfg → (St → Int × St) → St → St
  | .SBC => Mpu6502.opSBC
  | _ => Mpu6502.opADC

/-- ADC / SBC, binary or decimal mode: only A and P change, and both stay inside the byte. -/
theorem arithOp_frame (c : Cfg) (hc : IsDev c) (mn : Mn) (x : St → Int × St) (s : St) (hs : WF c s)
    (hx : core (x s).2 = core s) :
    ∃ a p, InB c.BYTE_WIDTH a ∧ InB c.BYTE_WIDTH p ∧
      core (arithOp mn c x s) = { core s with a := a, p := p } := by
  obtain ⟨ha', hxx, hy', hsp', hp', hpc', hmem', hw'⟩ := core_fields hx
  have hr := hs.toWFr hc
  have ha := hr.a; have hp := hr.p; have hm := hr.mem
  obtain ⟨kC, kZ, kI, kD, kB, kU, kV, kN, kM⟩ := inB_consts hc
  have hW := hc.W
  refine ⟨(arithOp mn c x s).a, (arithOp mn c x s).p, ?_⟩
  simp only [core, AState.mk.injEq, true_and, arithOp]
  -- Every assignment in either helper is to A or P.  Pushing the field projections through the
  -- branches leaves the untouched fields as they were and, for A and P, a tree of `if`s whose leaves
  -- are `land`/`lor`/nibble combinations of in-range values: no arithmetic on the values is needed.
  split <;>
  · simp +instances only [Mpu6502.opADC, Mpu6502.opSBC, Mpu6502.ByteAt, memGet, apply_ite Prod.fst,
      apply_ite Prod.snd, apply_ite St.a, apply_ite St.x, apply_ite St.y, apply_ite St.sp, apply_ite St.p,
      apply_ite St.pc, apply_ite St.mem, apply_ite St.waiting, ite_self, ha', hxx, hy', hsp', hp', hpc',
      hmem', hw', and_true]
    simp +instances (maxDischargeDepth := 12) only [ha, hp, hm, kC, kZ, kV, kN, kM, inB_ite, inB_lor,
      inB_land_left, inB_land_right, inB_nibbles hW, inB_adc_bin hc, and_self]

/-- JSR, with no condition on where the stack is: registers stay, SP moves down by two (mod the
page), two in-range bytes are written. -/
theorem jsr_wfr (c : Cfg) (hc : IsDev c) (s : St) (hs : WF c s) :
    WFr c (Mpu6502.inst_0x20 c s) ∧ (Mpu6502.inst_0x20 c s).waiting = s.waiting := by
  have hr := hs.toWFr hc
  have hW := hc.W
  have hpush := stPushWord_core c hc (land (s.pc + 1) c.addrMask) s
  obtain ⟨ha, hxx, hy, hsp, hp, hpc, hmem, hw⟩ := core_eq hpush
  simp only [Mpu6502.inst_0x20]
  refine ⟨⟨?_, ?_, ?_, ?_, ?_, fun k => ?_⟩, ?_⟩ <;>
    simp only [WordAt_a, WordAt_x, WordAt_y, WordAt_sp, WordAt_p, WordAt_mem, WordAt_waiting,
      ha, hxx, hy, hsp, hp, hmem, hw]
  · exact hr.a
  · exact hr.x
  · exact hr.y
  · exact inB_mod hW _
  · exact hr.p
  · dsimp +instances only [push, write, core]
    simp +instances (maxDischargeDepth := 6) only [inB_ite, inB_mod hW, hr.mem]
  · rfl

/-- From the handler's registers to the state `step()` returns (final PC mask included). -/
theorem step_WF_of_handler (c : Cfg) (hc : IsDev c) (t : Tbl) (s : St)
    (h : WFr c (t.instruct (s.mem s.pc) (afterFetch c t s))) : WF c (Mpu6502.step c t s) := by
  rw [step_unfold]
  refine WFr.toWF hc ⟨h.a, h.x, h.y, h.sp, h.p, h.mem⟩ ?_
  rcases hc with rfl | rfl <;> (constfold; simp only [pyarith]; omega)

/-- What `step()` returns, seen through `abs`, is what its handler returns, seen through `absH`. -/
theorem step_absH (c : Cfg) (hc : IsDev c) (t : Tbl) (s : St) :
    abs (Mpu6502.step c t s) = absH c (t.instruct (s.mem s.pc) (afterFetch c t s)) := by
  rw [step_unfold]
  rcases hc with rfl | rfl <;> simp [absH, abs, core, pyarith]

/-- A state that differs from a well-formed one in A, P and PC only, all three in range. -/
theorem WF_of_frame {c : Cfg} (hc : IsDev c) {s t : St} (hs : WF c s) {a p pc : Int}
    (ha : InB c.BYTE_WIDTH a) (hp : InB c.BYTE_WIDTH p) (hpc : InA c.BYTE_WIDTH pc)
    (h : core t = { core s with a := a, p := p, pc := pc }) : WF c t ∧ t.waiting = s.waiting := by
  obtain ⟨e1, e2, e3, e4, e5, e6, e7, e8⟩ := core_eq h
  exact ⟨⟨e1 ▸ (inB_iff hc _).1 ha, e2 ▸ hs.x, e3 ▸ hs.y, e4 ▸ hs.sp, e5 ▸ (inB_iff hc _).1 hp,
    e6 ▸ (inA_iff hc _).1 hpc, e7 ▸ hs.mem⟩, e8⟩

theorem step_waiting_of_handler (c : Cfg) (t : Tbl) (s : St) :
    (Mpu6502.step c t s).waiting = (t.instruct (s.mem s.pc) (afterFetch c t s)).waiting := rfl

end Py65.Proofs
