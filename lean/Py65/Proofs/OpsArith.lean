/-
Binary ADC and SBC.  The generated code tests carry and overflow on integers of unbounded size
and then ors the four result flags into the cleared status word; `adc_tests`/`sbc_tests` say what
those tests compute in the specification's terms, `cvnz_flags` that the or-ing is `setNZ ∘ setCV`.
-/
import Py65.Proofs.Ops4
import Py65.Proofs.OpsRot
namespace Py65.Proofs
open Py65 Py65.Gen Py65.Spec Py

/-- The hardware's signed-overflow test `~(a ^ d) & (a ^ r) & signbit`, bit by bit. -/
theorem ovf_test (a d r : Int) (k : Nat) :
    (land (land (lnot (lxor a d)) (lxor a r)) (2 ^ k) = 0) =
      ¬ (a / 2 ^ k % 2 = d / 2 ^ k % 2 ∧ a / 2 ^ k % 2 ≠ r / 2 ^ k % 2) := by
  rw [land_two_pow, bitv_land, bitv_lnot, bitv_lxor, bitv_lxor]
  have h2 : (2 : Int) ^ k ≠ 0 := by
    have : (0 : Int) < 2 ^ k := Int.pow_pos (by decide)
    omega
  generalize a / 2 ^ k = A
  generalize d / 2 ^ k = D
  generalize r / 2 ^ k = R
  have ha : A % 2 = 0 ∨ A % 2 = 1 := by omega
  have hd : D % 2 = 0 ∨ D % 2 = 1 := by omega
  have hr : R % 2 = 0 ∨ R % 2 = 1 := by omega
  apply propext
  rw [Int.mul_eq_zero]
  rcases ha with ha | ha <;> rcases hd with hd | hd <;> rcases hr with hr | hr <;>
    simp [ha, hd, hr, h2] <;> decide

theorem lnot_lxor_lnot (a d : Int) : lnot (lxor a (lnot d)) = lxor a d :=
  tb_ext _ _ fun i => by simp [tb_lnot, tb_lxor]

/-- SBC's form of the test, `(a ^ d) & (a ^ r) & signbit`: the same with `d` complemented. -/
theorem sbc_ovf_test (a d r : Int) (k : Nat) :
    (land (land (lxor a d) (lxor a r)) (2 ^ k) = 0) =
      ¬ (a / 2 ^ k % 2 ≠ d / 2 ^ k % 2 ∧ a / 2 ^ k % 2 ≠ r / 2 ^ k % 2) := by
  have h := ovf_test a (lnot d) r k
  rw [lnot_lxor_lnot, bitv_lnot] at h
  rw [h]
  apply propext
  omega

theorem land8_zero (p : Int) : (land p 8 = 0) = (flag p 3 = false) :=
  propext (land_two_pow_eq_zero_iff p 3)

theorem decimal_clear {c : Cfg} (hc : IsDev c) (p : Int) (h : flag p bitD = false) :
    land p c.DECIMAL = 0 := by
  rw [hc.masks.2.2.2.1, land_two_pow_eq_zero_iff]; exact h

theorem land_lnot_byteMask {c : Cfg} (hc : IsDev c) (m : Int) (hm : 0 ≤ m ∧ m ≤ c.byteMask) :
    land (lnot m) c.byteMask = c.byteMask - m := by
  rcases hc with rfl | rfl <;>
  · constfold at hm ⊢
    simp only [land_lit_255, land_lit_65535, Py.lnot]
    omega

theorem top_bit {c : Cfg} (hc : IsDev c) (a : Int) (ha : 0 ≤ a ∧ a ≤ c.byteMask) :
    a / 2 ^ (c.BYTE_WIDTH - 1) % 2 = a / 2 ^ (c.BYTE_WIDTH - 1) := by
  rcases hc with rfl | rfl <;> (constfold at ha ⊢; omega)

theorem signed_eq {c : Cfg} (hc : IsDev c) (a : Int) (ha : 0 ≤ a ∧ a ≤ c.byteMask) :
    signed c.BYTE_WIDTH a = a - a / 2 ^ (c.BYTE_WIDTH - 1) * 2 ^ c.BYTE_WIDTH := by
  rcases hc with rfl | rfl <;>
  · constfold [signed] at ha ⊢
    split <;> omega

/-- What ADC's three computations on the unbounded sum `r` are in terms of `addBin`.  With
`signed_eq` and `top_bit` the overflow claim is linear in `a`, `m`, their top bits and `r / 2^(W-1)`. -/
theorem adc_tests {c : Cfg} (hc : IsDev c) (a m : Int) (cin : Bool) (ha : 0 ≤ a ∧ a ≤ c.byteMask)
    (hm : 0 ≤ m ∧ m ≤ c.byteMask) :
    let r := m + a + (if cin = true then 1 else 0)
    (r > c.byteMask ↔ (addBin c.BYTE_WIDTH a m cin).2.1 = true) ∧
    (¬ land (land (lnot (lxor a m)) (lxor a r)) c.NEGATIVE = 0 ↔
      (addBin c.BYTE_WIDTH a m cin).2.2 = true) ∧
    (if (addBin c.BYTE_WIDTH a m cin).2.1 = true then land r c.byteMask else r) =
      (addBin c.BYTE_WIDTH a m cin).1 := by
  intro r
  have e := ovf_test a m r (c.BYTE_WIDTH - 1)
  have h01 : 0 ≤ (if cin = true then (1 : Int) else 0) ∧ (if cin = true then (1 : Int) else 0) ≤ 1 := by
    cases cin <;> decide
  simp only [r, addBin, top_bit hc a ha, top_bit hc m hm, signed_eq hc a ha, signed_eq hc m hm,
    geB, ltB, Bool.or_eq_true, decide_eq_true_eq] at e ⊢
  generalize (if cin = true then (1 : Int) else 0) = ci at h01 e ⊢
  rcases hc with rfl | rfl <;>
  · constfold at ha hm e ⊢
    simp only [land_lit_255, land_lit_65535]
    rw [e]
    refine ⟨by omega, by omega, ?_⟩
    split <;> omega

/-- The same for SBC, which adds the complement `~m & byteMask` and the carry. -/
theorem sbc_tests {c : Cfg} (hc : IsDev c) (a m : Int) (cin : Bool) (ha : 0 ≤ a ∧ a ≤ c.byteMask)
    (hm : 0 ≤ m ∧ m ≤ c.byteMask) :
    let r := a + land (lnot m) c.byteMask + (if cin = true then 1 else 0)
    (r > c.byteMask ↔ (subBin c.BYTE_WIDTH a m cin).2.1 = true) ∧
    (¬ land (land (lxor a m) (lxor a r)) c.NEGATIVE = 0 ↔ (subBin c.BYTE_WIDTH a m cin).2.2 = true) ∧
    land r c.byteMask = (subBin c.BYTE_WIDTH a m cin).1 := by
  intro r
  have e := sbc_ovf_test a m r (c.BYTE_WIDTH - 1)
  have h01 : 0 ≤ (if cin = true then (0 : Int) else 1) ∧ (if cin = true then (0 : Int) else 1) ≤ 1 ∧
      (if cin = true then (1 : Int) else 0) = 1 - (if cin = true then (0 : Int) else 1) := by
    cases cin <;> decide
  simp only [r, subBin, land_lnot_byteMask hc m hm, top_bit hc a ha, top_bit hc m hm,
    signed_eq hc a ha, signed_eq hc m hm, geB, ltB, Bool.or_eq_true, decide_eq_true_eq] at e ⊢
  generalize (if cin = true then (1 : Int) else 0) = ci at h01 e ⊢
  generalize (if cin = true then (0 : Int) else 1) = bi at h01 e ⊢
  rcases hc with rfl | rfl <;>
  · constfold at ha hm e ⊢
    simp only [land_lit_255, land_lit_65535]
    rw [e]
    refine ⟨by omega, by omega, by omega⟩

/-- Or-ing V, C, Z and the result's top bit into the status word with C V N Z cleared, in the
order of ADC and in the order of SBC, is `setNZ ∘ setCV`. -/
theorem cvnz_flags {c : Cfg} (hc : IsDev c) (p d : Int) (cr ov : Bool) (hd : 0 ≤ d ∧ d ≤ c.byteMask) :
    (let p0 := land p (lnot (lor (lor (lor c.CARRY c.OVERFLOW) c.NEGATIVE) c.ZERO))
     let p1 := if ov = true then lor p0 c.OVERFLOW else p0
     let p2 := if cr = true then lor p1 c.CARRY else p1
     if d = 0 then lor p2 c.ZERO else lor p2 (land d c.NEGATIVE)) =
      setNZ c.BYTE_WIDTH (setCV c.BYTE_WIDTH p cr ov) d ∧
    (let p0 := land p (lnot (lor (lor (lor c.CARRY c.ZERO) c.OVERFLOW) c.NEGATIVE))
     let p1 := if ov = true then lor p0 c.OVERFLOW else p0
     let p2 := if d = 0 then lor p1 c.ZERO else p1
     let p3 := if cr = true then lor p2 c.CARRY else p2
     lor p3 (land d c.NEGATIVE)) =
      setNZ c.BYTE_WIDTH (setCV c.BYTE_WIDTH p cr ov) d := by
  rw [setNZ, geB_half hc d hd]
  by_cases h0 : d = 0
  · subst h0
    rcases hc with rfl | rfl <;> cases cr <;> cases ov <;>
    · simp only [Bool.false_eq_true, if_true, if_false]
      constfold [setCV]
      simp only [flagalg, flag_zero]
      exact ⟨rfl, rfl⟩
  · have hz : eqB d 0 = false := by simp [eqB, h0]
    rcases hc with rfl | rfl <;> cases cr <;> cases ov <;>
    · simp only [Bool.false_eq_true, if_true, if_false, h0, hz]
      constfold [setCV]
      simp only [flagalg, Bool.false_or, and_self]

def adcP (W : Nat) (p a m : Int) : Int :=
  setNZ W (setCV W p (addBin W a m (flag p bitC)).2.1 (addBin W a m (flag p bitC)).2.2) (addBin W a m (flag p bitC)).1

theorem opADC_core (c : Cfg) (hc : IsDev c) (x : St → Int × St) (mo : Mode) (hx : ModeSem c x mo)
    (s : St) (hs : WF c s) (hD : flag s.p bitD = false) :
    core (Mpu6502.opADC c x s) =
      { core s with
        a := (addBin c.BYTE_WIDTH s.a (s.mem (ea c.BYTE_WIDTH mo (core s))) (flag s.p bitC)).1,
        p := adcP c.BYTE_WIDTH s.p s.a (s.mem (ea c.BYTE_WIDTH mo (core s))) } := by
  obtain ⟨hv, hcore⟩ := hx s hs
  obtain ⟨ha, hxx, hy, hsp, hp, hpc, hmem, hw⟩ := core_fields hcore
  have hm := hs.mem (ea c.BYTE_WIDTH mo (core s))
  generalize ea c.BYTE_WIDTH mo (core s) = e at hv hm
  obtain ⟨t1, t2, t3⟩ := adc_tests hc s.a (s.mem e) (flag s.p bitC) hs.a hm
  have hd := decimal_clear hc s.p hD
  proj_simp [Mpu6502.opADC, carry_test hc, ne_eq, not_true_eq_false, if_false]
  rw [adcP, ← (cvnz_flags hc s.p _ _ _ ?_).1]
  exact emod_byte hc _

def sbcP (W : Nat) (p a m : Int) : Int :=
  setNZ W (setCV W p (subBin W a m (flag p bitC)).2.1 (subBin W a m (flag p bitC)).2.2) (subBin W a m (flag p bitC)).1

theorem opSBC_core (c : Cfg) (hc : IsDev c) (x : St → Int × St) (mo : Mode) (hx : ModeSem c x mo)
    (s : St) (hs : WF c s) (hD : flag s.p bitD = false) :
    core (Mpu6502.opSBC c x s) =
      { core s with
        a := (subBin c.BYTE_WIDTH s.a (s.mem (ea c.BYTE_WIDTH mo (core s))) (flag s.p bitC)).1,
        p := sbcP c.BYTE_WIDTH s.p s.a (s.mem (ea c.BYTE_WIDTH mo (core s))) } := by
  obtain ⟨hv, hcore⟩ := hx s hs
  obtain ⟨ha, hxx, hy, hsp, hp, hpc, hmem, hw⟩ := core_fields hcore
  have hm := hs.mem (ea c.BYTE_WIDTH mo (core s))
  generalize ea c.BYTE_WIDTH mo (core s) = e at hv hm
  obtain ⟨t1, t2, t3⟩ := sbc_tests hc s.a (s.mem e) (flag s.p bitC) hs.a hm
  have hd := decimal_clear hc s.p hD
  proj_simp [Mpu6502.opSBC, carry_val hc, ne_eq, not_true_eq_false, if_false]
  rw [sbcP, ← (cvnz_flags hc s.p _ _ _ ?_).2]
  exact emod_byte hc _

theorem normP_setCV (W : Nat) (hW : W = 8 ∨ W = 16) (p : Int) (c v : Bool) :
    normP (setCV W p c v) = setCV W (normP p) c v := by
  rcases hW with rfl | rfl <;>
  · simp only [setCV, bitC, bitV, Nat.reduceSub]
    rw [normP_setFlag _ _ _ (by decide), normP_setFlag _ _ _ (by decide)]

theorem normP_adcP (W : Nat) (hW : W = 8 ∨ W = 16) (p a m : Int) :
    normP (adcP W p a m) = adcP W (normP p) a m := by
  simp only [adcP, normP_setNZ _ hW, normP_setCV _ hW,
    flag_normP _ _ (by decide : bitC ∈ [0, 1, 2, 3, 6, 7, 14, 15])]
theorem normP_sbcP (W : Nat) (hW : W = 8 ∨ W = 16) (p a m : Int) :
    normP (sbcP W p a m) = sbcP W (normP p) a m := by
  simp only [sbcP, normP_setNZ _ hW, normP_setCV _ hW,
    flag_normP _ _ (by decide : bitC ∈ [0, 1, 2, 3, 6, 7, 14, 15])]

/-- Precondition of the binary ADC/SBC theorems (decimal mode is C04). -/
def BinaryMode (s : St) : Prop := flag s.p bitD = false

theorem opADC_okp (c : Cfg) (hc : IsDev c) (v : Variant) (x : St → Int × St) (mo : Mode)
    (hx : ModeSem c x mo) :
    HandlerOKp c v (fun s => bump (mo.len - 1) (Mpu6502.opADC c x s)) .ADC mo BinaryMode := by
  intro s hs hD
  obtain ⟨ha, hxx, hy, hsp, hp, hpc, hmem, hw⟩ := core_eq (opADC_core c hc x mo hx s hs hD)
  simp only [exec, ea_abs, nextPc_abs]
  simp only [absH, abs, bump, core, nextPc, ha, hxx, hy, hsp, hp, hpc, hmem, hw,
    addrMask_succ hc, normP_adcP _ hc.W]
  simp only [adcP, flag_normP _ _ (by decide : bitC ∈ [0, 1, 2, 3, 6, 7, 14, 15])]

theorem opSBC_okp (c : Cfg) (hc : IsDev c) (v : Variant) (x : St → Int × St) (mo : Mode)
    (hx : ModeSem c x mo) :
    HandlerOKp c v (fun s => bump (mo.len - 1) (Mpu6502.opSBC c x s)) .SBC mo BinaryMode := by
  intro s hs hD
  obtain ⟨ha, hxx, hy, hsp, hp, hpc, hmem, hw⟩ := core_eq (opSBC_core c hc x mo hx s hs hD)
  simp only [exec, ea_abs, nextPc_abs]
  simp only [absH, abs, bump, core, nextPc, ha, hxx, hy, hsp, hp, hpc, hmem, hw,
    addrMask_succ hc, normP_sbcP _ hc.W]
  simp only [sbcP, flag_normP _ _ (by decide : bitC ∈ [0, 1, 2, 3, 6, 7, 14, 15])]
end Py65.Proofs
