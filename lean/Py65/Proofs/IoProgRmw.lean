/-
The ORDERED access list of one `step()` at a read-modify-write instruction on memory: opcode fetch,
operand fetches, the load of the effective address, THEN the store (`Spec.instrAccesses` in its own
order).  C12 (`HandlerAcc`) keeps only the multiset.
-/
import Py65.Props.C12

namespace Py65.Proofs
open Py65 Py65.Gen Py65.Spec Py

/-- `step()`: the opcode fetch, then the handler's list. -/
theorem step_exact {c : Cfg} (hc : IsDev c) (t : Tbl) {v : Variant} (s : St) (hs : WF c s) {mn : Mn} {mo : Mode}
    (hh : HandlerExact c v (t.instruct (s.mem s.pc)) mn mo) :
    acl (Mpu6502.step c t s) =
      (Acc.r s.pc :: instrAccesses c.BYTE_WIDTH v mn mo { core s with pc := (s.pc + 1) % AM c.BYTE_WIDTH }).reverse
        ++ acl s := by
  rw [← afterFetch_core hc t s]
  exact step_acl c t s _ (hh _ (afterFetch_WF c hc t s hs))

/-- dev6502: a read-modify-write instruction on memory performs exactly the Spec's list, IN ORDER. -/
theorem rmw_seq_nmos6502 (s : St) (hs : WF dev6502.cfg s)
    (mn : Mn) (mo : Mode) (hd : decode .nmos (s.mem s.pc) = some (mn, mo))
    (hr : mn.isRmw = true) (hacc : mo ≠ .acc) :
    acl (dev6502.step s) =
      (Acc.r s.pc :: instrAccesses 8 .nmos mn mo { core s with pc := (s.pc + 1) % AM 8 }).reverse ++ acl s :=
  step_exact (.inl rfl) dev6502.tbl s hs (stdHandler_rmw_exact (.inl rfl) nofun (row_6502 hd) hr hacc)

/-- dev65org16: a read-modify-write instruction on memory performs exactly the Spec's list, IN ORDER. -/
theorem rmw_seq_org16 (s : St) (hs : WF dev65org16.cfg s) (hw : s.waiting = false)
    (mn : Mn) (mo : Mode) (hd : decode .nmos (s.mem s.pc) = some (mn, mo))
    (hr : mn.isRmw = true) (hacc : mo ≠ .acc) :
    acl (dev65org16.step s) =
      (Acc.r s.pc :: instrAccesses 16 .nmos mn mo { core s with pc := (s.pc + 1) % AM 16 }).reverse ++ acl s := by
  rw [step_65org16 hw]
  exact step_exact (.inr rfl) dev65org16.tbl s hs (stdHandler_rmw_exact (.inr rfl) nofun (row_65org16 hd) hr hacc)

/-- dev65c02: a read-modify-write instruction on memory performs exactly the Spec's list, IN ORDER. -/
theorem rmw_seq_cmos (s : St) (hs : WF dev65c02.cfg s) (hw : s.waiting = false)
    (mn : Mn) (mo : Mode) (hd : decode .cmos (s.mem s.pc) = some (mn, mo))
    (hr : mn.isRmw = true) (hacc : mo ≠ .acc) :
    acl (dev65c02.step s) =
      (Acc.r s.pc :: instrAccesses 8 .cmos mn mo { core s with pc := (s.pc + 1) % AM 8 }).reverse ++ acl s := by
  rw [step_65c02 hw]
  exact step_exact (.inl rfl) dev65c02.tbl s hs
    (stdHandler_rmw_exact (.inl rfl) (fun _ => rfl) (row_65c02 hd) hr hacc)

end Py65.Proofs
