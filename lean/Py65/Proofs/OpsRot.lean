/-
ROL and ROR (accumulator and memory forms): the same scheme as the rest of the read-modify-write
group in Ops2, with the carry moved by cases on the incoming carry.
-/
import Py65.Proofs.Ops2

namespace Py65.Proofs
open Py65 Py65.Gen Py65.Spec Py

/-- ROL and ROR write the outgoing bit `co` into C by cases on the incoming carry. -/
theorem carry_update {c : Cfg} (hc : IsDev c) (p : Int) (co : Bool) :
    (if flag p bitC = true then (if co = true then p else land p (lnot c.CARRY))
     else (if co = true then lor p c.CARRY else p)) = setFlag p bitC co := by
  rcases hc with rfl | rfl <;> cases co <;> cases h : flag p bitC <;>
  · simp only [Bool.false_eq_true, if_true, if_false]
    constfold at h ⊢
    simp only [flagalg, h]

theorem rol_pure {c : Cfg} (hc : IsDev c) (p m : Int) (hm : 0 ≤ m ∧ m ≤ c.byteMask) :
    let t := land (if land p c.CARRY ≠ 0 then lor (shl m 1) 1 else shl m 1) c.byteMask
    let p1 := land (if land p c.CARRY ≠ 0 then if land m c.NEGATIVE ≠ 0 then p else land p (lnot c.CARRY)
                    else if land m c.NEGATIVE ≠ 0 then lor p c.CARRY else p) (lnot (lor c.ZERO c.NEGATIVE))
    t = rmwV c.BYTE_WIDTH .ROL m (flag p bitC) ∧
    (if t = 0 then lor p1 c.ZERO else lor p1 (land t c.NEGATIVE)) =
      rmwP c.BYTE_WIDTH .ROL p m (flag p bitC) := by
  have hv : land (if flag p bitC = true then lor (shl m 1) 1 else shl m 1) c.byteMask =
      (m * 2 + if flag p bitC = true then 1 else 0) % BM c.BYTE_WIDTH := by
    rw [land_byteMask hc]
    cases flag p bitC
    · exact congrArg (· % _) (Int.add_zero _).symm
    · exact congrArg (· % _) (lor_shl_one m)
  simp only [carry_test hc, top_test hc m hm, hv, carry_update hc]
  exact ⟨rfl, nz_flags hc _ _ (emod_byte hc _)⟩

theorem ror_pure {c : Cfg} (hc : IsDev c) (p m : Int) (hm : 0 ≤ m ∧ m ≤ c.byteMask) :
    let t := if land p c.CARRY ≠ 0 then lor (shr m 1) c.NEGATIVE else shr m 1
    let p1 := land (if land p c.CARRY ≠ 0 then if land m 1 ≠ 0 then p else land p (lnot c.CARRY)
                    else if land m 1 ≠ 0 then lor p c.CARRY else p) (lnot (lor c.ZERO c.NEGATIVE))
    t = rmwV c.BYTE_WIDTH .ROR m (flag p bitC) ∧
    (if t = 0 then lor p1 c.ZERO else lor p1 (land t c.NEGATIVE)) =
      rmwP c.BYTE_WIDTH .ROR p m (flag p bitC) := by
  have hv : (if flag p bitC = true then lor (shr m 1) c.NEGATIVE else shr m 1) =
      m / 2 + if flag p bitC = true then 2 ^ (c.BYTE_WIDTH - 1) else 0 := by
    cases flag p bitC
    · exact (Int.add_zero _).symm
    · rcases hc with rfl | rfl <;>
      · constfold at hm ⊢
        simp only [↓reduceIte, lor_shr_128, lor_shr_32768]
        omega
  have hr : 0 ≤ m / 2 + (if flag p bitC = true then 2 ^ (c.BYTE_WIDTH - 1) else 0) ∧
      m / 2 + (if flag p bitC = true then 2 ^ (c.BYTE_WIDTH - 1) else 0) ≤ c.byteMask := by
    rcases hc with rfl | rfl <;> cases flag p bitC <;> (constfold at hm ⊢; simp; omega)
  simp only [carry_test hc, low_test, hv, carry_update hc]
  exact ⟨rfl, nz_flags hc _ _ hr⟩

theorem opROL_mem_core (c : Cfg) (hc : IsDev c) (x : St → Int × St) (mo : Mode) (hx : ModeSem c x mo)
    (s : St) (hs : WF c s) :
    core (Mpu6502.opROL_mem c x s) =
      { core s with
        p := rmwP c.BYTE_WIDTH .ROL s.p (s.mem (ea c.BYTE_WIDTH mo (core s))) (flag s.p bitC),
        mem := fun k => if k = ea c.BYTE_WIDTH mo (core s)
                 then rmwV c.BYTE_WIDTH .ROL (s.mem (ea c.BYTE_WIDTH mo (core s))) (flag s.p bitC)
                 else s.mem k } := by
  obtain ⟨hv, hcore⟩ := hx s hs
  obtain ⟨ha, hxx, hy, hsp, hp, hpc, hmem, hw⟩ := core_fields hcore
  have h := rol_pure hc s.p _ (hs.mem (ea c.BYTE_WIDTH mo (core s)))
  generalize ea c.BYTE_WIDTH mo (core s) = e at hv h
  rw [← h.1, ← h.2]
  clear h
  proj_simp [Mpu6502.opROL_mem, Mpu6502.FlagsNZ, memSet]

theorem opROR_mem_core (c : Cfg) (hc : IsDev c) (x : St → Int × St) (mo : Mode) (hx : ModeSem c x mo)
    (s : St) (hs : WF c s) :
    core (Mpu6502.opROR_mem c x s) =
      { core s with
        p := rmwP c.BYTE_WIDTH .ROR s.p (s.mem (ea c.BYTE_WIDTH mo (core s))) (flag s.p bitC),
        mem := fun k => if k = ea c.BYTE_WIDTH mo (core s)
                 then rmwV c.BYTE_WIDTH .ROR (s.mem (ea c.BYTE_WIDTH mo (core s))) (flag s.p bitC)
                 else s.mem k } := by
  obtain ⟨hv, hcore⟩ := hx s hs
  obtain ⟨ha, hxx, hy, hsp, hp, hpc, hmem, hw⟩ := core_fields hcore
  have h := ror_pure hc s.p _ (hs.mem (ea c.BYTE_WIDTH mo (core s)))
  generalize ea c.BYTE_WIDTH mo (core s) = e at hv h
  rw [← h.1, ← h.2]
  clear h
  proj_simp [Mpu6502.opROR_mem, Mpu6502.FlagsNZ, memSet]

theorem opROL_acc_core (c : Cfg) (hc : IsDev c) (s : St) (hs : WF c s) :
    core (Mpu6502.opROL_acc c s) =
      { core s with a := rmwV c.BYTE_WIDTH .ROL s.a (flag s.p bitC),
                    p := rmwP c.BYTE_WIDTH .ROL s.p s.a (flag s.p bitC) } := by
  have h := rol_pure hc s.p s.a hs.a
  rw [← h.1, ← h.2]
  clear h
  proj_simp [Mpu6502.opROL_acc, Mpu6502.FlagsNZ]

theorem opROR_acc_core (c : Cfg) (hc : IsDev c) (s : St) (hs : WF c s) :
    core (Mpu6502.opROR_acc c s) =
      { core s with a := rmwV c.BYTE_WIDTH .ROR s.a (flag s.p bitC),
                    p := rmwP c.BYTE_WIDTH .ROR s.p s.a (flag s.p bitC) } := by
  have h := ror_pure hc s.p s.a hs.a
  rw [← h.1, ← h.2]
  clear h
  proj_simp [Mpu6502.opROR_acc, Mpu6502.FlagsNZ]

end Py65.Proofs
