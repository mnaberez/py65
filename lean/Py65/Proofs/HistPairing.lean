/-
For C06h (pairing at any nesting depth): the four frame kinds (JSR, BRK, irq(), nmi()), what the
generated devices do at a frame entry / exit in terms of the programming model, and the uniform pairing
lemma obtained from `Proofs/Pairing.lean`.
-/
import Py65.Proofs.HistStep
import Py65.Proofs.Pairing

namespace Py65.Proofs.Hist
open Py65 Py65.Gen Py65.Spec Py65.Proofs Py

inductive Kind where
  | jsr | brk | irq | nmi
  deriving DecidableEq, Repr

/-- The stack cells the frame entry writes, given the stack pointer before the entry
(wrap-around inside the stack page included). -/
def cells (W : Nat) : Kind → Int → List Int
  | .jsr, sp => frame2 W sp
  | _, sp => frame3 W sp

/-- The programming model's frame entry, on the abstraction of the state the call is made in. -/
def entryA (W : Nat) (v : Variant) : Kind → AState → AState
  | .jsr, a => exec W v .JSR .abs { a with pc := (a.pc + 1) % AM W }
  | .brk, a => exec W v .BRK .imp { a with pc := (a.pc + 1) % AM W }
  | .irq, a => interrupt W irqVector a
  | .nmi, a => interrupt W nmiVector a

def exitMn : Kind → Mn
  | .jsr => .RTS
  | _ => .RTI

/-- Where execution resumes, from the PC at which the entry happened: after the three-byte JSR,
two bytes after the BRK opcode, at the interrupted instruction. -/
def resumePc (W : Nat) : Kind → Int → Int
  | .jsr, pc => (pc + 3) % AM W
  | .brk, pc => (pc + 2) % AM W
  | _, pc => pc

/-- Uniform pairing lemma (from `rts_after_jsr`, `rti_after_brk`, `rti_after_interrupt`): whatever
state `a'` has the stack pointer and the frame cells the entry left, the matching exit instruction
resumes at the right place with the caller's stack pointer (and flags, for the interrupt kinds). -/
theorem pairing (W : Nat) (hW : W = 8 ∨ W = 16) (v : Variant) (k : Kind) (a a' : AState)
    (ha : AWF W a) (hf : SameFrame (cells W k a.sp) (entryA W v k a) a') :
    (exec W v (exitMn k) .imp a').pc = resumePc W k a.pc ∧
    (exec W v (exitMn k) .imp a').sp = a.sp ∧
    (k ≠ .jsr → (exec W v (exitMn k) .imp a').p = a.p) := by
  have ha1 : AWF W { a with pc := (a.pc + 1) % AM W } := ⟨ha.sp, inA_mod hW _, ha.p, ha.pn⟩
  cases k with
  | jsr =>
    obtain ⟨h1, h2⟩ := rts_after_jsr W hW v _ a' ha1 hf
    exact ⟨h1.trans (by rw [Int.emod_add_emod, Int.add_assoc]; rfl), h2, fun h => absurd rfl h⟩
  | brk =>
    obtain ⟨h1, h2, h3⟩ := rti_after_brk W hW v _ a' ha1 hf
    exact ⟨h1.trans (by rw [Int.emod_add_emod, Int.add_assoc]; rfl), h2, fun _ => h3⟩
  | irq | nmi =>
    obtain ⟨h1, h2, h3⟩ := rti_after_interrupt W hW v _ a a' ha hf
    exact ⟨h1, h2, fun _ => h3⟩

theorem entryA_mem_other (W : Nat) (v : Variant) (k : Kind) (a : AState) (c : Int)
    (hc : c ∉ cells W k a.sp) : (entryA W v k a).mem c = a.mem c := by
  -- the entry's only writes are its pushes, and those go to the cells of the frame
  cases k <;>
    simp only [cells, frame2, frame3, List.mem_cons, List.mem_nil_iff, or_false, not_or] at hc <;>
    dsimp only [entryA, exec, interrupt, push, write] <;>
    simp only [hc, if_false]

theorem exit_mem (W : Nat) (v : Variant) (k : Kind) (a : AState) :
    (exec W v (exitMn k) .imp a).mem = a.mem := by
  cases k <;> rfl

theorem instruct_20 (d : Dev) : d.tbl.instruct 0x20 = Mpu6502.inst_0x20 d.cfg := by
  cases d
  · exact dev6502.instruct_20
  · exact dev65c02.instruct_20
  · exact dev65org16.instruct_20

/-- JSR on the generated device, with NO condition on where the stack is (also when the pushes hit
the instruction's own operand bytes): stack pointer and memory are those of the programming model's
JSR (only the jump target may differ in that corner, and pairing does not depend on it). -/
theorem jsr_core (c : Cfg) (hc : IsDev c) (t : Tbl) (v : Variant) (s : St) (hs : WF c s) :
    (Mpu6502.inst_0x20 c (afterFetch c t s)).sp = (entryA c.BYTE_WIDTH v .jsr (abs s)).sp ∧
    (Mpu6502.inst_0x20 c (afterFetch c t s)).mem = (entryA c.BYTE_WIDTH v .jsr (abs s)).mem := by
  have hpc := hs.pc
  simp only [Mpu6502.inst_0x20, WordAt_sp, WordAt_mem]
  have hpush := stPushWord_core c hc (land ((afterFetch c t s).pc + 1) c.addrMask) (afterFetch c t s)
  obtain ⟨_, _, _, hsp, _, _, hmem, _⟩ := core_eq hpush
  rw [hsp, hmem]
  rcases hc with rfl | rfl
  · constfold at hpc ⊢
    dsimp +instances only [entryA, exec, push, write, core, abs, afterFetch]
    constfold
    simp only [pyarith]
    have e1 : ((s.pc + 1) % 65536 + 1) % 65536 / 256 % 256 = ((s.pc + 1) % 65536 + 1) % 65536 / 256 := by omega
    rw [e1]
    exact ⟨trivial, rfl⟩
  · constfold at hpc ⊢
    dsimp +instances only [entryA, exec, push, write, core, abs, afterFetch]
    constfold
    simp only [pyarith]
    have e2 : ((s.pc + 1) % 4294967296 + 1) % 4294967296 / 65536 % 65536 =
        ((s.pc + 1) % 4294967296 + 1) % 4294967296 / 65536 := by omega
    rw [e2]
    exact ⟨trivial, rfl⟩

theorem jsr_step (d : Dev) (s : St) (hi : Inv d s) (hw : s.waiting = false) (hop : s.mem s.pc = 0x20) :
    (d.step s).sp = (entryA d.W d.variant .jsr (abs s)).sp ∧
    (d.step s).mem = (entryA d.W d.variant .jsr (abs s)).mem := by
  have h := jsr_core d.cfg d.isDev d.tbl d.variant s hi.1
  rw [d.W_eq] at h
  rw [step_eq d s hw, step_unfold]
  simp only [hop, instruct_20]
  exact h

/-- Mnemonics that neither move SP nor touch the stack page through SP. -/
def keepsStack : Mn → Bool
  | .PHA | .PHP | .PHX | .PHY | .PLA | .PLP | .PLX | .PLY | .TXS | .JSR | .RTS | .RTI | .BRK => false
  | _ => true

/-- They leave SP as it is and write at most the cell at their effective address. -/
theorem exec_keepsStack (W : Nat) (v : Variant) (mn : Mn) (mo : Mode) (a : AState) (h : keepsStack mn = true) :
    (exec W v mn mo a).sp = a.sp ∧ ∀ c, c ≠ ea W mo a → (exec W v mn mo a).mem c = a.mem c := by
  refine ⟨?_, fun c hc => ?_⟩ <;> cases mn <;> dsimp only [exec, write] <;> first
    | exact Bool.noConfusion h
    | exact if_neg hc
    | (split <;> first | rfl | exact if_neg hc)

/-- The call `o`, made in state `s`, opens a frame of kind `k`: a (non-waiting) step at a JSR / BRK
opcode, an `irq()` that is taken (I clear), an `nmi()`. -/
def Entry (k : Kind) (o : Op) (s : St) : Prop :=
  match k with
  | .jsr => o = .step ∧ s.waiting = false ∧ s.mem s.pc = 0x20
  | .brk => o = .step ∧ s.waiting = false ∧ s.mem s.pc = 0x00
  | .irq => o = .irq ∧ flag s.p bitI = false
  | .nmi => o = .nmi

/-- The call `o`, made in state `s`, closes a frame of kind `k`: a (non-waiting) step at RTS (for JSR)
or RTI (for BRK, irq(), nmi()). -/
def Exit (k : Kind) (o : Op) (s : St) : Prop :=
  o = .step ∧ s.waiting = false ∧ s.mem s.pc = (if k = .jsr then 0x60 else 0x40)

instance (k : Kind) (o : Op) (s : St) : Decidable (Entry k o s) := by
  unfold Entry; cases k <;> infer_instance
instance (k : Kind) (o : Op) (s : St) : Decidable (Exit k o s) := by
  unfold Exit; infer_instance

theorem Entry.opOK {d : Dev} {k : Kind} {o : Op} {s : St} (h : Entry k o s) : OpOK d o s := by
  cases k with
  | jsr | brk => obtain ⟨rfl, _, h⟩ := h; intro _; rw [h]; decide
  | irq => obtain ⟨rfl, _⟩ := h; trivial
  | nmi => cases h; trivial

theorem Exit.opOK {d : Dev} {k : Kind} {o : Op} {s : St} (h : Exit k o s) : OpOK d o s := by
  obtain ⟨rfl, _, h⟩ := h
  intro _; rw [h]; split <;> decide

theorem entry_abs (d : Dev) (k : Kind) (e : Op) (s : St) (hi : Inv d s) (he : Entry k e s) :
    (apply d e s).sp = (entryA d.W d.variant k (abs s)).sp ∧
    (apply d e s).mem = (entryA d.W d.variant k (abs s)).mem := by
  cases k with
  | jsr =>
    obtain ⟨rfl, hw, hop⟩ := he
    exact jsr_step d s hi hw hop
  | brk =>
    obtain ⟨rfl, hw, hop⟩ := he
    have hd : decode d.variant (s.mem s.pc) = some (.BRK, .imp) := by rw [hop]; cases d <;> decide
    have h := step_spec d s hi.1 hw .BRK .imp hd (by decide)
    exact ⟨congrArg AState.sp h, congrArg AState.mem h⟩
  | irq =>
    obtain ⟨rfl, hI⟩ := he
    have e : flag (abs s).p bitI = false := (flag_normP _ _ (by decide)).trans hI
    have h := irq_abs d s hi
    simp only [Spec.irq, e, Bool.false_eq_true, if_false] at h
    exact ⟨congrArg AState.sp h, congrArg AState.mem h⟩
  | nmi =>
    cases he
    have h := nmi_abs d s hi
    exact ⟨congrArg AState.sp h, congrArg AState.mem h⟩

theorem exit_abs (d : Dev) (k : Kind) (x : Op) (s : St) (hi : Inv d s) (hx : Exit k x s) :
    abs (apply d x s) = exec d.W d.variant (exitMn k) .imp { abs s with pc := (s.pc + 1) % AM d.W } := by
  obtain ⟨rfl, hw, hop⟩ := hx
  have hd : decode d.variant (s.mem s.pc) = some (exitMn k, .imp) := by
    rw [hop]; cases k <;> cases d <;> decide
  exact step_spec d s hi.1 hw _ .imp hd (by cases k <;> decide)

end Py65.Proofs.Hist
