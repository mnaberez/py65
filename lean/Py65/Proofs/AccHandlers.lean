/-
Aspect *access log*: the events `stdHandler` appends to the log are the operand fetches and data
accesses of `Spec.instrAccesses`, by cases on the mnemonic (`stdHandler_acc`, as a multiset); for the
read-modify-write rows in a memory mode also in order (`stdHandler_rmw_exact`).
-/
import Py65.Proofs.Rows
import Py65.Proofs.AccCmos

namespace Py65.Proofs
open Py65 Py65.Gen Py65.Spec

theorem modeFn_acc {c : Cfg} {v : Variant} {mo : Mode} {x : St → Int × St} (hc : IsDev c)
    (hv : v = .cmos → c = dev6502.cfg) (hx : modeFn c v mo = some x) : ModeAcc c x mo :=
  modeFn_rec hx (ProgramCounter_acc c) (ZeroPageAddr_acc c) (ZeroPageXAddr_acc c) (ZeroPageYAddr_acc c)
    (AbsoluteAddr_acc c hc) (AbsoluteXAddr_acc c hc) (AbsoluteYAddr_acc c hc) (IndirectXAddr_acc c hc)
    (IndirectYAddr_acc c hc) fun h => ZeroPageIndirectAddr_acc c (hv h)

theorem modeFn_isData {c : Cfg} {v : Variant} {mo : Mode} {x : St → Int × St}
    (hx : modeFn c v mo = some x) : Mode.isData mo = true :=
  modeFn_rec (Q := fun _ mo => Mode.isData mo = true) hx rfl rfl rfl rfl rfl rfl rfl rfl rfl fun _ => rfl

section
variable {c : Cfg} {v : Variant} {mn : Mn} {mo : Mode} {f : (St → Int × St) → St → St} {h : St → St}
  (hc : IsDev c) (hv : v = .cmos → c = dev6502.cfg)
include hc hv

/-- An operation that reads its operand once, through any mode helper. -/
theorem viaMode_read (hh : viaMode c v mo f = some h) (hmn : mn.isRead = true)
    (hop : ∀ x s, acl (f x s) = Acc.r (x s).1 :: acl (x s).2) : HandlerAcc c v h mn mo :=
  viaMode_rec hh fun x hx =>
    read_acc c v _ x mn mo _ hmn (modeFn_isData hx) (modeFn_sem hc hv hx) (modeFn_acc hc hv hx) (hop x)

theorem viaAddr_store (hh : viaAddr c v mo f = some h) (hmn : mn.isStore = true)
    (hop : ∀ x s, acl (f x s) = Acc.w (x s).1 :: acl (x s).2) : HandlerAcc c v h mn mo :=
  viaAddr_rec hh fun hi x hx =>
    store_acc c v _ x mn mo _ hmn (modeFn_isData hx) hi (modeFn_sem hc hv hx) (modeFn_acc hc hv hx) (hop x)

/-- A read-modify-write on memory: the read, then the write, in that order. -/
theorem viaAddr_rmw_exact (hh : viaAddr c v mo f = some h) (hmn : mn.isRmw = true)
    (hop : ∀ x s, acl (f x s) = Acc.w (x s).1 :: Acc.r (x s).1 :: acl (x s).2) : HandlerExact c v h mn mo :=
  viaAddr_rec hh fun hi x hx =>
    data_exact c v _ x mn mo _ (fun e => [.r e, .w e]) (modeFn_sem hc hv hx) (modeFn_acc hc hv hx) (hop x)
      fun a => trace_rmw _ v mn mo a hmn (modeFn_isData hx) hi

theorem viaAddr_rmw (hh : viaAddr c v mo f = some h) (hmn : mn.isRmw = true)
    (hop : ∀ x s, acl (f x s) = Acc.w (x s).1 :: Acc.r (x s).1 :: acl (x s).2) : HandlerAcc c v h mn mo :=
  (viaAddr_rmw_exact hc hv hh hmn hop).toAcc

/-- On the accumulator nothing is accessed; on memory, one read then one write. -/
theorem rmwHandler_acc {a : St → St} (hh : rmwHandler c v mo a f = some h) (hmn : mn.isRmw = true)
    (ha : ∀ s, acl (a s) = acl s) (hacc : ∀ s, instrAccesses c.BYTE_WIDTH v mn .acc s = [])
    (hop : ∀ x s, acl (f x s) = Acc.w (x s).1 :: Acc.r (x s).1 :: acl (x s).2) : HandlerAcc c v h mn mo := by
  unfold rmwHandler at hh
  split at hh
  · rename_i hm
    obtain rfl := Option.some.inj hh
    exact hm ▸ none_acc ha hacc
  · exact viaAddr_rmw hc hv hh hmn hop

end

theorem cmosHandler_acc {c : Cfg} (hc : IsDev c) (h8 : c = dev6502.cfg) {mn : Mn} {mo : Mode} {h : St → St}
    (hh : cmosHandler c mn mo = some h) : HandlerAcc c .cmos h mn mo := by
  cases mn with
  | BRA => exact atMode_rec hh (ac_80 .cmos c)
  | PHX => exact atMode_rec hh (ac_da .cmos c hc)
  | PHY => exact atMode_rec hh (ac_5a .cmos c hc)
  | PLX => exact atMode_rec hh (ac_fa .cmos c hc)
  | PLY => exact atMode_rec hh (ac_7a .cmos c hc)
  | WAI => exact atMode_rec hh (ac_cb .cmos c)
  | STZ => exact viaAddr_store hc (fun _ => h8) hh rfl (opSTZ_acl c)
  | TSB => exact viaAddr_rmw hc (fun _ => h8) hh rfl (opTSB_acl c)
  | TRB => exact viaAddr_rmw hc (fun _ => h8) hh rfl (opTRB_acl c)
  | RMB b => exact bitRow_rec hh fun _ hh => viaAddr_rmw hc (fun _ => h8) hh rfl fun x => opRMB_acl c x _
  | SMB b => exact bitRow_rec hh fun _ hh => viaAddr_rmw hc (fun _ => h8) hh rfl fun x => opSMB_acl c x _
  | _ => cases hh

theorem stdHandler_acc {c : Cfg} (hc : IsDev c) {v : Variant} {mn : Mn} {mo : Mode} {h : St → St}
    (hh : stdHandler c v mn mo = some h) (hv : v = .cmos → c = dev6502.cfg) :
    HandlerAcc c v h mn mo := by
  cases mn with
  | ORA => exact viaMode_read hc hv hh rfl (opORA_acl c)
  | AND => exact viaMode_read hc hv hh rfl (opAND_acl c)
  | EOR => exact viaMode_read hc hv hh rfl (opEOR_acl c)
  | ADC => exact viaMode_read hc hv hh rfl (opADC_acl c)
  | SBC => exact viaMode_read hc hv hh rfl (opSBC_acl c)
  | LDA => exact viaMode_read hc hv hh rfl (opLDA_acl c)
  | LDX => exact viaMode_read hc hv hh rfl (opLDX_acl c)
  | LDY => exact viaMode_read hc hv hh rfl (opLDY_acl c)
  | CMP => exact viaMode_read hc hv hh rfl (fun x => opCMPR_acl c x (·.a))
  | CPX => exact viaMode_read hc hv hh rfl (fun x => opCMPR_acl c x (·.x))
  | CPY => exact viaMode_read hc hv hh rfl (fun x => opCMPR_acl c x (·.y))
  | BIT =>
    by_cases hm : mo = .imm
    · subst hm
      refine cmosOnly_rec hh fun _ hh => ?_
      obtain rfl := Option.some.inj hh
      exact ac_89 v c hc
    · exact viaMode_read hc hv ((if_neg hm).symm.trans hh) rfl (opBIT_acl c)
  | STA => exact viaAddr_store hc hv hh rfl (opSTA_acl c)
  | STX => exact viaAddr_store hc hv hh rfl (opSTX_acl c)
  | STY => exact viaAddr_store hc hv hh rfl (opSTY_acl c)
  | ASL => exact rmwHandler_acc hc hv hh rfl (opASL_acc_acl c) (fun _ => rfl) (opASL_mem_acl c)
  | LSR => exact rmwHandler_acc hc hv hh rfl (opLSR_acc_acl c) (fun _ => rfl) (opLSR_mem_acl c)
  | ROL => exact rmwHandler_acc hc hv hh rfl (opROL_acc_acl c) (fun _ => rfl) (opROL_mem_acl c)
  | ROR => exact rmwHandler_acc hc hv hh rfl (opROR_acc_acl c) (fun _ => rfl) (opROR_mem_acl c)
  | INC => exact rmwHandler_acc hc hv hh rfl (opINCR_acc_acl c) (fun _ => rfl) (opINCR_mem_acl c)
  | DEC => exact rmwHandler_acc hc hv hh rfl (opDECR_acc_acl c) (fun _ => rfl) (opDECR_mem_acl c)
  | BRK =>
    cases v with
    | nmos => exact atMode_rec hh (a_00 c hc .nmos)
    | cmos => exact atMode_rec hh (ac_00 .cmos c hc)
  | JMP =>
    cases mo with
    | abs =>
      obtain rfl := Option.some.inj hh
      exact a_4c c hc v
    | ind =>
      obtain rfl := Option.some.inj hh
      cases v with
      | nmos => exact a_6c c hc
      | cmos => exact ac_6c c hc
    | iax =>
      refine cmosOnly_rec hh fun _ hh => ?_
      obtain rfl := Option.some.inj hh
      exact ac_7c c hc v
    | _ => cases hh
  | JSR => exact atMode_rec hh (a_20 c hc v)
  | RTS => exact atMode_rec hh (a_60 c hc v)
  | RTI => exact atMode_rec hh (a_40 c hc v)
  | PHP => exact atMode_rec hh (a_08 c hc v)
  | PLP => exact atMode_rec hh (a_28 c hc v)
  | PHA => exact atMode_rec hh (a_48 c hc v)
  | PLA => exact atMode_rec hh (a_68 c hc v)
  | BPL => exact atMode_rec hh (a_10 c hc v)
  | BMI => exact atMode_rec hh (a_30 c hc v)
  | BVC => exact atMode_rec hh (a_50 c hc v)
  | BVS => exact atMode_rec hh (a_70 c hc v)
  | BCC => exact atMode_rec hh (a_90 c hc v)
  | BCS => exact atMode_rec hh (a_b0 c hc v)
  | BNE => exact atMode_rec hh (a_d0 c hc v)
  | BEQ => exact atMode_rec hh (a_f0 c hc v)
  | CLC => exact atMode_rec hh (a_18 c v)
  | SEC => exact atMode_rec hh (a_38 c v)
  | CLI => exact atMode_rec hh (a_58 c v)
  | SEI => exact atMode_rec hh (a_78 c v)
  | CLV => exact atMode_rec hh (a_b8 c v)
  | CLD => exact atMode_rec hh (a_d8 c v)
  | SED => exact atMode_rec hh (a_f8 c v)
  | TAX => exact atMode_rec hh (a_aa c v)
  | TAY => exact atMode_rec hh (a_a8 c v)
  | TXA => exact atMode_rec hh (a_8a c v)
  | TYA => exact atMode_rec hh (a_98 c v)
  | TSX => exact atMode_rec hh (a_ba c v)
  | TXS => exact atMode_rec hh (a_9a c v)
  | INX => exact atMode_rec hh (a_e8 c v)
  | INY => exact atMode_rec hh (a_c8 c v)
  | DEX => exact atMode_rec hh (a_ca c v)
  | DEY => exact atMode_rec hh (a_88 c v)
  | NOP => exact atMode_rec hh (a_ea c v)
  | _ =>
    refine cmosOnly_rec hh fun e hh => ?_
    subst e
    exact cmosHandler_acc hc (hv rfl) hh

/-! For the read-modify-write rows on memory the order is kept as well (the I/O development needs
the load before the store). -/

theorem cmosHandler_rmw_exact {c : Cfg} (hc : IsDev c) (h8 : c = dev6502.cfg) {mn : Mn} {mo : Mode}
    {h : St → St} (hh : cmosHandler c mn mo = some h) (hr : mn.isRmw = true) :
    HandlerExact c .cmos h mn mo := by
  cases mn with
  | TSB => exact viaAddr_rmw_exact hc (fun _ => h8) hh rfl (opTSB_acl c)
  | TRB => exact viaAddr_rmw_exact hc (fun _ => h8) hh rfl (opTRB_acl c)
  | RMB b => exact bitRow_rec hh fun _ hh => viaAddr_rmw_exact hc (fun _ => h8) hh rfl fun x => opRMB_acl c x _
  | SMB b => exact bitRow_rec hh fun _ hh => viaAddr_rmw_exact hc (fun _ => h8) hh rfl fun x => opSMB_acl c x _
  | ASL | LSR | ROL | ROR | INC | DEC => cases hh
  | _ => cases hr

theorem stdHandler_rmw_exact {c : Cfg} (hc : IsDev c) {v : Variant} {mn : Mn} {mo : Mode} {h : St → St}
    (hv : v = .cmos → c = dev6502.cfg) (hh : stdHandler c v mn mo = some h) (hr : mn.isRmw = true)
    (hacc : mo ≠ .acc) : HandlerExact c v h mn mo := by
  cases mn with
  | ASL => exact viaAddr_rmw_exact hc hv ((if_neg hacc).symm.trans hh) rfl (opASL_mem_acl c)
  | LSR => exact viaAddr_rmw_exact hc hv ((if_neg hacc).symm.trans hh) rfl (opLSR_mem_acl c)
  | ROL => exact viaAddr_rmw_exact hc hv ((if_neg hacc).symm.trans hh) rfl (opROL_mem_acl c)
  | ROR => exact viaAddr_rmw_exact hc hv ((if_neg hacc).symm.trans hh) rfl (opROR_mem_acl c)
  | INC => exact viaAddr_rmw_exact hc hv ((if_neg hacc).symm.trans hh) rfl (opINCR_mem_acl c)
  | DEC => exact viaAddr_rmw_exact hc hv ((if_neg hacc).symm.trans hh) rfl (opDECR_mem_acl c)
  | TSB | TRB | RMB b | SMB b =>
    refine cmosOnly_rec hh fun e hh => ?_
    subst e
    exact cmosHandler_rmw_exact hc (hv rfl) hh hr
  | _ => cases hr

end Py65.Proofs
