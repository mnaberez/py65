/-
Aspect *cycles*: `stdHandler` leaves `cycles` alone and adds to `excycles` exactly the variable
cycles `varCycles` (indexed page crossing, taken branch), by cases on the mnemonic.  BRA is left
out: its base count is the recorded deviation (`Props.C13.bra_deviation`).
-/
import Py65.Proofs.Rows
import Py65.Proofs.CycSpecial

namespace Py65.Proofs
open Py65 Py65.Gen Py65.Spec

theorem modeFn_cyc {c : Cfg} {v : Variant} {mo : Mode} {x : St → Int × St} (hc : IsDev c)
    (hx : modeFn c v mo = some x) : ModeCyc c x mo :=
  modeFn_rec hx (ProgramCounter_cyc c) (ZeroPageAddr_cyc c) (ZeroPageXAddr_cyc c) (ZeroPageYAddr_cyc c)
    (AbsoluteAddr_cyc c) (AbsoluteXAddr_cyc c hc) (AbsoluteYAddr_cyc c hc) (IndirectXAddr_cyc c)
    (IndirectYAddr_cyc c hc) fun _ => ZeroPageIndirectAddr_cyc c

section
variable {c : Cfg} {v : Variant} {mn : Mn} {mo : Mode} {f : (St → Int × St) → St → St} {h : St → St}
  (hc : IsDev c)
include hc

theorem viaMode_cyc (hh : viaMode c v mo f = some h) (hb : isBranch mn = false)
    (hop : ∀ x, KeepsCyc (f x) x) : HandlerCyc c h mn mo :=
  viaMode_rec hh fun x hx => data_cyc c _ x mn mo _ hb (modeFn_cyc hc hx) (hop x)

theorem viaAddr_cyc (hh : viaAddr c v mo f = some h) (hb : isBranch mn = false)
    (hop : ∀ x, KeepsCyc (f x) x) : HandlerCyc c h mn mo :=
  viaAddr_rec hh fun _ x hx => data_cyc c _ x mn mo _ hb (modeFn_cyc hc hx) (hop x)

theorem rmwHandler_cyc {a : St → St} (hh : rmwHandler c v mo a f = some h) (hb : isBranch mn = false)
    (ha : KeepsCyc a fun s => (0, s)) (hop : ∀ x, KeepsCyc (f x) x) : HandlerCyc c h mn mo := by
  unfold rmwHandler at hh
  split at hh
  · rename_i hm
    obtain rfl := Option.some.inj hh
    exact hm ▸ plain_cyc hb (fun _ => rfl) ha
  · exact viaAddr_cyc hc hh hb hop

end

theorem cmosHandler_cyc {c : Cfg} (hc : IsDev c) {mn : Mn} {mo : Mode} {h : St → St}
    (hh : cmosHandler c mn mo = some h) (hnb : mn ≠ .BRA) : HandlerCyc c h mn mo := by
  cases mn with
  | BRA => exact absurd rfl hnb
  | PHX => exact atMode_rec hh (cc_da c)
  | PHY => exact atMode_rec hh (cc_5a c)
  | PLX => exact atMode_rec hh (cc_fa c)
  | PLY => exact atMode_rec hh (cc_7a c)
  | WAI => exact atMode_rec hh (cc_cb c)
  | STZ => exact viaAddr_cyc hc hh rfl (opSTZ_cyc c)
  | TSB => exact viaAddr_cyc hc hh rfl (opTSB_cyc c)
  | TRB => exact viaAddr_cyc hc hh rfl (opTRB_cyc c)
  | RMB b => exact bitRow_rec hh fun _ hh => viaAddr_cyc hc hh rfl fun x => opRMB_cyc c x _
  | SMB b => exact bitRow_rec hh fun _ hh => viaAddr_cyc hc hh rfl fun x => opSMB_cyc c x _
  | _ => cases hh

theorem stdHandler_cyc {c : Cfg} (hc : IsDev c) {v : Variant} {mn : Mn} {mo : Mode} {h : St → St}
    (hh : stdHandler c v mn mo = some h) (hnb : mn ≠ .BRA) : HandlerCyc c h mn mo := by
  cases mn with
  | ORA => exact viaMode_cyc hc hh rfl (opORA_cyc c)
  | AND => exact viaMode_cyc hc hh rfl (opAND_cyc c)
  | EOR => exact viaMode_cyc hc hh rfl (opEOR_cyc c)
  | ADC => exact viaMode_cyc hc hh rfl (opADC_cyc c)
  | SBC => exact viaMode_cyc hc hh rfl (opSBC_cyc c)
  | LDA => exact viaMode_cyc hc hh rfl (opLDA_cyc c)
  | LDX => exact viaMode_cyc hc hh rfl (opLDX_cyc c)
  | LDY => exact viaMode_cyc hc hh rfl (opLDY_cyc c)
  | CMP => exact viaMode_cyc hc hh rfl (fun x => opCMPR_cyc c x (·.a))
  | CPX => exact viaMode_cyc hc hh rfl (fun x => opCMPR_cyc c x (·.x))
  | CPY => exact viaMode_cyc hc hh rfl (fun x => opCMPR_cyc c x (·.y))
  | BIT =>
    by_cases hm : mo = .imm
    · subst hm
      refine cmosOnly_rec hh fun _ hh => ?_
      obtain rfl := Option.some.inj hh
      exact cc_89 c
    · exact viaMode_cyc hc ((if_neg hm).symm.trans hh) rfl (opBIT_cyc c)
  | STA => exact viaAddr_cyc hc hh rfl (opSTA_cyc c)
  | STX => exact viaAddr_cyc hc hh rfl (opSTX_cyc c)
  | STY => exact viaAddr_cyc hc hh rfl (opSTY_cyc c)
  | ASL => exact rmwHandler_cyc hc hh rfl (opASL_acc_cyc c) (opASL_mem_cyc c)
  | LSR => exact rmwHandler_cyc hc hh rfl (opLSR_acc_cyc c) (opLSR_mem_cyc c)
  | ROL => exact rmwHandler_cyc hc hh rfl (opROL_acc_cyc c) (opROL_mem_cyc c)
  | ROR => exact rmwHandler_cyc hc hh rfl (opROR_acc_cyc c) (opROR_mem_cyc c)
  | INC => exact rmwHandler_cyc hc hh rfl (opINCR_acc_cyc c) (opINCR_mem_cyc c)
  | DEC => exact rmwHandler_cyc hc hh rfl (opDECR_acc_cyc c) (opDECR_mem_cyc c)
  | BRK =>
    cases v with
    | nmos => exact atMode_rec hh (c_00 c)
    | cmos => exact atMode_rec hh (cc_00 c)
  | JMP =>
    cases mo with
    | abs =>
      obtain rfl := Option.some.inj hh
      exact c_4c c
    | ind =>
      obtain rfl := Option.some.inj hh
      cases v with
      | nmos => exact c_6c c
      | cmos => exact cc_6c c
    | iax =>
      refine cmosOnly_rec hh fun _ hh => ?_
      obtain rfl := Option.some.inj hh
      exact cc_7c c
    | _ => cases hh
  | BPL => exact atMode_rec hh (c_10 c hc)
  | BMI => exact atMode_rec hh (c_30 c hc)
  | BVC => exact atMode_rec hh (c_50 c hc)
  | BVS => exact atMode_rec hh (c_70 c hc)
  | BCC => exact atMode_rec hh (c_90 c hc)
  | BCS => exact atMode_rec hh (c_b0 c hc)
  | BNE => exact atMode_rec hh (c_d0 c hc)
  | BEQ => exact atMode_rec hh (c_f0 c hc)
  | JSR => exact atMode_rec hh (c_20 c)
  | RTS => exact atMode_rec hh (c_60 c)
  | RTI => exact atMode_rec hh (c_40 c)
  | PHP => exact atMode_rec hh (c_08 c)
  | PLP => exact atMode_rec hh (c_28 c)
  | PHA => exact atMode_rec hh (c_48 c)
  | PLA => exact atMode_rec hh (c_68 c)
  | CLC => exact atMode_rec hh (c_18 c)
  | SEC => exact atMode_rec hh (c_38 c)
  | CLI => exact atMode_rec hh (c_58 c)
  | SEI => exact atMode_rec hh (c_78 c)
  | CLV => exact atMode_rec hh (c_b8 c)
  | CLD => exact atMode_rec hh (c_d8 c)
  | SED => exact atMode_rec hh (c_f8 c)
  | TAX => exact atMode_rec hh (c_aa c)
  | TAY => exact atMode_rec hh (c_a8 c)
  | TXA => exact atMode_rec hh (c_8a c)
  | TYA => exact atMode_rec hh (c_98 c)
  | TSX => exact atMode_rec hh (c_ba c)
  | TXS => exact atMode_rec hh (c_9a c)
  | INX => exact atMode_rec hh (c_e8 c)
  | INY => exact atMode_rec hh (c_c8 c)
  | DEX => exact atMode_rec hh (c_ca c)
  | DEY => exact atMode_rec hh (c_88 c)
  | NOP => exact atMode_rec hh (c_ea c)
  | _ => exact cmosOnly_rec hh fun _ hh => cmosHandler_cyc hc hh hnb

/-- Branch handlers exist in relative mode only. -/
theorem stdHandler_rel {c : Cfg} {v : Variant} {mn : Mn} {mo : Mode} {h : St → St}
    (hh : stdHandler c v mn mo = some h) (hb : isBranch mn = true) : mo = .rel := by
  cases mn with
  | BPL | BMI | BVC | BVS | BCC | BCS | BNE | BEQ => exact atMode_rec (Q := fun mo _ => mo = .rel) hh rfl
  | BRA => exact cmosOnly_rec hh fun _ hh => atMode_rec (Q := fun mo _ => mo = .rel) hh rfl
  | _ => cases hb

end Py65.Proofs
