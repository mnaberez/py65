/-
From handler theorems to `step()`: fetch, PC increment, dispatch, final PC mask.
-/
import Py65.Proofs.Ops

set_option linter.unusedSimpArgs false

namespace Py65.Proofs
open Py65 Py65.Gen Py65.Spec Py

/-- The state handed to the handler by `step()`. -/
def afterFetch (c : Cfg) (t : Tbl) (s : St) : St :=
  { s with log := MemEv.r s.pc :: s.log, pc := land (s.pc + 1) c.addrMask, excycles := 0,
           addcycles := t.extracycles (s.mem s.pc) }

theorem step_unfold (c : Cfg) (t : Tbl) (s : St) :
    Mpu6502.step c t s =
      let s2 := t.instruct (s.mem s.pc) (afterFetch c t s)
      { s2 with pc := land s2.pc c.addrMask,
                cycles := s2.cycles + (t.cycletime (s.mem s.pc) + s2.excycles) } := rfl

theorem afterFetch_WF (c : Cfg) (hc : IsDev c) (t : Tbl) (s : St) (hs : WF c s) :
    WF c (afterFetch c t s) := by
  refine ⟨hs.a, hs.x, hs.y, hs.sp, hs.p, ?_, hs.mem⟩
  have := hs.pc
  rcases hc with rfl | rfl <;> (simp [afterFetch, pyarith] at this ⊢; omega)

theorem afterFetch_core {c : Cfg} (hc : IsDev c) (t : Tbl) (s : St) :
    core (afterFetch c t s) = { core s with pc := (s.pc + 1) % AM c.BYTE_WIDTH } := by
  rcases hc with rfl | rfl <;> simp [afterFetch, core, AM, pyarith]

theorem afterFetch_abs (c : Cfg) (hc : IsDev c) (t : Tbl) (s : St) :
    abs (afterFetch c t s) = { abs s with pc := (s.pc + 1) % AM c.BYTE_WIDTH } := by
  show ({ core (afterFetch c t s) with p := normP s.p } : AState) = _
  rw [afterFetch_core hc]
  rfl

/-- One `step()` of the generated model is one `Spec.step`, given the handler theorem of the
opcode at PC. -/
theorem step_sem (c : Cfg) (hc : IsDev c) (t : Tbl) (v : Variant) (s : St) (hs : WF c s)
    (hw : s.waiting = false) (mn : Mn) (mo : Mode)
    (hd : decode v (s.mem s.pc) = some (mn, mo)) (P : St → Prop) (hP : P (afterFetch c t s))
    (hi : HandlerOKp c v (t.instruct (s.mem s.pc)) mn mo P) :
    abs (Mpu6502.step c t s) = Spec.step c.BYTE_WIDTH v (abs s) := by
  have h1 := hi (afterFetch c t s) (afterFetch_WF c hc t s hs) hP
  rw [afterFetch_abs c hc] at h1
  have e : (abs s).mem (abs s).pc = s.mem s.pc := rfl
  have ew : (abs s).waiting = false := hw
  have e2 : ({ abs s with pc := (s.pc + 1) % AM c.BYTE_WIDTH } : AState) =
      { abs s with pc := ((abs s).pc + 1) % AM c.BYTE_WIDTH } := rfl
  simp only [Spec.step, e, ew, hd, Bool.false_eq_true, if_false]
  rw [e2] at h1
  have e4 : ({ abs s with pc := ((abs s).pc + 1) % AM c.BYTE_WIDTH } : AState) =
      { a := (abs s).a, x := (abs s).x, y := (abs s).y, sp := (abs s).sp, p := (abs s).p,
        pc := ((abs s).pc + 1) % AM c.BYTE_WIDTH, mem := (abs s).mem, waiting := false } := by
    simp [ew]
  rw [← e4, ← h1, step_unfold]
  rcases hc with rfl | rfl <;> simp [absH, abs, core, pyarith]


/-- A table lookup that succeeds names a table row. -/
theorem lookup_mem {t : List (Int × Mn × Mode)} {op : Int} {mn : Mn} {mo : Mode}
    (h : lookup t op = some (mn, mo)) : (op, mn, mo) ∈ t := by
  induction t with
  | nil => simp [lookup] at h
  | cons e rest ih =>
    obtain ⟨o, m1, m2⟩ := e
    simp only [lookup] at h
    split at h
    · rename_i heq
      simp only [Option.some.injEq, Prod.mk.injEq] at h
      obtain ⟨rfl, rfl⟩ := h
      subst heq
      exact List.mem_cons_self
    · exact List.mem_cons_of_mem _ (ih h)

/-- A 65Org16 / 65C02 that is not waiting steps like the shared `step`. -/
theorem step_65org16 {s : St} (hw : s.waiting = false) :
    dev65org16.step s = Mpu6502.step dev65org16.cfg dev65org16.tbl s := by
  simp only [dev65org16.step, Mpu65org16.step, hw]; rfl

theorem step_65c02 {s : St} (hw : s.waiting = false) :
    dev65c02.step s = Mpu6502.step dev65c02.cfg dev65c02.tbl s := by
  simp only [dev65c02.step, Mpu65c02.step, hw]; rfl

end Py65.Proofs
