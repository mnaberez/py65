/-
Running the generated CPU on the monitor's observed memory (C18 composed with the CPU).

The generated device model (`Py65/Gen/Mpu6502.lean`, ...; `Machine.lean`) is a function `St → St` whose
memory is a pure function `mem : Int → Int` plus the ordered log of item accesses: `memGet e s` answers
`s.mem e`.  A load from the monitor's input address `I` must instead be answered by the `getc` observer
(next pending byte), so the CPU cannot simply be handed the backing cells.  What is done here, without
re-translating the CPU:

* `viewG E σ a` -- what a load from `a` WOULD return now on `σ._mpu.memory`, through the GENERATED `getc`
  (defined by running `MonIOGenEq.accessG`, i.e. the `ObservableMemory` model + the generated closures);
* one instruction of the I/O machine (`ioStep`): the generated `step()` is run on the plain memory
  `viewG E σ` with an empty log; its log `T` (the instruction's item accesses, in order, with the values
  written) is then replayed through the monitor's memory object by `MonIOGenEq.replayG` (generated
  `putc` / `getc`): that gives the new monitor state (cells, pending input, output);
* `Consistent E d m` -- the CHECK that makes this a run of the CPU on the observed memory: every load of
  `T`, replayed through the observed memory, is answered exactly as the plain memory the CPU ran on
  answered it (`replayPlain (viewG E σ) T`).  A device talks to its memory only through `memory[e]` /
  `memory[e] = v` (the translator refuses anything else, and the log records every one of them), so a
  `step()` whose every load got the same answer is the same `step()`.

`Consistent` can only fail when, inside ONE instruction, a load from `I` comes after another access to `I`
(the second load must see the NEXT byte, a plain memory cannot do that) or an address is not a physical
address (aliases of the 65Org16): `consistent_of_safe` (`IoSafe`).
-/
import Py65.Proofs.MonIOGenEq
import Py65.Proofs.Hist

namespace Py65.Proofs.IoProg
open Py65 Py65.Model.ObsMem Py65.Model.MonIO Py65.Model.MonIORt Py65.Gen.MonIOGen
open Py65.Spec.ObsMem Py65.Proofs.MonIO Py65.Proofs.MonIOGenEq
open Py65.Spec.MonIO (SState deliver storesTo loadsFrom)
open Py65.Proofs.Hist (Dev)

/-- What a load from `a` returns in Spec state `sp` (`Spec.MonIO.step` on `.r a`, value only). -/
def viewS (size I : Int) (sp : SState) (a : Int) : Int :=
  if a % size = I % size then
    (match sp.pending with
     | b :: _ => deliver b
     | [] => 0)
  else sp.cells (a % size)

theorem step_r_val (size I O : Int) (sp : SState) (a : Int) :
    (Py65.Spec.MonIO.step size I O sp (.r a)).1 = some (viewS size I sp a) := by
  unfold Py65.Spec.MonIO.step viewS
  by_cases hp : a % size = I % size
  · simp only [hp, if_true]; cases sp.pending <;> rfl
  · simp only [hp, if_false]

def isLoadAt (size I : Int) : MemEv → Bool
  | .r a => decide (a % size = I % size)
  | .w _ _ => false

def isStoreAt (size O : Int) : MemEv → Bool
  | .r _ => false
  | .w a _ => decide (a % size = O % size)

def touches (size I : Int) : MemEv → Bool
  | .r a => decide (a % size = I % size)
  | .w a _ => decide (a % size = I % size)

/-- Inside the access list of one instruction, no load from `I` is preceded by another access to `I`. -/
def NoReload (size I : Int) : List MemEv → Prop
  | [] => True
  | e :: es => (touches size I e = true → ∀ e' ∈ es, isLoadAt size I e' = false) ∧ NoReload size I es

instance (size I : Int) : (T : List MemEv) → Decidable (NoReload size I T)
  | [] => isTrue trivial
  | e :: es =>
    have : Decidable (NoReload size I es) := instDecidableNoReload size I es
    by unfold NoReload; exact inferInstance

/-- The access list of one instruction for which a plain memory can stand in for the observed one: every
address is a physical address (`0 ≤ a ≤ mask`: no aliasing inside the instruction) and no load from `I`
is preceded by another access to `I`. -/
def IoSafe (mask I : Int) (T : List MemEv) : Prop :=
  (∀ e ∈ T, InRange mask e) ∧ NoReload (mask + 1) I T

instance (mask I : Int) (T : List MemEv) : Decidable (IoSafe mask I T) := by
  unfold IoSafe; exact inferInstance

theorem loadsFrom_eq_countP (size I : Int) (T : List MemEv) :
    loadsFrom size I T = T.countP (isLoadAt size I) := by
  unfold loadsFrom
  congr 1

theorem storesTo_length (size O : Int) (T : List MemEv) :
    (storesTo size O T).length = T.countP (isStoreAt size O) := by
  induction T with
  | nil => rfl
  | cons e es ih =>
    cases e with
    | r a => simpa [storesTo, isStoreAt, List.countP_cons] using ih
    | w a v =>
      by_cases hp : a % size = O % size
      · simp only [storesTo, List.filterMap_cons, hp, if_true, List.length_cons, List.countP_cons,
          isStoreAt, decide_true] at ih ⊢
        omega
      · simp only [storesTo, List.filterMap_cons, hp, if_false, List.countP_cons,
          isStoreAt, decide_false] at ih ⊢
        simpa using ih

theorem viewS_off {size I : Int} (sp : SState) {a : Int} (h : a % size ≠ I % size) :
    viewS size I sp a = sp.cells (a % size) := if_neg h

/-- A load changes no cell, and nothing at all unless it is from `I`. -/
theorem step_r_cells (size I O : Int) (sp : SState) (a : Int) :
    (Py65.Spec.MonIO.step size I O sp (.r a)).2.cells = sp.cells := by
  unfold Py65.Spec.MonIO.step
  by_cases hp : a % size = I % size
  · simp only [hp, if_true]; cases sp.pending <;> rfl
  · simp only [hp, if_false]

theorem step_r_off {size I : Int} (O : Int) (sp : SState) {a : Int} (h : a % size ≠ I % size) :
    (Py65.Spec.MonIO.step size I O sp (.r a)).2 = sp := by
  simp only [Py65.Spec.MonIO.step, h, if_false]

/-- **List-level consistency.**  `pm` is a plain memory that agrees with the read view of Spec state `sp`
on every physical address -- at `I` only as far as a load from `I` is still to come.  Replaying an
`IoSafe` access list on the plain memory and on the Spec machine answers every load alike, and the cells
agree afterwards everywhere but at `I`. -/
theorem spec_consistent (mask I O : Int) (T : List MemEv) :
    ∀ (sp : SState) (pm : Int → Int), (∀ e ∈ T, InRange mask e) → NoReload (mask + 1) I T →
    (∀ a, 0 ≤ a → a ≤ mask →
      (a % (mask + 1) ≠ I % (mask + 1) ∨ ∃ e ∈ T, isLoadAt (mask + 1) I e = true) →
      pm a = viewS (mask + 1) I sp a) →
    (Py65.Spec.MonIO.replay (mask + 1) I O sp T).1 = (replayPlain pm T).1 ∧
    ∀ a, 0 ≤ a → a ≤ mask → a % (mask + 1) ≠ I % (mask + 1) →
      (replayPlain pm T).2 a = (Py65.Spec.MonIO.replay (mask + 1) I O sp T).2.cells a := by
  have hmod : ∀ a : Int, 0 ≤ a → a ≤ mask → a % (mask + 1) = a := fun a h0 h1 =>
    Int.emod_eq_of_lt h0 (by omega)
  induction T with
  | nil =>
    intro sp pm _ _ hag
    refine ⟨rfl, fun a h0 h1 hne => ?_⟩
    show pm a = sp.cells a
    rw [hag a h0 h1 (Or.inl hne), viewS_off sp hne, hmod a h0 h1]
  | cons e es ih =>
    intro sp pm hin hnr hag
    have hin' : ∀ e' ∈ es, InRange mask e' := fun e' he' => hin e' (List.mem_cons_of_mem _ he')
    obtain ⟨hnr1, hnr2⟩ := hnr
    -- once `e` has touched `I`, no load from `I` is left in `es`
    have hnone : ∀ {a : Int}, touches (mask + 1) I e = true →
        (a % (mask + 1) ≠ I % (mask + 1) ∨ ∃ e' ∈ es, isLoadAt (mask + 1) I e' = true) →
        a % (mask + 1) ≠ I % (mask + 1) := fun ht hor =>
      hor.elim id fun ⟨e', he', hl⟩ => by rw [hnr1 ht e' he'] at hl; cases hl
    have hlater : ∀ {a : Int},
        (a % (mask + 1) ≠ I % (mask + 1) ∨ ∃ e' ∈ es, isLoadAt (mask + 1) I e' = true) →
        (a % (mask + 1) ≠ I % (mask + 1) ∨ ∃ e' ∈ e :: es, isLoadAt (mask + 1) I e' = true) :=
      Or.imp_right fun ⟨e', he', hl⟩ => ⟨e', List.mem_cons_of_mem _ he', hl⟩
    cases e with
    | r a =>
      obtain ⟨h0, h1⟩ : 0 ≤ a ∧ a ≤ mask := hin (.r a) List.mem_cons_self
      have hhead : (Py65.Spec.MonIO.step (mask + 1) I O sp (.r a)).1 = some (pm a) := by
        rw [step_r_val, hag a h0 h1]
        by_cases hp : a % (mask + 1) = I % (mask + 1)
        · exact Or.inr ⟨.r a, List.mem_cons_self, by simp [isLoadAt, hp]⟩
        · exact Or.inl hp
      have hag' : ∀ a', 0 ≤ a' → a' ≤ mask →
          (a' % (mask + 1) ≠ I % (mask + 1) ∨ ∃ e ∈ es, isLoadAt (mask + 1) I e = true) →
          pm a' = viewS (mask + 1) I (Py65.Spec.MonIO.step (mask + 1) I O sp (.r a)).2 a' := by
        intro a' h0' h1' hor
        by_cases hp : a % (mask + 1) = I % (mask + 1)
        · -- the load consumed a byte, which only the view at `I` shows
          have hne := hnone (by simp [touches, hp]) hor
          rw [hag a' h0' h1' (Or.inl hne), viewS_off _ hne, viewS_off _ hne, step_r_cells]
        · rw [step_r_off O sp hp]
          exact hag a' h0' h1' (hlater hor)
      obtain ⟨i1, i2⟩ := ih _ pm hin' hnr2 hag'
      simp only [Py65.Spec.MonIO.replay, replayPlain, plainStep]
      exact ⟨by rw [hhead, i1], i2⟩
    | w a v =>
      obtain ⟨h0, h1⟩ : 0 ≤ a ∧ a ≤ mask := hin (.w a v) List.mem_cons_self
      have hag' : ∀ a', 0 ≤ a' → a' ≤ mask →
          (a' % (mask + 1) ≠ I % (mask + 1) ∨ ∃ e ∈ es, isLoadAt (mask + 1) I e = true) →
          upd pm a v a' = viewS (mask + 1) I (Py65.Spec.MonIO.step (mask + 1) I O sp (.w a v)).2 a' := by
        intro a' h0' h1' hor
        by_cases hne : a' % (mask + 1) = I % (mask + 1)
        · -- a load from `I` is still to come, so the store was not to `I`; the view at `I` is the queue's
          have hp : a % (mask + 1) ≠ I % (mask + 1) := fun hp =>
            hnone (by simp [touches, hp]) hor hne
          have haa : a' ≠ a := fun h => hp (h ▸ hne)
          rw [show upd pm a v a' = pm a' from if_neg haa, hag a' h0' h1' (hlater hor)]
          unfold viewS
          rw [if_pos hne, if_pos hne]
          rfl
        · rw [viewS_off _ hne]
          show upd pm a v a' = upd sp.cells (a % (mask + 1)) v (a' % (mask + 1))
          rw [hmod a h0 h1, hmod a' h0' h1']
          unfold upd
          by_cases haa : a' = a
          · rw [if_pos haa, if_pos haa]
          · rw [if_neg haa, if_neg haa, hag a' h0' h1' (Or.inl hne), viewS_off _ hne, hmod a' h0' h1']
      obtain ⟨i1, i2⟩ := ih _ (upd pm a v) hin' hnr2 hag'
      simp only [Py65.Spec.MonIO.replay, replayPlain, plainStep]
      exact ⟨by rw [i1]; rfl, i2⟩

theorem spec_replay_append (size I O : Int) (T1 T2 : List MemEv) (sp : SState) :
    Py65.Spec.MonIO.replay size I O sp (T1 ++ T2) =
      ((Py65.Spec.MonIO.replay size I O sp T1).1 ++
         (Py65.Spec.MonIO.replay size I O (Py65.Spec.MonIO.replay size I O sp T1).2 T2).1,
       (Py65.Spec.MonIO.replay size I O (Py65.Spec.MonIO.replay size I O sp T1).2 T2).2) := by
  induction T1 generalizing sp with
  | nil => rfl
  | cons e es ih =>
    simp only [List.cons_append, Py65.Spec.MonIO.replay, ih, List.cons_append]

/-- What a load from `a` on `σ._mpu.memory` would return NOW, through the GENERATED observers (for the
installed memory: the generated `getc` at the addresses congruent to `I`, the backing cell elsewhere). -/
def viewG (E : Env) (σ : IoSt) (a : Int) : Int := ((accessG E σ (.r a)).1).getD 0

theorem viewG_eq (E : Env) (σ : IoSt) (I O : Int) (cells : Int → Int) (g : Good σ I O cells) (a : Int) :
    viewG E σ a = viewS (maskOf σ.addrWidth + 1) I (specOf σ cells) a := by
  have h := (replayG_spec E I O [.r a] σ _ g.ioSim (fun e he => by rw [List.mem_singleton.1 he]; trivial)).1
  unfold viewG
  rw [(List.cons.inj h).1, step_r_val]
  rfl

/-- A device (its registers and bookkeeping: `cpu`; `cpu.mem` and `cpu.log` are scratch) and the monitor
that owns its memory object and the two streams. -/
structure IoM where
  cpu : St
  mon : IoSt

/-- The state the next `step()` is run on: the device's registers over the plain memory "what a load
would return now", with an empty access log. -/
def startOf (E : Env) (m : IoM) : St := { m.cpu with mem := viewG E m.mon, log := [] }

/-- The item accesses of the next instruction, in program order (values written included). -/
def traceOf (E : Env) (d : Dev) (m : IoM) : List MemEv := (d.step (startOf E m)).log.reverse

/-- What the loads of the next instruction returned to the CPU (`none` at the stores). -/
def seenOf (E : Env) (d : Dev) (m : IoM) : List (Option Int) :=
  (replayPlain (viewG E m.mon) (traceOf E d m)).1

/-- One instruction: the generated `step()`, then its accesses replayed on the monitor's memory object
through the generated observers. -/
def ioStep (E : Env) (d : Dev) (m : IoM) : IoM :=
  { cpu := d.step (startOf E m), mon := (replayG E m.mon (traceOf E d m)).2 }

/-- The check that makes `ioStep` a `step()` ON the observed memory: the observed memory answers every
load of the instruction exactly as the plain memory the CPU ran on did. -/
def Consistent (E : Env) (d : Dev) (m : IoM) : Prop :=
  (replayG E m.mon (traceOf E d m)).1 = seenOf E d m

instance (E : Env) (d : Dev) (m : IoM) : Decidable (Consistent E d m) := by
  unfold Consistent; exact inferInstance

def ioRun (E : Env) (d : Dev) : Nat → IoM → IoM
  | 0, m => m
  | n + 1, m => ioRun E d n (ioStep E d m)

/-- All item accesses of `n` instructions, in program order. -/
def traces (E : Env) (d : Dev) : Nat → IoM → List MemEv
  | 0, _ => []
  | n + 1, m => traceOf E d m ++ traces E d n (ioStep E d m)

/-- What the loads of `n` instructions returned to the CPU, in program order. -/
def seen (E : Env) (d : Dev) : Nat → IoM → List (Option Int)
  | 0, _ => []
  | n + 1, m => seenOf E d m ++ seen E d n (ioStep E d m)

def AllConsistent (E : Env) (d : Dev) : Nat → IoM → Prop
  | 0, _ => True
  | n + 1, m => Consistent E d m ∧ AllConsistent E d n (ioStep E d m)

instance (E : Env) (d : Dev) : (n : Nat) → (m : IoM) → Decidable (AllConsistent E d n m)
  | 0, _ => isTrue trivial
  | n + 1, m =>
    have : Decidable (AllConsistent E d n (ioStep E d m)) := instDecidableAllConsistent E d n (ioStep E d m)
    by unfold AllConsistent; exact inferInstance

/-- The induction over the instructions: a consistent run is the Spec's replay of its access list. -/
theorem run_spec (E : Env) (d : Dev) (I O : Int) (n : Nat) :
    ∀ (m : IoM) (sp : SState), IoSim m.mon I O sp →
    (∀ e ∈ traces E d n m, okEv E e) → AllConsistent E d n m →
    let t := Py65.Spec.MonIO.replay (maskOf m.mon.addrWidth + 1) I O sp (traces E d n m)
    let m' := ioRun E d n m
    seen E d n m = t.1 ∧ IoSim m'.mon I O t.2 ∧ Frame m.mon m'.mon ∧
    (m.mon.stdout.flushed = m.mon.stdout.written.length →
      m'.mon.stdout.flushed = m'.mon.stdout.written.length) := by
  induction n with
  | zero => intro m sp h _ _; exact ⟨rfl, h, Frame.refl _, fun h => h⟩
  | succ n ih =>
    intro m sp h hev hc
    obtain ⟨s1, s2, s3, s4⟩ := replayG_spec E I O (traceOf E d m) m.mon sp h
      (fun e he => hev e (List.mem_append_left _ he))
    obtain ⟨j1, j2, j3, j4⟩ := ih (ioStep E d m) _ s2 (fun e he => hev e (List.mem_append_right _ he)) hc.2
    rw [show (ioStep E d m).mon.addrWidth = m.mon.addrWidth from s3.addrWidth] at j1 j2
    simp only [traces, seen, ioRun, spec_replay_append]
    exact ⟨by rw [j1, ← hc.1, s1], j2, s3.trans j3, fun h => j4 (s4 h)⟩

theorem replayG_append (E : Env) (T1 T2 : List MemEv) (σ : IoSt) :
    replayG E σ (T1 ++ T2) =
      ((replayG E σ T1).1 ++ (replayG E (replayG E σ T1).2 T2).1, (replayG E (replayG E σ T1).2 T2).2) := by
  induction T1 generalizing σ with
  | nil => rfl
  | cons e es ih => simp only [List.cons_append, replayG, ih]

theorem consistent_of_safe (E : Env) (d : Dev) (m : IoM) (I O : Int) (cells : Int → Int)
    (g : Good m.mon I O cells) (hev : ∀ e ∈ traceOf E d m, okEv E e)
    (hs : IoSafe (maskOf m.mon.addrWidth) I (traceOf E d m)) : Consistent E d m := by
  obtain ⟨s1, -⟩ := replayG_spec E I O (traceOf E d m) m.mon _ g.ioSim hev
  obtain ⟨c1, -⟩ := spec_consistent (maskOf m.mon.addrWidth) I O (traceOf E d m) (specOf m.mon cells)
    (viewG E m.mon) hs.1 hs.2 (fun a _ _ _ => viewG_eq E m.mon I O cells g a)
  unfold Consistent seenOf
  rw [s1, c1]

end Py65.Proofs.IoProg
