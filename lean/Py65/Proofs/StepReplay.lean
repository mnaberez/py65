/-
The access log of one generated `step()` read as a replay on a plain memory.  Shared by the two machines that
run the generated CPU on a memory OBJECT: `Proofs/IoProg.lean` (the monitor's two observers) and
`Props/C11h.lean` (arbitrary subscribers).
-/
import Py65.Spec.ObsMem
import Py65.Props.C05h
import Py65.Proofs.IoProgCoh

namespace Py65.Proofs
open Py65 Py65.Spec.ObsMem
open Py65.Proofs.Hist (Dev)

theorem replayPlain_final (T : List MemEv) : ∀ pm : Int → Int,
    (replayPlain pm T).2 = wr T.reverse pm := by
  induction T with
  | nil => intro pm; rfl
  | cons e es ih =>
    intro pm
    simp only [replayPlain, List.reverse_cons, wr_append, ih]
    cases e <;> rfl

/-- The memory function of the generated device after an instruction is the memory it started on with the
instruction's logged writes applied in program order: nothing else ever changes `St.mem`
(`step_frame`: every handler, every opcode byte, every device). -/
theorem step_mem_replay (d : Dev) (s : St) (hl : s.log = []) :
    (d.step s).mem = (replayPlain s.mem (d.step s).log.reverse).2 := by
  rw [replayPlain_final, List.reverse_reverse]
  exact step_frame d s hl

/-- An 8-bit device only produces addresses `0 … $FFFF` (C05h on the log of one instruction). -/
theorem step_inRange8 (d : Dev) (hd : d ≠ .org16) (s : St) (hi : Hist.Inv d s) (hl : s.log = []) :
    ∀ e ∈ (d.step s).log, InRange 0xffff e := by
  have hlog : LogOK d.W (d.step s).log :=
    Py65.Props.C05h.accesses_closed_call d .step s hi (hl ▸ LogOK_nil _)
  have hW : d.W = 8 := by cases d <;> first | rfl | exact absurd rfl hd
  rw [hW] at hlog
  have h8 : ∀ a, InA 8 a → 0 ≤ a ∧ a ≤ 0xffff := fun a h => by
    simp only [InA, Spec.AM] at h
    exact ⟨h.1, by omega⟩
  intro e he
  cases e with
  | r a => exact h8 a (EvOK_r.1 (hlog _ he))
  | w a v => exact h8 a (EvOK_w.1 (hlog _ he)).1

end Py65.Proofs
