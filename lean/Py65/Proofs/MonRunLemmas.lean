/-
Helper lemmas for C17 about the run-control model `Py65/Model/MonRun.lean`.
Property statements live in `Py65/Props/C17.lean`.
-/
import Py65.Model.MonRun
import Mathlib.Data.List.Nodup
import Mathlib.Logic.Function.Iterate
import Mathlib.Tactic.SplitIfs

namespace Py65.Model.MonRun
open Py65

theorem iterate_succ' (f : St → St) (n : Nat) (s : St) : Nat.iterate f (n + 1) s = Nat.iterate f n (f s) := rfl

theorem runLoop_sound (step : St → St) (stop : St → Bool) :
    ∀ (fuel : Nat) (s : St) (n : Nat) (s' : St), runLoop step stop fuel s = some (n, s') →
      1 ≤ n ∧ n ≤ fuel ∧ s' = Nat.iterate step n s ∧ stop s' = true ∧
      ∀ m, 0 < m → m < n → stop (Nat.iterate step m s) = false := by
  intro fuel
  induction fuel with
  | zero => intro s n s' h; simp [runLoop] at h
  | succ fuel ih =>
    intro s n s' h
    unfold runLoop at h
    cases hs : stop (step s) with
    | true =>
      simp only [hs, if_true, Option.some.injEq, Prod.mk.injEq] at h
      obtain ⟨rfl, rfl⟩ := h
      refine ⟨Nat.le_refl _, by omega, rfl, hs, ?_⟩
      intro m h0 h1; omega
    | false =>
      simp only [hs, Bool.false_eq_true, if_false] at h
      cases hr : runLoop step stop fuel (step s) with
      | none => simp [hr] at h
      | some r =>
        obtain ⟨k, t⟩ := r
        obtain ⟨h1, h2, h3, h4, h5⟩ := ih (step s) k t hr
        simp only [hr, Option.map_some, Option.some.injEq, Prod.mk.injEq] at h
        obtain ⟨hk, ht⟩ := h
        subst hk
        subst ht
        refine ⟨by omega, by omega, ?_, h4, ?_⟩
        · rw [iterate_succ']; exact h3
        · intro m hm0 hm1
          cases m with
          | zero => omega
          | succ m =>
            rw [iterate_succ']
            cases m with
            | zero => exact hs
            | succ m => exact h5 (m + 1) (by omega) (by omega)

theorem runLoop_complete (step : St → St) (stop : St → Bool) :
    ∀ (fuel : Nat) (s : St) (n : Nat), 1 ≤ n → n ≤ fuel → stop (Nat.iterate step n s) = true →
      (∀ m, 0 < m → m < n → stop (Nat.iterate step m s) = false) →
      runLoop step stop fuel s = some (n, Nat.iterate step n s) := by
  intro fuel
  induction fuel with
  | zero => intro s n h1 h2; omega
  | succ fuel ih =>
    intro s n h1 h2 h3 h4
    unfold runLoop
    cases n with
    | zero => omega
    | succ n =>
      cases n with
      | zero =>
        have : stop (step s) = true := h3
        simp [this, Nat.iterate]
      | succ n =>
        have hns : stop (step s) = false := h4 1 (by omega) (by omega)
        simp only [hns, Bool.false_eq_true, if_false]
        rw [ih (step s) (n + 1) (by omega) (by omega) (by rw [← iterate_succ']; exact h3)
          (fun m hm0 hm1 => by rw [← iterate_succ']; exact h4 (m + 1) (by omega) (by omega))]
        rfl

theorem runLoop_congr (step : St → St) (stop1 stop2 : St → Bool) (h : ∀ s, stop1 s = stop2 s) :
    ∀ (fuel : Nat) (s : St), runLoop step stop1 fuel s = runLoop step stop2 fuel s := by
  have : stop1 = stop2 := funext h
  intro fuel s; rw [this]

/-- The first loop of `_run` is the second with the empty list: one description of both. -/
theorem run_eq_loop (step : St → St) (codes : List Int) (bps : List (Option Int)) (fuel : Nat) (s : St) :
    run step codes bps fuel s =
      (runLoop step (stopBp codes bps) fuel s).map fun r =>
        { steps := r.1, st := r.2, hit := hitReport codes bps r.2 } := by
  cases bps with
  | nil =>
    have e : stopBp codes [] = stopPlain codes := by
      funext t; simp [stopBp, stopPlain, atBreakpoint]
    have h : ∀ t, hitReport codes [] t = none := by
      intro t; simp [hitReport, atBreakpoint]
    simp only [run, List.isEmpty_nil, if_true, e, h]
  | cons b bs => rfl

theorem atBreakpoint_inactive {bps : List (Option Int)} (hno : ∀ b ∈ bps, b = none) (t : St) :
    atBreakpoint bps t = false := by
  cases hc : atBreakpoint bps t with
  | false => rfl
  | true => cases hno _ (List.contains_iff_mem.1 hc)

theorem run_inactive (step : St → St) (codes : List Int) {bps : List (Option Int)} (hno : ∀ b ∈ bps, b = none)
    (fuel : Nat) (s : St) : run step codes bps fuel s = run step codes [] fuel s := by
  have hbp : ∀ t, atBreakpoint bps t = atBreakpoint [] t := fun t => atBreakpoint_inactive hno t
  have hstop : stopBp codes bps = stopBp codes [] := by
    funext t; simp only [stopBp, hbp t]
  have hhit : ∀ t, hitReport codes bps t = hitReport codes [] t := by
    intro t; simp only [hitReport, hbp t]; rfl
  simp only [run_eq_loop, hstop, hhit]

theorem run_nil_hit {step : St → St} {codes : List Int} {fuel : Nat} {s : St} {r : RunRes}
    (h : run step codes [] fuel s = some r) : r.hit = none := by
  simp only [run, List.isEmpty_nil, if_true] at h
  obtain ⟨_, _, rfl⟩ := Option.map_eq_some_iff.1 h
  rfl

def ActiveNodup (bps : List (Option Int)) : Prop :=
  ∀ (i j : Nat) (a : Int), bps[i]? = some (some a) → bps[j]? = some (some a) → i = j

theorem contains_some_iff (bps : List (Option Int)) (a : Int) :
    bps.contains (some a) = true ↔ ∃ i : Nat, bps[i]? = some (some a) := by
  rw [List.contains_iff_mem, List.mem_iff_getElem?]

theorem indexOf_eq (bps : List (Option Int)) (a : Int) (i : Nat) (hi : bps[i]? = some (some a))
    (hfirst : ∀ j : Nat, j < i → bps[j]? ≠ some (some a)) : indexOf bps a = i := by
  unfold indexOf
  induction bps generalizing i with
  | nil => simp at hi
  | cons b rest ih =>
    cases i with
    | zero =>
      simp only [List.getElem?_cons_zero, Option.some.injEq] at hi
      subst hi
      simp
    | succ i =>
      have hb : b ≠ some a := by
        intro hb
        exact hfirst 0 (by omega) (by simp [hb])
      rw [List.idxOf_cons_ne _ hb]
      congr 1
      apply ih i (by simpa using hi)
      intro j hj
      have := hfirst (j + 1) (by omega)
      simpa using this

theorem indexOf_of_nodup (bps : List (Option Int)) (hn : ActiveNodup bps) (a : Int) (i : Nat)
    (hi : bps[i]? = some (some a)) : indexOf bps a = i := by
  apply indexOf_eq bps a i hi
  intro j hj hja
  have := hn j i a hja hi
  omega

theorem getElem?_append_some {bps : List (Option Int)} {a b : Int} {i : Nat}
    (h : (bps ++ [some a])[i]? = some (some b)) : bps[i]? = some (some b) ∨ (i = bps.length ∧ b = a) := by
  rcases Nat.lt_trichotomy i bps.length with hl | rfl | hl
  · exact Or.inl (by rwa [List.getElem?_append_left hl] at h)
  · exact Or.inr ⟨rfl, by simpa using h.symm⟩
  · rw [List.getElem?_eq_none (by simp only [List.length_append, List.length_singleton]; omega)] at h
    cases h

theorem addBp_nodup (bps : List (Option Int)) (a : Int) (hn : ActiveNodup bps) :
    ActiveNodup (addBp bps a).2 := by
  unfold addBp
  split_ifs with hc
  · exact hn
  · have hno : ∀ i : Nat, bps[i]? ≠ some (some a) := fun i hi => hc ((contains_some_iff bps a).2 ⟨i, hi⟩)
    intro i j b hi hj
    rcases getElem?_append_some hi with hi | ⟨rfl, hb⟩ <;> rcases getElem?_append_some hj with hj | ⟨rfl, hb'⟩
    · exact hn i j b hi hj
    · exact absurd (hb' ▸ hi) (hno i)
    · exact absurd (hb ▸ hj) (hno j)
    · rfl

theorem set_none_getElem? (bps : List (Option Int)) (k i : Nat) (a : Int)
    (h : (bps.set k none)[i]? = some (some a)) : bps[i]? = some (some a) ∧ i ≠ k := by
  rw [List.getElem?_set] at h
  by_cases hik : k = i
  · subst hik
    by_cases hl : k < bps.length <;> simp [hl] at h
  · simp only [hik, if_false] at h
    exact ⟨h, fun e => hik e.symm⟩

def addsOf : List BpOut → List (Nat × Int)
  | [] => []
  | .added n a :: rest => (n, a) :: addsOf rest
  | _ :: rest => addsOf rest

def SlotIs (bps : List (Option Int)) (i : Nat) (x : Option Int) : Prop :=
  bps[i]? = some x ∨ bps[i]? = some none

theorem delBp_cases (bps : List (Option Int)) (k : Int) :
    addsOf [(delBp bps k).1] = [] ∧
    ((delBp bps k).2 = bps ∨ ∃ a, bps[k.toNat]? = some (some a) ∧ (delBp bps k).2 = bps.set k.toNat none) := by
  unfold delBp
  split_ifs
  · exact ⟨rfl, Or.inl rfl⟩
  · split
    · exact ⟨rfl, Or.inl rfl⟩
    · rename_i a hk
      exact ⟨rfl, Or.inr ⟨a, hk, rfl⟩⟩
    · exact ⟨rfl, Or.inl rfl⟩

theorem delBp_nodup (bps : List (Option Int)) (k : Int) (hn : ActiveNodup bps) :
    ActiveNodup (delBp bps k).2 := by
  rcases (delBp_cases bps k).2 with h | ⟨_, _, h⟩ <;> rw [h]
  · exact hn
  · intro i j a hi hj
    exact hn i j a (set_none_getElem? _ _ _ _ hi).1 (set_none_getElem? _ _ _ _ hj).1

theorem applyBp_nodup (bps : List (Option Int)) (c : BpCmd) (hn : ActiveNodup bps) :
    ActiveNodup (applyBp bps c).2 := by
  cases c with
  | add a => exact addBp_nodup bps a hn
  | del k => exact delBp_nodup bps k hn

theorem addsOf_cons (o : BpOut) (rest : List BpOut) : addsOf (o :: rest) = addsOf [o] ++ addsOf rest := by
  cases o <;> rfl

theorem applyBp_cases (bps : List (Option Int)) (c : BpCmd) :
    (addsOf [(applyBp bps c).1] = [] ∧ (applyBp bps c).2.length = bps.length ∧
      ∀ i x, SlotIs bps i x → SlotIs (applyBp bps c).2 i x) ∨
    ∃ a, applyBp bps c = (.added bps.length a, bps ++ [some a]) := by
  cases c with
  | del k =>
    refine Or.inl ⟨(delBp_cases bps k).1, ?_⟩
    show (delBp bps k).2.length = _ ∧ ∀ i x, SlotIs bps i x → SlotIs (delBp bps k).2 i x
    rcases (delBp_cases bps k).2 with h | ⟨a, hk, h⟩ <;> rw [h]
    · exact ⟨rfl, fun _ _ hx => hx⟩
    · refine ⟨List.length_set, fun i x hx => ?_⟩
      unfold SlotIs at *
      rw [List.getElem?_set]
      by_cases e : k.toNat = i
      · subst e
        simp [(List.getElem?_eq_some_iff.1 hk).1]
      · simpa [e] using hx
  | add a =>
    simp only [applyBp, addBp]
    split_ifs
    · exact Or.inl ⟨rfl, rfl, fun _ _ h => h⟩
    · exact Or.inr ⟨a, rfl⟩

theorem SlotIs.lt_length {bps : List (Option Int)} {i : Nat} {x : Option Int} (h : SlotIs bps i x) :
    i < bps.length := by
  rcases h with h | h <;> exact (List.getElem?_eq_some_iff.1 h).1

theorem runBps_inv : ∀ (h : List BpCmd) (bps0 : List (Option Int)), ActiveNodup bps0 →
    let r := runBps bps0 h
    ActiveNodup r.2 ∧
    r.2.length = bps0.length + (addsOf r.1).length ∧
    (∀ j (hj : j < (addsOf r.1).length), ((addsOf r.1)[j]).1 = bps0.length + j) ∧
    (∀ i x, SlotIs bps0 i x → SlotIs r.2 i x) ∧
    (∀ j (hj : j < (addsOf r.1).length), SlotIs r.2 (bps0.length + j) (some ((addsOf r.1)[j]).2)) := by
  intro h
  induction h with
  | nil =>
    intro bps0 hn
    exact ⟨hn, rfl, fun j hj => absurd hj (by simp [runBps, addsOf]), fun i x hx => hx,
      fun j hj => absurd hj (by simp [runBps, addsOf])⟩
  | cons c rest ih =>
    intro bps0 hn
    obtain ⟨i1, i2, i3, i4, i5⟩ := ih (applyBp bps0 c).2 (applyBp_nodup bps0 c hn)
    rcases applyBp_cases bps0 c with ⟨e1, e2, e3⟩ | ⟨a, e⟩
    · simp only [runBps, addsOf_cons _ (runBps _ rest).1, e1, List.nil_append]
      rw [e2] at i2 i3 i5
      exact ⟨i1, i2, i3, fun i x hx => i4 i x (e3 i x hx), i5⟩
    · simp only [e] at i1 i2 i3 i4 i5
      simp only [runBps, e, addsOf, List.length_append, List.length_cons, List.length_nil, Nat.zero_add] at i2 i3 i5 ⊢
      refine ⟨i1, by omega, fun j hj => ?_, fun i x hx => ?_, fun j hj => ?_⟩
      · cases j with
        | zero => rfl
        | succ j =>
          have := i3 j (by omega)
          simp only [List.getElem_cons_succ]
          omega
      · apply i4
        have hl := hx.lt_length
        unfold SlotIs at hx ⊢
        rwa [List.getElem?_append_left hl]
      · cases j with
        | zero => exact i4 _ _ (Or.inl (by simp))
        | succ j =>
          have := i5 j (by omega)
          rwa [show bps0.length + (j + 1) = bps0.length + 1 + j by omega]

theorem activeNodup_nil : ActiveNodup [] := by
  unfold ActiveNodup
  intro i j a hi; simp at hi

end Py65.Model.MonRun
