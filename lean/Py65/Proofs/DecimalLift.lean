/-
Decimal-mode ADC / SBC.  The decimal branch of the generated `opADC` / `opSBC`, through any operand
fetch and on any state, is digit arithmetic on (A, M, C) (`adcDigits`, `sbcDigits`); on bytes that
arithmetic is Bruce Clark's NMOS sequence (`Spec.Decimal`); hence the kernel theorems of C04 and their
lifting to every addressing mode.
-/
import Py65.Proofs.OpsArith
import Py65.Proofs.DecimalKernel
namespace Py65.Proofs
open Py65 Py65.Gen Py65.Spec Py Py65.Proofs.Dec Py65.Spec.Decimal

/-- status register with C, Z, V, N replaced by a decimal-mode result -/
def decP (p : Int) (r : Res) : Int :=
  setFlag (setFlag (setFlag (setFlag p 0 r.c) 1 r.z) 6 r.v) 7 r.n

/-- the same, reading C Z V N from another status byte -/
def copyCZVN (p q : Int) : Int :=
  setFlag (setFlag (setFlag (setFlag p 0 (flag q 0)) 1 (flag q 1)) 6 (flag q 6)) 7 (flag q 7)

theorem copyCZVN_decP (p q : Int) (r : Res) : copyCZVN p (decP q r) = decP p r := by
  simp only [copyCZVN, decP, flagalg]

theorem k81 : (8 : Int) + 1 = 9 := rfl
theorem dflag0 (x : Int) : decide (x % 2 = 1) = flag x 0 := by simp [flag, eqB]
theorem dflag1 (x : Int) : decide (x / 2 % 2 = 1) = flag x 1 := by simp [flag, eqB]
theorem dflag6 (x : Int) : decide (x / 64 % 2 = 1) = flag x 6 := by simp [flag, eqB]
theorem dflag7 (x : Int) : decide (x / 128 % 2 = 1) = flag x 7 := by simp [flag, eqB]

theorem flagsOf_decP {t : St} {q : Int} {r : Res} (ha : t.a = r.a) (hp : t.p = decP q r) :
    flagsOf t = r := by
  simp only [flagsOf, ha, hp]
  rw [dflag0, dflag1, dflag6, dflag7]
  simp only [decP, flagalg]

/-- `opADC` with D set: the digit sums `n0`, `n1` (with half carry), each corrected by 6 when above
9; Z, N and V are taken from the uncorrected `alu`. -/
def adcDigits (a m : Int) (c : Bool) : Res :=
  let n0 := m % 16 + a % 16 + (if c then 1 else 0)
  let n1 := m / 16 % 16 + a / 16 % 16 + (if n0 > 9 then 1 else 0)
  let alu := n1 % 16 * 16 + n0 % 16
  { a := (n1 % 16 + if n1 > 9 then 6 else 0) % 16 * 16 + (n0 % 16 + if n0 > 9 then 6 else 0) % 16,
    c := decide (n1 > 9),
    z := decide (alu = 0),
    n := flag alu 7,
    v := decide (a / 128 % 2 = m / 128 % 2 ∧ a / 128 % 2 ≠ alu / 128 % 2) }

/-- `opSBC` with D set: the binary difference `alu` (a sum with the complemented operand) gives all
four flags; a digit is corrected by 10 where its own sum `n0`, `n1` produced no carry. -/
def sbcDigits (a m : Int) (c : Bool) : Res :=
  let ci : Int := if c then 1 else 0
  let n0 := a % 16 + (-m - 1) % 16 + ci
  let n1 := a / 16 % 16 + (-m - 1) / 16 % 16 + (if n0 ≤ 15 then 0 else 1)
  let sum := a + (-m - 1) % 256 + ci
  let alu := sum % 256
  { a := (alu + if n1 ≤ 15 then 160 else 0) / 16 % 16 * 16 + (alu + if n0 ≤ 15 then 10 else 0) % 16,
    c := decide (sum > 255),
    z := decide (alu = 0),
    n := flag alu 7,
    v := decide (a / 128 % 2 ≠ m / 128 % 2 ∧ a / 128 % 2 ≠ alu / 128 % 2) }

/- The status register is updated by conditional statements (`if … : p |= FLAG`).  Pushing each
condition into the flag value, instead of splitting on it, leaves a single `setFlag` chain. -/
theorem ite_setFlag (c : Prop) [Decidable c] (p q : Int) (k : Nat) (b d : Bool) :
    (if c then setFlag p k b else setFlag q k d) =
      setFlag (if c then p else q) k (if c then b else d) := by
  split <;> rfl

theorem ite_one_zero_eq_one (c : Prop) [Decidable c] : ((if c then (1 : Int) else 0) = 1) = c := by
  split <;> simp [*]

/-- `p |= v & NEGATIVE` is skipped when `v = 0`, where it would change nothing. -/
theorem ite_zero_flag (v : Int) (k : Nat) : (if v = 0 then false else flag v k) = flag v k := by
  split
  · subst v; simp [flag, eqB]
  · rfl

/-- `ovf_test` / `sbc_ovf_test` at the sign bit of a byte, in the literal form the 8-bit code has. -/
theorem ovf_test8 (a d r : Int) :
    (land (land (lnot (lxor a d)) (lxor a r)) 128 = 0) =
      ¬ (a / 128 % 2 = d / 128 % 2 ∧ a / 128 % 2 ≠ r / 128 % 2) := ovf_test a d r 7
theorem sbc_ovf_test8 (a d r : Int) :
    (land (land (lxor a d) (lxor a r)) 128 = 0) =
      ¬ (a / 128 % 2 ≠ d / 128 % 2 ∧ a / 128 % 2 ≠ r / 128 % 2) := sbc_ovf_test a d r 7

/-- Decimal ADC through any operand fetch `x` that returns address `e` and leaves the registers
alone: A and C Z V N from `adcDigits`, nothing else changes.  No bounds are needed. -/
theorem opADC_dec_core (x : St → Int × St) (s : St) (e : Int)
    (hv : (x s).1 = e) (hx : core (x s).2 = core s) (hD : flag s.p bitD = true) :
    core (Mpu6502.opADC dev6502.cfg x s) =
      { core s with a := (adcDigits s.a (s.mem e) (flag s.p bitC)).a,
                    p := decP s.p (adcDigits s.a (s.mem e) (flag s.p bitC)) } := by
  obtain ⟨ha', hxx, hy, hsp, hp', hpc, hmem, hw⟩ := core_fields hx
  have hd : ¬ land s.p 8 = 0 := by
    simp only [land8_zero, show flag s.p 3 = true from hD, Bool.true_eq_false, not_false_eq_true]
  simp +instances only [Mpu6502.opADC, core, Mpu6502.ByteAt, memGet, hp', ha', hmem, hv, hxx, hy,
    hsp, hpc, hw, pyconst, hd, ne_eq, if_true, not_false_eq_true, ite_self,
    apply_ite Prod.fst, apply_ite Prod.snd, apply_ite St.a, apply_ite St.x, apply_ite St.y,
    apply_ite St.sp, apply_ite St.p, apply_ite St.pc, apply_ite St.mem, apply_ite St.waiting]
  -- the overflow test first: `flagalg` would read its `& NEGATIVE` as a flag idiom
  simp only [ovf_test8]
  simp only [flagalg, ite_setFlag, ite_self, Bool.false_or, ite_zero_flag, ite_one_zero_eq_one,
    Bool.if_true_left, Bool.or_false, Classical.not_not]
  simp only [pyarith, Int.reducePow, bitC, adcDigits, decP]
  rfl

theorem opSBC_dec_core (x : St → Int × St) (s : St) (e : Int)
    (hv : (x s).1 = e) (hx : core (x s).2 = core s) (hD : flag s.p bitD = true) :
    core (Mpu6502.opSBC dev6502.cfg x s) =
      { core s with a := (sbcDigits s.a (s.mem e) (flag s.p bitC)).a,
                    p := decP s.p (sbcDigits s.a (s.mem e) (flag s.p bitC)) } := by
  obtain ⟨ha', hxx, hy, hsp, hp', hpc, hmem, hw⟩ := core_fields hx
  have hd : ¬ land s.p 8 = 0 := by
    simp only [land8_zero, show flag s.p 3 = true from hD, Bool.true_eq_false, not_false_eq_true]
  simp +instances only [Mpu6502.opSBC, core, Mpu6502.ByteAt, memGet, hp', ha', hmem, hv, hxx, hy,
    hsp, hpc, hw, pyconst, hd, ne_eq, if_true, not_false_eq_true, ite_self,
    apply_ite Prod.fst, apply_ite Prod.snd, apply_ite St.a, apply_ite St.x, apply_ite St.y,
    apply_ite St.sp, apply_ite St.p, apply_ite St.pc, apply_ite St.mem, apply_ite St.waiting]
  -- the overflow test first: `flagalg` would read its `& NEGATIVE` as a flag idiom
  simp only [sbc_ovf_test8]
  simp only [flagalg, ite_setFlag, ite_self, Bool.false_or, ite_zero_flag, ite_one_zero_eq_one,
    Bool.if_true_left, Bool.or_false, Classical.not_not]
  simp only [pyarith, Py.lnot, Int.reducePow, Int.reduceMul, bitC, sbcDigits, decP]
  rfl

/-- Bit 7 of a byte given by its two digits is bit 3 of the high digit. -/
theorem bit7_digits (x y : Int) : (x % 16 * 16 + y % 16) / 128 % 2 = x % 16 / 8 := by omega

theorem s8_byte (x : Int) (h : 0 ≤ x ∧ x ≤ 255) : s8 x = x - 256 * (x / 128) := by
  unfold s8; split <;> omega

/-- Signed overflow of a byte sum from the operands' sign bits `sa`, `sb`: `u` is the unsigned sum
(with carry), `u - 256 (sa + sb)` the signed one, bit 7 of `u` the sign of the result.  SBC is the
case of the complemented operand. -/
theorem ovf_bits (sa sb u : Int) (hsa : sa = 0 ∨ sa = 1) (hsb : sb = 0 ∨ sb = 1)
    (hu : 128 * (sa + sb) ≤ u ∧ u < 128 * (sa + sb) + 256) :
    (sa = sb ∧ sa ≠ u % 256 / 128) ↔ (u - 256 * (sa + sb) < -128 ∨ u - 256 * (sa + sb) > 127) := by
  rcases hsa with rfl | rfl <;> rcases hsb with rfl | rfl <;> omega

/-- Clark's corrected low digit sum is the device's low digit with the decimal carry above it. -/
theorem adc_low (n0 : Int) (h : 0 ≤ n0 ∧ n0 ≤ 31) :
    (if n0 ≥ 10 then (n0 + 6) % 16 + 16 else n0) =
      16 * (if n0 > 9 then 1 else 0) + (n0 % 16 + if n0 > 9 then 6 else 0) % 16 := by
  split_ifs <;> omega

theorem adcDigits_eq (a m : Int) (ha : 0 ≤ a ∧ a ≤ 255) (hm : 0 ≤ m ∧ m ≤ 255) (c : Bool) :
    adcDigits a m c = adcNmos a m c := by
  have hci : (if c then (1 : Int) else 0) = 0 ∨ (if c then (1 : Int) else 0) = 1 := by
    cases c <;> simp
  simp only [adcDigits, adcNmos, flag, eqB, Res.mk.injEq, decide_eq_decide, Int.reducePow]
  generalize (if c then (1 : Int) else 0) = ci at *
  -- both sides are functions of the two high digits and the low digit sum `n0` only
  have e0 : a % 16 + m % 16 + ci = m % 16 + a % 16 + ci := by omega
  have ez : a + m + ci = 16 * (m / 16 + a / 16) + (m % 16 + a % 16 + ci) := by omega
  have ea7 : a / 128 = a / 16 / 8 := by omega
  have em7 : m / 128 = m / 16 / 8 := by omega
  have hn0 : 0 ≤ m % 16 + a % 16 + ci ∧ m % 16 + a % 16 + ci ≤ 31 := by omega
  have hah : 0 ≤ a / 16 ∧ a / 16 < 16 := by omega
  have hmh : 0 ≤ m / 16 ∧ m / 16 < 16 := by omega
  rw [e0, ez, ea7, em7, Int.emod_eq_of_lt hah.1 hah.2, Int.emod_eq_of_lt hmh.1 hmh.2]
  simp only [bit7_digits]
  generalize m % 16 + a % 16 + ci = n0 at hn0 ⊢
  generalize a / 16 = ah at hah ⊢
  generalize m / 16 = mh at hmh ⊢
  clear e0 ez ea7 em7 ha hm hci
  -- of `n0` the high digits see the decimal carry `k` only, Clark's as the device's
  rw [s8_byte (ah * 16) (by omega), s8_byte (mh * 16) (by omega), adc_low n0 hn0]
  have hlo : 0 ≤ (n0 % 16 + if n0 > 9 then 6 else 0) % 16 ∧ (n0 % 16 + if n0 > 9 then 6 else 0) % 16 < 16 := by
    omega
  generalize (n0 % 16 + if n0 > 9 then 6 else 0) % 16 = lo at hlo ⊢
  have hk : (if n0 > 9 then (1 : Int) else 0) = 0 ∧ n0 ≤ 9 ∨ (if n0 > 9 then (1 : Int) else 0) = 1 ∧ n0 > 9 := by
    split_ifs <;> omega
  generalize (if n0 > 9 then (1 : Int) else 0) = k at hk ⊢
  -- Clark's test `r0 ≥ 160` is the device's `n1 > 9` because `lo < 16`
  refine ⟨?_, ?_, by omega, ?_, by omega⟩
  · split_ifs <;> omega
  · split_ifs <;> omega
  · have e1 : ah / 8 % 2 = ah / 8 := by omega
    have e2 : mh / 8 % 2 = mh / 8 := by omega
    have e3 : (mh + ah + k) % 16 / 8 = (16 * (mh + ah + k) + lo) % 256 / 128 := by omega
    have e4 : ah * 16 - 256 * (ah * 16 / 128) + (mh * 16 - 256 * (mh * 16 / 128)) + (16 * k + lo) =
        16 * (mh + ah + k) + lo - 256 * (ah / 8 + mh / 8) := by omega
    rw [e1, e2, e3, e4]
    exact ovf_bits _ _ _ (by omega) (by omega) (by omega)

theorem sbcDigits_eq (a m : Int) (ha : 0 ≤ a ∧ a ≤ 255) (hm : 0 ≤ m ∧ m ≤ 255) (c : Bool) :
    sbcDigits a m c = sbcNmos a m c := by
  have hci : (if c then (1 : Int) else 0) = 0 ∨ (if c then (1 : Int) else 0) = 1 := by
    cases c <;> simp
  have hbi : (if c then (0 : Int) else 1) = 1 - (if c then 1 else 0) := by cases c <;> rfl
  simp only [sbcDigits, sbcNmos, flag, eqB, Res.mk.injEq, decide_eq_decide, Int.reducePow, hbi,
    s8_byte a ha, s8_byte m hm]
  generalize (if c then (1 : Int) else 0) = ci at *
  -- both sides are functions of the two high digits and the low digit difference `d0` only;
  -- the device's `n0` (a sum with the complemented digit) is `d0 + 16`
  have e0 : a % 16 + (-m - 1) % 16 + ci = (a % 16 - m % 16 - (1 - ci)) + 16 := by omega
  have e1 : (-m - 1) / 16 % 16 = 15 - m / 16 := by omega
  have es : a + (-m - 1) % 256 + ci =
      16 * (a / 16 - m / 16) + (a % 16 - m % 16 - (1 - ci)) + 256 := by omega
  have ed : a - m - (1 - ci) = 16 * (a / 16 - m / 16) + (a % 16 - m % 16 - (1 - ci)) := by omega
  have esd : a - 256 * (a / 128) - (m - 256 * (m / 128)) - (1 - ci) =
      16 * (a / 16 - m / 16) + (a % 16 - m % 16 - (1 - ci)) - 256 * (a / 16 / 8 - m / 16 / 8) := by
    omega
  have ea7 : a / 128 = a / 16 / 8 := by omega
  have em7 : m / 128 = m / 16 / 8 := by omega
  have hd0 : -16 ≤ a % 16 - m % 16 - (1 - ci) ∧ a % 16 - m % 16 - (1 - ci) ≤ 15 := by omega
  have hah : 0 ≤ a / 16 ∧ a / 16 < 16 := by omega
  have hmh : 0 ≤ m / 16 ∧ m / 16 < 16 := by omega
  rw [e0, e1, es, ed, esd, ea7, em7, Int.emod_eq_of_lt hah.1 hah.2]
  generalize a % 16 - m % 16 - (1 - ci) = d0 at hd0 ⊢
  generalize a / 16 = ah at hah ⊢
  generalize m / 16 = mh at hmh ⊢
  clear e0 e1 es ed esd ea7 em7 ha hm hci hbi
  refine ⟨?_, by omega, by omega, ?_, by omega⟩
  · split_ifs <;> omega
  · -- subtracting `m` is adding its complement, whose sign bit is the opposite one
    have e1 : ah / 8 % 2 = ah / 8 := by omega
    have e2 : (ah / 8 ≠ mh / 8 % 2) = (ah / 8 = 1 - mh / 8) := by
      apply propext; omega
    have e3 : (16 * (ah - mh) + d0 + 256) % 256 / 128 % 2 = (16 * (ah - mh) + d0 + 256) % 256 / 128 := by omega
    have e4 : 16 * (ah - mh) + d0 - 256 * (ah / 8 - mh / 8) =
        16 * (ah - mh) + d0 + 256 - 256 * (ah / 8 + (1 - mh / 8)) := by omega
    rw [e1, e2, e3, e4]
    exact ovf_bits _ _ _ (by omega) (by omega) (by omega)

theorem st_D (a m : Int) (c : Bool) : flag (st a m c).p bitD = true := by cases c <;> rfl
theorem st_C (a m : Int) (c : Bool) : flag (st a m c).p bitC = c := by cases c <;> rfl

theorem opADC_st (a m : Int) (c : Bool) :
    (Mpu6502.opADC dev6502.cfg rd (st a m c)).a = (adcDigits a m c).a ∧
    (Mpu6502.opADC dev6502.cfg rd (st a m c)).p = decP (st a m c).p (adcDigits a m c) := by
  have h := core_eq (opADC_dec_core rd (st a m c) 0 rfl rfl (st_D a m c))
  rw [st_C] at h
  exact ⟨h.1, h.2.2.2.2.1⟩

theorem opSBC_st (a m : Int) (c : Bool) :
    (Mpu6502.opSBC dev6502.cfg rd (st a m c)).a = (sbcDigits a m c).a ∧
    (Mpu6502.opSBC dev6502.cfg rd (st a m c)).p = decP (st a m c).p (sbcDigits a m c) := by
  have h := core_eq (opSBC_dec_core rd (st a m c) 0 rfl rfl (st_D a m c))
  rw [st_C] at h
  exact ⟨h.1, h.2.2.2.2.1⟩

theorem pyAdc_digits (a m : Int) (c : Bool) : pyAdc a m c = adcDigits a m c :=
  flagsOf_decP (opADC_st a m c).1 (opADC_st a m c).2

theorem pySbc_digits (a m : Int) (c : Bool) : pySbc a m c = sbcDigits a m c :=
  flagsOf_decP (opSBC_st a m c).1 (opSBC_st a m c).2

/-- The generated decimal ADC on the kernel state is Clark's NMOS sequence, for all bytes. -/
theorem pyAdc_clark (a m : Int) (ha : 0 ≤ a ∧ a ≤ 255) (hm : 0 ≤ m ∧ m ≤ 255) (c : Bool) :
    pyAdc a m c = adcNmos a m c :=
  (pyAdc_digits a m c).trans (adcDigits_eq a m ha hm c)

theorem pySbc_clark (a m : Int) (ha : 0 ≤ a ∧ a ≤ 255) (hm : 0 ≤ m ∧ m ≤ 255) (c : Bool) :
    pySbc a m c = sbcNmos a m c :=
  (pySbc_digits a m c).trans (sbcDigits_eq a m ha hm c)

theorem opADC_decimal (x : St → Int × St) (mo : Mode) (hx : ModeSem dev6502.cfg x mo)
    (s : St) (hs : WF dev6502.cfg s) (hD : flag s.p bitD = true) :
    core (Mpu6502.opADC dev6502.cfg x s) =
      { core s with
        a := (Mpu6502.opADC dev6502.cfg rd (st s.a (s.mem (ea 8 mo (core s))) (flag s.p bitC))).a,
        p := copyCZVN s.p (Mpu6502.opADC dev6502.cfg rd (st s.a (s.mem (ea 8 mo (core s))) (flag s.p bitC))).p } := by
  obtain ⟨hv, hcore⟩ := hx s hs
  rw [opADC_dec_core x s _ hv hcore hD, (opADC_st _ _ _).1, (opADC_st _ _ _).2, copyCZVN_decP]
  rfl

theorem opSBC_decimal (x : St → Int × St) (mo : Mode) (hx : ModeSem dev6502.cfg x mo)
    (s : St) (hs : WF dev6502.cfg s) (hD : flag s.p bitD = true) :
    core (Mpu6502.opSBC dev6502.cfg x s) =
      { core s with
        a := (Mpu6502.opSBC dev6502.cfg rd (st s.a (s.mem (ea 8 mo (core s))) (flag s.p bitC))).a,
        p := copyCZVN s.p (Mpu6502.opSBC dev6502.cfg rd (st s.a (s.mem (ea 8 mo (core s))) (flag s.p bitC))).p } := by
  obtain ⟨hv, hcore⟩ := hx s hs
  rw [opSBC_dec_core x s _ hv hcore hD, (opSBC_st _ _ _).1, (opSBC_st _ _ _).2, copyCZVN_decP]
  rfl

/-- What a decimal-mode ADC/SBC instruction does to the abstract state, given the (A, M, C) ↦ result
function `f`: A and the C Z V N flags from `f`, every other register, flag and memory cell unchanged,
PC at the next instruction. -/
def decExec (f : Int → Int → Bool → Res) (mo : Mode) (s : AState) : AState :=
  let r := f s.a (s.mem (ea 8 mo s)) (flag s.p bitC)
  { s with a := r.a, p := decP s.p r, pc := nextPc 8 mo s }

theorem normP_decP (p : Int) (r : Res) : normP (decP p r) = decP (normP p) r := by
  simp only [decP]
  rw [normP_setFlag _ _ _ (by decide), normP_setFlag _ _ _ (by decide), normP_setFlag _ _ _ (by decide),
    normP_setFlag _ _ _ (by decide)]

/-- From "A and C Z V N by `f`, nothing else" on the stored state to `decExec f` on the abstract
state, for whatever produced `t`. -/
theorem decExec_of_core {t s : St} {mo : Mode} {f : Int → Int → Bool → Res}
    (h : core t =
      { core s with a := (f s.a (s.mem (ea 8 mo (core s))) (flag s.p bitC)).a,
                    p := decP s.p (f s.a (s.mem (ea 8 mo (core s))) (flag s.p bitC)) }) :
    absH dev6502.cfg (bump (mo.len - 1) t) = decExec f mo (abs s) := by
  obtain ⟨ha, hxx, hy, hsp, hp, hpc, hmem, hw⟩ := core_eq h
  simp only [decExec, ea_abs, nextPc_abs]
  simp only [absH, abs, bump, core, nextPc, ha, hxx, hy, hsp, hp, hpc, hmem, hw, normP_decP,
    flag_normP _ _ (by decide : bitC ∈ [0, 1, 2, 3, 6, 7, 14, 15])]
  rfl

theorem adc_decimal_handler (x : St → Int × St) (mo : Mode) (hx : ModeSem dev6502.cfg x mo)
    (s : St) (hs : WF dev6502.cfg s) (hD : flag s.p bitD = true) :
    absH dev6502.cfg (bump (mo.len - 1) (Mpu6502.opADC dev6502.cfg x s)) = decExec pyAdc mo (abs s) := by
  obtain ⟨hv, hcore⟩ := hx s hs
  rw [show pyAdc = adcDigits from funext fun a => funext fun m => funext (pyAdc_digits a m)]
  exact decExec_of_core (opADC_dec_core x s _ hv hcore hD)

theorem sbc_decimal_handler (x : St → Int × St) (mo : Mode) (hx : ModeSem dev6502.cfg x mo)
    (s : St) (hs : WF dev6502.cfg s) (hD : flag s.p bitD = true) :
    absH dev6502.cfg (bump (mo.len - 1) (Mpu6502.opSBC dev6502.cfg x s)) = decExec pySbc mo (abs s) := by
  obtain ⟨hv, hcore⟩ := hx s hs
  rw [show pySbc = sbcDigits from funext fun a => funext fun m => funext (pySbc_digits a m)]
  exact decExec_of_core (opSBC_dec_core x s _ hv hcore hD)
end Py65.Proofs
