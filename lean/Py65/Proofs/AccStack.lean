/-
Aspect *access log*: stack instructions, jumps, returns and BRK of the NMOS part, each unfolded whole
and compared with `Spec.instrAccesses`.
-/
import Py65.Proofs.AccSpecial
set_option linter.unusedSimpArgs false
namespace Py65.Proofs
open Py65 Py65.Gen Py65.Spec Py

set_option hygiene false in
/-- a handler whose accesses are exactly the specification's list, in order -/
macro "exact_acc" "[" ls:Lean.Parser.Tactic.simpLemma,* "]" : tactic =>
  `(tactic| (
    intro s hs
    refine ⟨_, ?_, List.Perm.refl _⟩
    have hsp := hs.sp; have hpc := hs.pc; have hx := hs.x
    have hm0 := hs.mem s.pc; have hm1 := hs.mem ((s.pc + 1) % AM c.BYTE_WIDTH)
    inst_acl [$ls,*]
    rcases hc with rfl | rfl <;>
    · simp [instrAccesses, fetched, dataAccesses, operandAddrs, Mode.len, stackAddr, core, irqVector,
        opnd16, opnd1, opnd2, AM, BM, pyarith] at hsp hpc hx hm0 hm1 ⊢
      try omega))

theorem a_48 (c : Cfg) (hc : IsDev c) (v : Variant) : HandlerAcc c v (Mpu6502.inst_0x48 c) .PHA .imp := by
  exact_acc [Mpu6502.inst_0x48]
theorem a_08 (c : Cfg) (hc : IsDev c) (v : Variant) : HandlerAcc c v (Mpu6502.inst_0x08 c) .PHP .imp := by
  exact_acc [Mpu6502.inst_0x08]
theorem a_68 (c : Cfg) (hc : IsDev c) (v : Variant) : HandlerAcc c v (Mpu6502.inst_0x68 c) .PLA .imp := by
  exact_acc [Mpu6502.inst_0x68]
theorem a_28 (c : Cfg) (hc : IsDev c) (v : Variant) : HandlerAcc c v (Mpu6502.inst_0x28 c) .PLP .imp := by
  exact_acc [Mpu6502.inst_0x28]
theorem a_4c (c : Cfg) (hc : IsDev c) (v : Variant) : HandlerAcc c v (Mpu6502.inst_0x4c c) .JMP .abs := by
  exact_acc [Mpu6502.inst_0x4c]
theorem a_60 (c : Cfg) (hc : IsDev c) (v : Variant) : HandlerAcc c v (Mpu6502.inst_0x60 c) .RTS .imp := by
  exact_acc [Mpu6502.inst_0x60]
theorem a_40 (c : Cfg) (hc : IsDev c) (v : Variant) : HandlerAcc c v (Mpu6502.inst_0x40 c) .RTI .imp := by
  exact_acc [Mpu6502.inst_0x40]
theorem a_00 (c : Cfg) (hc : IsDev c) (v : Variant) : HandlerAcc c v (Mpu6502.inst_0x00 c) .BRK .imp := by
  exact_acc [Mpu6502.inst_0x00]

/-- JSR pushes the return address before it fetches its operand: same multiset, other order. -/
theorem a_20 (c : Cfg) (hc : IsDev c) (v : Variant) : HandlerAcc c v (Mpu6502.inst_0x20 c) .JSR .abs := by
  intro s hs
  refine ⟨dataAccesses c.BYTE_WIDTH v .JSR .abs (core s) ++ (fetched c.BYTE_WIDTH .JSR .abs (core s)).map Acc.r,
    ?_, List.perm_append_comm⟩
  have hsp := hs.sp; have hpc := hs.pc
  inst_acl [Mpu6502.inst_0x20]
  rcases hc with rfl | rfl <;>
  · simp [fetched, dataAccesses, operandAddrs, Mode.len, stackAddr, core, AM, BM, pyarith] at hsp hpc ⊢
    try omega

/-- JMP (ind), NMOS: the pointer's high byte comes from the same page. -/
theorem a_6c (c : Cfg) (hc : IsDev c) : HandlerAcc c .nmos (Mpu6502.inst_0x6c c) .JMP .ind := by
  intro s hs
  refine ⟨_, ?_, List.Perm.refl _⟩
  have hm0 := hs.mem s.pc; have hm1 := hs.mem ((s.pc + 1) % AM c.BYTE_WIDTH)
  inst_acl [Mpu6502.inst_0x6c]
  rcases hc with rfl | rfl <;>
  · simp [instrAccesses, fetched, dataAccesses, operandAddrs, Mode.len, core,
      opnd16, opnd1, opnd2, AM, BM, pyarith] at hm0 hm1 ⊢
    try omega
end Py65.Proofs
