/-
Vocabulary and the core induction of `Props/C09h.lean` ("the listing follows the execution"):
`Listing` (what `disassemble start:end` lists, with the generated `instruction_at`), `Straight` (a declared
opcode that falls through), `Running`, and `follow_core`: as long as the listed instructions - all but the
last - are straight-line and their opcode cells still hold what the listing saw, the `k`-th listed address
is the PC of the generated device after `k` steps.
-/
import Py65.Proofs.Compose2Dis
import Py65.Proofs.Compose2Walk

namespace Py65.Proofs.Compose2
open Py65 Py65.Gen Py65.Spec Py65.Proofs Py65.Proofs.Hist
open Py65.Model.PyStr Py65.Model.AddrParser Py65.Model.Show Py65.Model.GenRt
open Py65.Proofs.DisasmGenEq Py65.Gen.DisasmGen
open Py65.Props.C09 (isControl)

/-- A straight-line opcode byte of the device: declared, not a control transfer (branch, JMP, JSR, RTS,
RTI, BRK) and not WAI (65C02: the device stops executing). -/
def Straight (d : Dev) (op : Int) : Prop :=
  ∃ mn mo, decode d.variant op = some (mn, mo) ∧ isControl mn = false ∧ mn ≠ .WAI

def straightB (d : Dev) (op : Int) : Bool :=
  match decode d.variant op with
  | some (mn, _) => !(isControl mn) && notWai mn
  | none => false

theorem straight_of_check {d : Dev} {op : Int} (h : straightB d op = true) : Straight d op := by
  unfold straightB at h
  cases hd : decode d.variant op with
  | none => rw [hd] at h; cases h
  | some r =>
    obtain ⟨mn, mo⟩ := r
    rw [hd] at h
    simp only [Bool.and_eq_true, Bool.not_eq_true'] at h
    refine ⟨mn, mo, hd, h.1, ?_⟩
    rintro rfl
    exact Bool.noConfusion h.2

/-- The highest address: `2 ** ADDR_WIDTH - 1` (`max_address` of `do_disassemble`). -/
def topAddr (d : Dev) : Int := 2 ^ (2 * d.W) - 1

theorem topAddr_succ (d : Dev) : topAddr d + 1 = AM d.W := by simp [topAddr, AM]

/-- The GENERATED `Disassembler.instruction_at` of the device class, parser `P`, over the memory `m`. -/
def iat (d : Dev) (P : Parser) (m : Int → Int) : Int → Except PyErr (Int × Str) :=
  (disOf (asmDev d) P m).instruction_at

/-- `disassemble start:end` over the memory `m` lists exactly `vs = [(address, length, text), ...]`
(the walk of `do_disassemble`, `Model.Show.Visits`, with the generated `instruction_at`). -/
def Listing (d : Dev) (P : Parser) (m : Int → Int) (start end_ : Int) (vs : List (Int × Int × Str)) : Prop :=
  Visits (iat d P m) (topAddr d) start end_ start (decide (start > end_)) vs

theorem listing_of_check {d : Dev} {P : Parser} {m : Int → Int} {start end_ : Int} {vs : List (Int × Int × Str)}
    (fuel : Nat)
    (h : visitList (iat d P m) (topAddr d) start end_ fuel start (decide (start > end_)) = some vs) :
    Listing d P m start end_ vs := visitList_sound _ _ _ _ fuel _ _ _ h

/-- A well-formed generated device that is executing instructions (not halted by WAI). -/
def Running (d : Dev) (s : St) : Prop := Inv d s ∧ s.waiting = false

theorem Running.pc_range {d : Dev} {s : St} (h : Running d s) : 0 ≤ s.pc ∧ s.pc ≤ topAddr d := by
  have := h.1.1.pc
  rw [Dev.addrMask_eq] at this
  exact this

theorem len_le_top (d : Dev) (mo : Mode) : mo.len ≤ topAddr d + 1 := by
  have := (len_range mo).2
  have : (3 : Int) ≤ AM d.W := by rcases d.hW with h | h <;> (rw [h]; decide)
  rw [topAddr_succ]; omega

/-- One listed straight-line instruction whose opcode cell still holds what the listing saw: a step from
its address ends at address + listed length (modulo the address space), still running. -/
theorem at_listed (d : Dev) (P : Parser) (m0 : Int → Int) (a len : Int) (text : Str) (s : St)
    (hr : Running d s) (hpc : s.pc = a) (hi : iat d P m0 a = .ok (len, text))
    (hst : Straight d (m0 a)) (hfx : s.mem a = m0 a) :
    1 ≤ len ∧ len ≤ topAddr d + 1 ∧ (d.step s).pc = (a + len) % (topAddr d + 1) ∧
      Running d (d.step s) := by
  obtain ⟨mn, mo, hdec, hnc, hnw⟩ := hst
  have hrange := hr.pc_range
  rw [hpc] at hrange
  have hlen : len = mo.len :=
    listed_len (isDevice d) P m0 a hrange.1 (by have := hrange.2; simp only [topAddr] at this; omega) hi hdec
  have hdec' : decode d.variant (s.mem s.pc) = some (mn, mo) := by rw [hpc, hfx]; exact hdec
  obtain ⟨h1, h2⟩ := step_straight d s hr.1 hr.2 mn mo hdec' hnc
  have hop := decode_lt hdec'
  refine ⟨by rw [hlen]; exact (len_range mo).1, by rw [hlen]; exact len_le_top d mo, ?_, ?_, h2 hnw⟩
  · rw [h1, hpc, hlen, topAddr_succ]
  · exact apply_inv d .step s hr.1 (fun _ => hop.2)

/-- The listed addresses of a listing of straight-line instructions that starts inside the address space lie
in the range `start:end` (`InRange`: `start … end`, or `start … top, 0 … end` for a wrapping range). -/
theorem listing_in_range (d : Dev) (P : Parser) (m : Int → Int) (start end_ : Int) (vs : List (Int × Int × Str))
    (h0 : 0 ≤ start) (h1 : start ≤ topAddr d) (he : end_ ≤ topAddr d) (hv : Listing d P m start end_ vs)
    (hst : ∀ v ∈ vs, Straight d (m v.1)) : ∀ v ∈ vs, InRange start end_ v.1 := by
  have hnn := Py65.Proofs.Show.visits_nonneg (iat d P m) (topAddr d) start end_ vs start _ h0 hv
  have hle := Py65.Proofs.Show.visits_le (iat d P m) (topAddr d) start end_ he vs start _
    (fun hw => ⟨hw, h1⟩) hv
  have hlen : ∀ v ∈ vs, v.2.1 ≤ topAddr d + 1 := by
    intro v hvm
    obtain ⟨mn, mo, hdec, _, _⟩ := hst v hvm
    have hi := visits_mem _ _ _ _ vs _ _ hv v hvm
    rw [listed_len (isDevice d) P m v.1 (hnn v hvm).1
      (by have := hle v hvm; simp only [topAddr] at this; omega) hi hdec]
    exact len_le_top d mo
  exact visits_in_range (iat d P m) (topAddr d) start end_ he vs start _ hv (Pos.start h0 h1) hlen

/-- The listing of `start:end` over the memory of `s0`, the device at `pc = start`;
every listed instruction except possibly the LAST is straight-line, and when the device gets to it its
opcode cell still holds the listed opcode.  Then the `k`-th listed address is the PC after `k` steps
(and the device is well-formed and running there), for every `k` below the number of listed instructions. -/
theorem follow_core (d : Dev) (P : Parser) (s0 : St) (start end_ : Int) (vs : List (Int × Int × Str))
    (hr : Running d s0) (hpc : s0.pc = start) (he : end_ ≤ topAddr d)
    (hv : Listing d P s0.mem start end_ vs)
    (hst : ∀ k (hk : k < vs.length), k + 1 < vs.length → Straight d (s0.mem (vs[k]).1))
    (hfx : ∀ k (hk : k < vs.length), k + 1 < vs.length → (d.step^[k] s0).mem (vs[k]).1 = s0.mem (vs[k]).1) :
    ∀ k (hk : k < vs.length), (d.step^[k] s0).pc = (vs[k]).1 ∧ Running d (d.step^[k] s0) := by
  have hrange := hr.pc_range
  rw [hpc] at hrange
  refine visits_follow (iat d P s0.mem) (topAddr d) start end_ he d.step St.pc (Running d) vs start _ s0 hv
    (Pos.start hrange.1 hrange.2) hpc hr ?_
  intro k hk hk1 hp hg
  have hi := visits_mem _ _ _ _ vs _ _ hv vs[k] (List.getElem_mem _)
  rw [Function.iterate_succ_apply']
  exact at_listed d P s0.mem _ _ _ _ hg hp hi (hst k hk hk1) (hfx k hk hk1)

end Py65.Proofs.Compose2
