/-
One `step()` of a generated device at a declared opcode, as the composition theorems of
`Props/C09h.lean` / `C17h.lean` need it: at an opcode that does not transfer control, in ANY arithmetic
mode, PC ends exactly one documented instruction length further on (`step_straight`); and `d.step^[n]`
(what `Monitor._run` does, C17) is the history of `n` `step()` calls (`iter_eq_run`; `Hist.run` is what
C05h / C13h are about).
-/
import Py65.Props.C09
import Py65.Proofs.HistPairing
import Py65.Proofs.Compose2ArithSteps

namespace Py65.Proofs.Compose2
open Py65 Py65.Gen Py65.Spec Py65.Proofs Py65.Proofs.Hist
open Py65.Props.C09 (isControl)

/-- The disassembler's device record (tables, widths, formats) of a device class. -/
def asmDev : Dev → Py65.Model.Asm.Dev
  | .nmos => Py65.Model.Asm.dev6502
  | .cmos => Py65.Model.Asm.dev65c02
  | .org16 => Py65.Model.Asm.dev65org16

theorem isDevice (d : Dev) : Py65.Proofs.Asm.IsDevice (asmDev d) d.variant d.W := by
  cases d
  · exact .d6502
  · exact .d65c02
  · exact .d65org16

theorem AM_pow (W : Nat) : AM W = 2 ^ (2 * W) := rfl

theorem exec_pc (W : Nat) (v : Variant) (mn : Mn) (mo : Mode) (s : AState)
    (hnc : isControl mn = false) : (exec W v mn mo s).pc = nextPc W mo s := by
  cases mn <;> dsimp only [exec, push, pull, write] <;> first
    | exact Bool.noConfusion hnc
    | (split <;> rfl)

theorem isControl_not_adcsbc {mn : Mn} (h : isAdcSbc mn = true) : isControl mn = false := by
  cases mn <;> first | rfl | (exact Bool.noConfusion h)

theorem not_arith_of {mn : Mn} (hnc : isControl mn = false) (ha : ¬ isAdcSbc mn = true) :
    ¬ isArith mn = true := by
  intro h
  cases mn <;> first | exact Bool.noConfusion h | exact ha rfl | exact Bool.noConfusion hnc

theorem step_adcsbc (d : Dev) (s : St) (hi : Inv d s) (hw : s.waiting = false) (mn : Mn) (mo : Mode)
    (hd : decode d.variant (s.mem s.pc) = some (mn, mo)) (ha : isAdcSbc mn = true) :
    (d.step s).pc = (s.pc + mo.len) % AM d.W ∧ (d.step s).mem = s.mem ∧ (d.step s).waiting = false := by
  have harith : isArith mn = true := by
    cases mn <;> first | rfl | (exact Bool.noConfusion ha)
  have h : (Mpu6502.step d.cfg d.tbl s).pc = (s.pc + mo.len) % AM d.W ∧
      (Mpu6502.step d.cfg d.tbl s).mem = s.mem := by
    cases d with
    | nmos => exact adcsbc_step_dev6502 s hi.1 mn mo hd ha
    | cmos => exact adcsbc_step_dev65c02 s hi.1 mn mo hd ha
    | org16 => exact adcsbc_step_dev65org16 s hi.1 mn mo hd ha
  rw [← step_eq d s hw] at h
  exact ⟨h.1, h.2, (step_arith_dev d s hi.1 hw hd harith).2.trans hw⟩

/-- A running, well-formed generated device at a declared opcode that does
not transfer control (`isControl`: branches, JMP, JSR, RTS, RTI, BRK), in either arithmetic mode: PC ends
one documented instruction length further on, modulo the address space; and unless the instruction is
WAI the device is still running. -/
theorem step_straight (d : Dev) (s : St) (hi : Inv d s) (hw : s.waiting = false) (mn : Mn) (mo : Mode)
    (hd : decode d.variant (s.mem s.pc) = some (mn, mo)) (hnc : isControl mn = false) :
    (d.step s).pc = (s.pc + mo.len) % AM d.W ∧ (mn ≠ .WAI → (d.step s).waiting = false) := by
  by_cases ha : isAdcSbc mn = true
  · obtain ⟨h1, _, h3⟩ := step_adcsbc d s hi hw mn mo hd ha
    exact ⟨h1, fun _ => h3⟩
  · have hna := not_arith_of hnc ha
    have h := step_spec d s hi.1 hw mn mo hd hna
    refine ⟨?_, fun hn => ?_⟩
    · have hpc := congrArg AState.pc h
      have e : (abs (d.step s)).pc = (d.step s).pc := rfl
      rw [e, exec_pc _ _ _ _ _ hnc] at hpc
      rw [hpc]
      show ((s.pc + 1) % AM d.W + (mo.len - 1)) % AM d.W = _
      rw [Int.emod_add_emod]; congr 1; omega
    · have hwa := congrArg AState.waiting h
      rw [exec_waiting _ _ _ _ _ hn] at hwa
      exact hwa.trans hw

def steps (n : Nat) : List Op := List.replicate n Op.step

theorem iter_eq_run (d : Dev) (n : Nat) (s : St) : d.step^[n] s = run d (steps n) s := by
  induction n generalizing s with
  | zero => rfl
  | succ n ih => rw [Function.iterate_succ_apply, ih]; rfl

theorem steps_noReset (n : Nat) : NoReset (steps n) := by
  intro o ho
  rw [steps, List.mem_replicate] at ho
  rw [ho.2]; rfl

theorem steps_succ (n : Nat) : steps (n + 1) = Op.step :: steps n := rfl

theorem iter_succ' (d : Dev) (n : Nat) (s : St) : d.step^[n + 1] s = d.step (d.step^[n] s) :=
  Function.iterate_succ_apply' _ _ _

end Py65.Proofs.Compose2
