/-
Characterising theorems for `Py.land / lor / lxor / lnot` (so that the definitions in
`Py65/PyInt.lean` are not trusted: they are shown to be bit-wise AND/OR/XOR/NOT on the
infinite two's-complement representation) and the rewriting lemmas that turn the masked
expressions of the device code into linear arithmetic with `/` and `%` by literals.
-/
import Py65.PyInt
import Py65.Proofs.NatBits

namespace Py
open Py65.NatBits

/-- Bit `i` of the two's-complement representation, by sign case. -/
def tb : Int → Nat → Bool
  | .ofNat n, i => n.testBit i
  | .negSucc n, i => !n.testBit i

theorem natDiff_eq (m n : Nat) : natDiff m n = m - (m &&& n) := by
  apply Nat.eq_of_testBit_eq; intro i
  rw [testBit_sub_and]; unfold natDiff; rw [Nat.testBit_bitwise (by rfl)]

theorem testBit_natDiff (m n i : Nat) : (natDiff m n).testBit i = (m.testBit i && !n.testBit i) := by
  rw [natDiff_eq, testBit_sub_and]

theorem tb_land (x y : Int) (i : Nat) : tb (land x y) i = (tb x i && tb y i) := by
  rcases x with m | m <;> rcases y with n | n <;>
    simp [land, tb, testBit_natDiff, Bool.and_comm]

theorem tb_lor (x y : Int) (i : Nat) : tb (lor x y) i = (tb x i || tb y i) := by
  rcases x with m | m <;> rcases y with n | n <;>
    simp [lor, tb, testBit_natDiff, Bool.or_comm]

theorem tb_lxor (x y : Int) (i : Nat) : tb (lxor x y) i = (tb x i ^^ tb y i) := by
  rcases x with m | m <;> rcases y with n | n <;> simp [lxor, tb]

theorem lnot_ofNat (n : Nat) : lnot (Int.ofNat n) = Int.negSucc n := by
  unfold lnot; simp [Int.negSucc_eq]; omega

theorem lnot_negSucc (n : Nat) : lnot (Int.negSucc n) = Int.ofNat n := by
  unfold lnot; simp [Int.negSucc_eq]

theorem tb_lnot (x : Int) (i : Nat) : tb (lnot x) i = !tb x i := by
  rcases x with m | m
  · rw [lnot_ofNat]; simp [tb]
  · rw [lnot_negSucc]; simp [tb]

theorem tb_zero (i : Nat) : tb 0 i = false := Nat.zero_testBit i

theorem tb_neg_one (i : Nat) : tb (-1) i = true := by
  show (!Nat.testBit 0 i) = true
  rw [Nat.zero_testBit]; rfl

theorem tb_two_pow (k i : Nat) : tb (2 ^ k) i = decide (k = i) := by
  have h2 : ((2 : Int) ^ k) = Int.ofNat (2 ^ k) := by norm_cast
  rw [h2]; exact Nat.testBit_two_pow

private theorem negSucc_div_pow (m k : Nat) :
    (Int.negSucc m) / 2 ^ k = -(((m / 2 ^ k : Nat) : Int) + 1) := by
  have hp : (0 : Int) < 2 ^ k := Int.pow_pos (by decide)
  rw [Int.negSucc_ediv m hp]; norm_cast

private theorem negSucc_mod_pow (m k : Nat) :
    (Int.negSucc m) % 2 ^ k = 2 ^ k - 1 - ((m % 2 ^ k : Nat) : Int) := by
  have hp : (0 : Int) < 2 ^ k := Int.pow_pos (by decide)
  rw [Int.negSucc_emod m hp]; norm_cast

theorem tb_eq (x : Int) (i : Nat) : tb x i = decide (x / 2 ^ i % 2 = 1) := by
  rcases x with m | m
  · simp only [tb, Int.ofNat_eq_natCast, Nat.testBit_eq_decide_div_mod_eq]
    congr 1
    norm_cast
  · simp only [tb, Nat.testBit_eq_decide_div_mod_eq]
    rw [negSucc_div_pow]
    have h3 : (((m / 2 ^ i : Nat) : Int)) % 2 = ((m / 2 ^ i % 2 : Nat) : Int) := by norm_cast
    generalize ((m / 2 ^ i : Nat) : Int) = q at h3
    rcases Nat.mod_two_eq_zero_or_one (m / 2 ^ i) with h2 | h2 <;> simp only [h2] at h3 ⊢ <;>
      simp <;> omega

theorem bit_eq_tb (x : Int) (i : Nat) : bit x i = tb x i := by
  unfold bit; rw [tb_eq]

theorem bit_land (x y : Int) (i : Nat) : bit (land x y) i = (bit x i && bit y i) := by
  simp only [bit_eq_tb, tb_land]
theorem bit_lor (x y : Int) (i : Nat) : bit (lor x y) i = (bit x i || bit y i) := by
  simp only [bit_eq_tb, tb_lor]
theorem bit_lxor (x y : Int) (i : Nat) : bit (lxor x y) i = (bit x i ^^ bit y i) := by
  simp only [bit_eq_tb, tb_lxor]
theorem bit_lnot (x : Int) (i : Nat) : bit (lnot x) i = !bit x i := by
  simp only [bit_eq_tb, tb_lnot]

/-- Two integers with the same bits are equal: for different signs the bits differ at any
position beyond both magnitudes. -/
theorem tb_ext (x y : Int) (h : ∀ i, tb x i = tb y i) : x = y := by
  have far (a b : Nat) : a.testBit (a + b) = false ∧ b.testBit (a + b) = false :=
    ⟨Nat.testBit_lt_two_pow (Nat.lt_of_le_of_lt (Nat.le_add_right a b) Nat.lt_two_pow_self),
     Nat.testBit_lt_two_pow (Nat.lt_of_le_of_lt (Nat.le_add_left b a) Nat.lt_two_pow_self)⟩
  rcases x with a | a <;> rcases y with b | b
  · have : a = b := Nat.eq_of_testBit_eq (fun i => by simpa [tb] using h i)
    rw [this]
  · have h1 := h (a + b); simp [tb, far a b] at h1
  · have h1 := h (a + b); simp [tb, far a b] at h1
  · have : a = b := Nat.eq_of_testBit_eq (fun i => by simpa [tb] using h i)
    rw [this]

theorem land_comm (x y : Int) : land x y = land y x := by
  apply tb_ext; intro i; simp only [tb_land, Bool.and_comm]

theorem land_assoc (x y z : Int) : land (land x y) z = land x (land y z) := by
  apply tb_ext; intro i; simp only [tb_land, Bool.and_assoc]

theorem lor_assoc (x y z : Int) : lor (lor x y) z = lor x (lor y z) := by
  apply tb_ext; intro i; simp only [tb_lor, Bool.or_assoc]

theorem land_lor (x y z : Int) : land x (lor y z) = lor (land x y) (land x z) := by
  apply tb_ext; intro i; simp only [tb_land, tb_lor, Bool.and_or_distrib_left]

theorem land_lnot_lor (p a b : Int) : land p (lnot (lor a b)) = land (land p (lnot a)) (lnot b) := by
  apply tb_ext; intro i
  simp only [tb_land, tb_lnot, tb_lor, Bool.not_or, Bool.and_assoc]

theorem bitv_eq (x : Int) (k : Nat) : x / 2 ^ k % 2 = if tb x k then 1 else 0 := by
  rw [tb_eq]
  have : x / 2 ^ k % 2 = 0 ∨ x / 2 ^ k % 2 = 1 := by omega
  rcases this with h | h <;> simp [h]

theorem land_two_pow (x : Int) (k : Nat) : land x (2 ^ k) = x / 2 ^ k % 2 * 2 ^ k := by
  rw [bitv_eq]
  apply tb_ext; intro i
  rw [tb_land, tb_two_pow]
  by_cases h : k = i
  · subst h; cases tb x k <;> simp [tb_two_pow, tb_zero]
  · cases tb x k <;> simp [h, tb_two_pow, tb_zero]

theorem land_mask (x : Int) (k : Nat) : land x (2 ^ k - 1) = x % 2 ^ k := by
  have hc : ((2 ^ k - 1 : Nat) : Int) = (2 : Int) ^ k - 1 := by
    rw [Int.natCast_sub Nat.one_le_two_pow]; norm_cast
  have h2 : ((2 : Int) ^ k - 1) = Int.ofNat (2 ^ k - 1) := by
    simp only [Int.ofNat_eq_natCast]; exact hc.symm
  rcases x with m | m
  · rw [h2]; simp only [land, Int.ofNat_eq_natCast]
    rw [Nat.and_two_pow_sub_one_eq_mod]; norm_cast
  · rw [h2]; simp only [land, natDiff_eq]
    rw [Nat.and_comm, Nat.and_two_pow_sub_one_eq_mod, negSucc_mod_pow]
    have hlt : m % 2 ^ k < 2 ^ k := Nat.mod_lt _ (Nat.two_pow_pos k)
    simp only [Int.ofNat_eq_natCast]
    rw [← hc]
    have hle : m % 2 ^ k ≤ 2 ^ k - 1 := by omega
    generalize 2 ^ k - 1 = M at hle ⊢
    generalize m % 2 ^ k = r at hle ⊢
    omega

theorem bitv_land (x y : Int) (k : Nat) :
    land x y / 2 ^ k % 2 = min (x / 2 ^ k % 2) (y / 2 ^ k % 2) := by
  simp only [bitv_eq, tb_land]; cases tb x k <;> cases tb y k <;> simp <;> omega
theorem bitv_lor (x y : Int) (k : Nat) :
    lor x y / 2 ^ k % 2 = max (x / 2 ^ k % 2) (y / 2 ^ k % 2) := by
  simp only [bitv_eq, tb_lor]; cases tb x k <;> cases tb y k <;> simp <;> omega
theorem bitv_lxor (x y : Int) (k : Nat) :
    lxor x y / 2 ^ k % 2 = (x / 2 ^ k % 2 + y / 2 ^ k % 2) % 2 := by
  simp only [bitv_eq, tb_lxor]; cases tb x k <;> cases tb y k <;> simp
theorem bitv_lnot (x : Int) (k : Nat) : lnot x / 2 ^ k % 2 = 1 - x / 2 ^ k % 2 := by
  simp only [bitv_eq, tb_lnot]; cases tb x k <;> simp

theorem lor_eq (x y : Int) : lor x y = x + y - land x y := by
  rcases x with a | a <;> rcases y with b | b
  · simp only [lor, land, Int.ofNat_eq_natCast]
    have := or_add_and a b; omega
  · simp only [lor, land, natDiff_eq, Int.ofNat_eq_natCast, Int.negSucc_eq]
    have h1 : b &&& a ≤ b := Nat.and_le_left
    have h2 : a &&& b ≤ a := Nat.and_le_left
    rw [Nat.and_comm b a] at *; omega
  · simp only [lor, land, natDiff_eq, Int.ofNat_eq_natCast, Int.negSucc_eq]
    have h1 : b &&& a ≤ b := Nat.and_le_left
    have h2 : a &&& b ≤ a := Nat.and_le_left
    rw [Nat.and_comm b a] at *; omega
  · simp only [lor, land, Int.negSucc_eq]
    have := or_add_and a b; omega

theorem add_eq_lor_of_disjoint (a b : Int) (h : land a b = 0) : a + b = lor a b := by
  rw [lor_eq, h]; omega

theorem lxor_eq (x y : Int) : lxor x y = x + y - 2 * land x y := by
  have h : land (lxor x y) (land x y) = 0 := by
    apply tb_ext; intro i
    rw [tb_land, tb_lxor, tb_land, tb_zero]; cases tb x i <;> cases tb y i <;> rfl
  have e : lor (lxor x y) (land x y) = lor x y := by
    apply tb_ext; intro i
    rw [tb_lor, tb_lxor, tb_land, tb_lor]; cases tb x i <;> cases tb y i <;> rfl
  have := add_eq_lor_of_disjoint _ _ h
  rw [e, lor_eq] at this; omega

/-- `&` distributes over the sum of two masks that share no bit: the two parts of the result
share no bit either. -/
theorem land_add_of_disjoint (x a b : Int) (h : land a b = 0) :
    land x (a + b) = land x a + land x b := by
  have hb : ∀ i, (tb a i && tb b i) = false := fun i => by rw [← tb_land, h, tb_zero]
  have e : land (land x a) (land x b) = 0 := by
    apply tb_ext; intro i
    simp only [tb_land, tb_zero]
    cases tb x i
    · rfl
    · exact hb i
  rw [add_eq_lor_of_disjoint a b h, land_lor, add_eq_lor_of_disjoint _ _ e]

theorem land_add_land_lnot (x y : Int) : land x y + land x (lnot y) = x := by
  have h : land y (lnot y) = 0 := by
    apply tb_ext; intro i; rw [tb_land, tb_lnot, tb_zero, Bool.and_not_self]
  have e : y + lnot y = -1 := by unfold lnot; omega
  rw [← land_add_of_disjoint x y _ h, e]
  apply tb_ext; intro i; rw [tb_land, tb_neg_one, Bool.and_true]

/-- `x & ~y = x - (x & y)` (flag clearing, TRB). -/
theorem land_lnot_right' (x y : Int) : land x (lnot y) = x - land x y := by
  have := land_add_land_lnot x y; omega

theorem land_lnot_right (x m : Int) (hx : 0 ≤ x) (hm : 0 ≤ m) : land x (lnot m) = x - land x m :=
  land_lnot_right' x m

/-- `x & -m = x - (x & (m-1))`: the form a negative literal mask takes. -/
theorem land_neg (x m : Int) : land x (-m) = x - land x (m - 1) := by
  have e : lnot (m - 1) = -m := by unfold lnot; omega
  rw [← e, land_lnot_right']

/-- `x | (v & M)` — the idiom `p |= value & FLAG`. -/
theorem lor_land (x v M : Int) : lor x (land v M) = x + land v M - land (land x v) M := by
  rw [lor_eq, land_assoc]

theorem land_nonneg (x y : Int) (hy : 0 ≤ y) : 0 ≤ land x y := by
  obtain ⟨b, rfl⟩ := Int.eq_ofNat_of_zero_le hy
  rcases x with m | m <;> simp [land]

theorem land_le_right (x y : Int) (hy : 0 ≤ y) : land x y ≤ y := by
  obtain ⟨b, rfl⟩ := Int.eq_ofNat_of_zero_le hy
  rcases x with m | m
  · show land (Int.ofNat m) (Int.ofNat b) ≤ _
    simp only [land, Int.ofNat_eq_natCast]
    have : m &&& b ≤ b := Nat.and_le_right
    omega
  · show land (Int.negSucc m) (Int.ofNat b) ≤ _
    simp only [land, natDiff_eq, Int.ofNat_eq_natCast]
    omega

theorem land_le_left (x y : Int) (hx : 0 ≤ x) : land x y ≤ x := by
  rw [land_comm]; exact land_le_right y x hx

theorem lor_range (x y : Int) (k : Nat) (hx : 0 ≤ x) (hx' : x < 2 ^ k) (hy : 0 ≤ y) (hy' : y < 2 ^ k) :
    0 ≤ lor x y ∧ lor x y < 2 ^ k := by
  obtain ⟨a, rfl⟩ := Int.eq_ofNat_of_zero_le hx
  obtain ⟨b, rfl⟩ := Int.eq_ofNat_of_zero_le hy
  have ha : a < 2 ^ k := by exact_mod_cast hx'
  have hb : b < 2 ^ k := by exact_mod_cast hy'
  have := Nat.or_lt_two_pow ha hb
  show 0 ≤ lor (Int.ofNat a) (Int.ofNat b) ∧ lor (Int.ofNat a) (Int.ofNat b) < 2 ^ k
  simp only [lor, Int.ofNat_eq_natCast]
  constructor
  · omega
  · exact_mod_cast this

theorem lxor_range (x y : Int) (k : Nat) (hx : 0 ≤ x) (hx' : x < 2 ^ k) (hy : 0 ≤ y) (hy' : y < 2 ^ k) :
    0 ≤ lxor x y ∧ lxor x y < 2 ^ k := by
  obtain ⟨a, rfl⟩ := Int.eq_ofNat_of_zero_le hx
  obtain ⟨b, rfl⟩ := Int.eq_ofNat_of_zero_le hy
  have ha : a < 2 ^ k := by exact_mod_cast hx'
  have hb : b < 2 ^ k := by exact_mod_cast hy'
  have := Nat.xor_lt_two_pow ha hb
  show 0 ≤ lxor (Int.ofNat a) (Int.ofNat b) ∧ lxor (Int.ofNat a) (Int.ofNat b) < 2 ^ k
  simp only [lxor, Int.ofNat_eq_natCast]
  constructor
  · omega
  · exact_mod_cast this

theorem lxor_mask (x : Int) (k : Nat) (hx : 0 ≤ x) (hx' : x < 2 ^ k) :
    lxor x (2 ^ k - 1) = 2 ^ k - 1 - x := by
  rw [lxor_eq, land_mask, Int.emod_eq_of_lt hx hx']
  omega

theorem land_add_two_pow (x m : Int) (k : Nat) (h0 : 0 ≤ m) (h : m < 2 ^ k) :
    land x (m + 2 ^ k) = land x m + x / 2 ^ k % 2 * 2 ^ k := by
  rw [land_add_of_disjoint x m (2 ^ k), land_two_pow]
  rw [land_two_pow, Int.ediv_eq_zero_of_lt h0 h]; simp

theorem land_two_pow_sub_two_pow (x : Int) {k n : Nat} (h : k ≤ n) :
    land x (2 ^ n - 2 ^ k) = x % 2 ^ n - x % 2 ^ k := by
  have hd : ((2 : Int) ^ n - 2 ^ k) % 2 ^ k = 0 := by
    obtain ⟨d, rfl⟩ := Nat.exists_eq_add_of_le h
    have : (2 : Int) ^ (k + d) - 2 ^ k = 2 ^ k * (2 ^ d - 1) := by rw [pow_add, Int.mul_sub, Int.mul_one]
    rw [this]; exact Int.mul_emod_right ..
  have := land_add_of_disjoint x (2 ^ n - 2 ^ k) (2 ^ k - 1) (by rw [land_mask, hd])
  rw [land_mask, show (2 : Int) ^ n - 2 ^ k + (2 ^ k - 1) = 2 ^ n - 1 by omega, land_mask] at this
  omega

end Py
