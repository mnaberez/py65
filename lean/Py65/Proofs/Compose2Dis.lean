/-
For `Props/C09h.lean`: what the generated `Disassembler.instruction_at` returns depends on the memory only through the (at most) three cells of the instruction; the reported
length is a function of the opcode cell alone.
-/
import Py65.Props.C09g
import Py65.Proofs.Compose2Step

namespace Py65.Proofs.Compose2
open Py65 Py65.Spec Py65.Proofs.Hist
open Py65.Model.PyStr Py65.Model.AddrParser Py65.Model.Asm Py65.Model.Disasm
open Py65.Proofs.Asm Py65.Proofs.DisasmGenEq Py65.Gen.DisasmGen

theorem len_range (mo : Mode) : 1 ≤ mo.len ∧ mo.len ≤ 3 := by cases mo <;> decide

section
variable {dA : Py65.Model.Asm.Dev} {v : Variant} {W : Nat}

theorem byteAt_in (h : DevOK dA v W) (m : Int → Int) (a : Int) (h0 : 0 ≤ a) (h1 : a < 2 ^ (2 * W)) :
    byteAt dA m a = m a := by
  rw [byteAt_eq h, Int.emod_eq_of_lt h0 h1]

/-- The generated `instruction_at(pc)` reads the memory only at `pc`, `pc + 1`, `pc + 2` (modulo the
address space): two memories that agree there give the same result. -/
theorem dis_congr (hd : IsDevice dA v W) (P : Parser) (m m' : Int → Int) (pc : Int)
    (hop : 0 ≤ m (pc % 2 ^ (2 * W)) ∧ m (pc % 2 ^ (2 * W)) < 256)
    (h0 : m (pc % 2 ^ (2 * W)) = m' (pc % 2 ^ (2 * W)))
    (h1 : m ((pc + 1) % 2 ^ (2 * W)) = m' ((pc + 1) % 2 ^ (2 * W)))
    (h2 : m ((pc + 2) % 2 ^ (2 * W)) = m' ((pc + 2) % 2 ^ (2 * W))) :
    (disOf dA P m).instruction_at pc = (disOf dA P m').instruction_at pc := by
  have h := hd.ok
  have e0 : byteAt dA m pc = byteAt dA m' pc := by rw [byteAt_eq h, byteAt_eq h, h0]
  have e1 : byteAt dA m (pc + 1) = byteAt dA m' (pc + 1) := by rw [byteAt_eq h, byteAt_eq h, h1]
  have e2 : wordAt dA m (pc + 1) = wordAt dA m' (pc + 1) := by
    have e3 : byteAt dA m (pc + 1 + 1) = byteAt dA m' (pc + 1 + 1) := by
      rw [byteAt_eq h, byteAt_eq h, Int.add_assoc]; exact h2
    rw [wordAt_eq h, wordAt_eq h, e1, e3]
  have hop1 : 0 ≤ byteAt dA m pc ∧ byteAt dA m pc < 256 := by rw [byteAt_eq h]; exact hop
  have hop2 : 0 ≤ byteAt dA m' pc ∧ byteAt dA m' pc < 256 := by rw [← e0]; exact hop1
  have s1 := dis_spec h P m pc hop1
  have s2 := dis_spec h P m' pc hop2
  rw [← e0, ← e1, ← e2] at s2
  cases hdec : decode v (byteAt dA m pc) with
  | none =>
    rw [hdec] at s1 s2
    rw [gen_of_model (.of_devOK h) s1, gen_of_model (.of_devOK h) s2]
  | some r =>
    obtain ⟨mn, mo⟩ := r
    rw [hdec] at s1 s2
    rw [gen_of_model (.of_devOK h) s1, gen_of_model (.of_devOK h) s2]

/-- The length the generated `instruction_at` reports at an address inside the address space is the
documented length of the opcode in that cell. -/
theorem listed_len (hd : IsDevice dA v W) (P : Parser) (m : Int → Int) (a : Int) (h0 : 0 ≤ a)
    (h1 : a < 2 ^ (2 * W)) {len : Int} {text : Str} (hi : (disOf dA P m).instruction_at a = .ok (len, text))
    {mn : Mn} {mo : Mode} (hdec : decode v (m a) = some (mn, mo)) : len = mo.len := by
  have hb := byteAt_in hd.ok m a h0 h1
  have hop : 0 ≤ byteAt dA m a ∧ byteAt dA m a < 256 := by rw [hb]; exact decode_lt hdec
  obtain ⟨t, ht⟩ := Py65.Props.C09g.dis_len hd P m a hop mn mo (by rw [hb]; exact hdec)
  rw [hi] at ht
  simp only [Except.ok.injEq, Prod.mk.injEq] at ht
  exact ht.1

end

end Py65.Proofs.Compose2
