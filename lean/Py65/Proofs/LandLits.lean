/- `Py.land / lor / lxor x LIT` and the bits of `Py.land / lor / lxor / lnot` results as linear arithmetic
   with `/` and `%` by literals, for every sign of `x`: the literal instances, for the masks the
   device code uses, of the general lemmas in `PyIntLemmas` (simp set `pyarith`). -/
import Py65.Proofs.PyIntLemmas
import Py65.Proofs.Attr

namespace Py

@[pyarith] theorem land_lit_1 (x : Int) : land x 1 = x % 2 := by
  simpa using land_mask x 1
@[pyarith] theorem land_lit_16 (x : Int) : land x 16 = x / 16 % 2 * 16 := land_two_pow x 4
@[pyarith] theorem land_lit_32 (x : Int) : land x 32 = x / 32 % 2 * 32 := land_two_pow x 5
@[pyarith] theorem land_lit_128 (x : Int) : land x 128 = x / 128 % 2 * 128 := land_two_pow x 7
@[pyarith] theorem land_lit_256 (x : Int) : land x 256 = x / 256 % 2 * 256 := land_two_pow x 8
@[pyarith] theorem land_lit_512 (x : Int) : land x 512 = x / 512 % 2 * 512 := land_two_pow x 9
@[pyarith] theorem land_lit_1024 (x : Int) : land x 1024 = x / 1024 % 2 * 1024 := land_two_pow x 10
@[pyarith] theorem land_lit_2048 (x : Int) : land x 2048 = x / 2048 % 2 * 2048 := land_two_pow x 11
@[pyarith] theorem land_lit_4096 (x : Int) : land x 4096 = x / 4096 % 2 * 4096 := land_two_pow x 12
@[pyarith] theorem land_lit_8192 (x : Int) : land x 8192 = x / 8192 % 2 * 8192 := land_two_pow x 13
@[pyarith] theorem land_lit_32768 (x : Int) : land x 32768 = x / 32768 % 2 * 32768 := land_two_pow x 15

@[pyarith] theorem land_lit_3 (x : Int) : land x 3 = x % 4 := land_mask x 2
@[pyarith] theorem land_lit_15 (x : Int) : land x 15 = x % 16 := land_mask x 4
@[pyarith] theorem land_lit_255 (x : Int) : land x 255 = x % 256 := land_mask x 8
@[pyarith] theorem land_lit_65535 (x : Int) : land x 65535 = x % 65536 := land_mask x 16
@[pyarith] theorem land_lit_4294967295 (x : Int) : land x 4294967295 = x % 4294967296 := land_mask x 32
@[pyarith] theorem land_lit_3_left (x : Int) : land 3 x = x % 4 :=
  (land_comm 3 x).trans (land_lit_3 x)
@[pyarith] theorem land_lit_15_left (x : Int) : land 15 x = x % 16 :=
  (land_comm 15 x).trans (land_lit_15 x)
@[pyarith] theorem land_lit_255_left (x : Int) : land 255 x = x % 256 :=
  (land_comm 255 x).trans (land_lit_255 x)
@[pyarith] theorem land_lit_65535_left (x : Int) : land 65535 x = x % 65536 :=
  (land_comm 65535 x).trans (land_lit_65535 x)
@[pyarith] theorem land_lit_4294967295_left (x : Int) : land 4294967295 x = x % 4294967296 :=
  (land_comm 4294967295 x).trans (land_lit_4294967295 x)

@[pyarith] theorem land_lit_65280 (x : Int) : land x 65280 = x % 65536 - x % 256 :=
  land_two_pow_sub_two_pow x (by decide : 8 ≤ 16)
@[pyarith] theorem land_lit_4294901760 (x : Int) : land x 4294901760 = x % 4294967296 - x % 65536 :=
  land_two_pow_sub_two_pow x (by decide : 16 ≤ 32)

@[pyarith] theorem lor_lit_1 (x : Int) : lor x 1 = x + 1 - land x 1 := lor_eq x 1
@[pyarith] theorem lor_lit_32 (x : Int) : lor x 32 = x + 32 - land x 32 := lor_eq x 32
@[pyarith] theorem lor_lit_128 (x : Int) : lor x 128 = x + 128 - land x 128 := lor_eq x 128
@[pyarith] theorem lor_lit_256 (x : Int) : lor x 256 = x + 256 - land x 256 := lor_eq x 256
@[pyarith] theorem lor_lit_512 (x : Int) : lor x 512 = x + 512 - land x 512 := lor_eq x 512
@[pyarith] theorem lor_lit_1024 (x : Int) : lor x 1024 = x + 1024 - land x 1024 := lor_eq x 1024
@[pyarith] theorem lor_lit_2048 (x : Int) : lor x 2048 = x + 2048 - land x 2048 := lor_eq x 2048
@[pyarith] theorem lor_lit_4096 (x : Int) : lor x 4096 = x + 4096 - land x 4096 := lor_eq x 4096
@[pyarith] theorem lor_lit_8192 (x : Int) : lor x 8192 = x + 8192 - land x 8192 := lor_eq x 8192
@[pyarith] theorem lor_lit_32768 (x : Int) : lor x 32768 = x + 32768 - land x 32768 := lor_eq x 32768

@[pyarith] theorem bitv_lor_1 (x y : Int) : lor x y % 2 = max (x % 2) (y % 2) := by
  simpa using bitv_lor x y 0
@[pyarith] theorem bitv_lxor_1 (x y : Int) : lxor x y % 2 = (x % 2 + y % 2) % 2 := by
  simpa using bitv_lxor x y 0
@[pyarith] theorem bitv_lnot_1 (x : Int) : lnot x % 2 = 1 - x % 2 := by
  simpa using bitv_lnot x 0
@[pyarith] theorem bitv_lor_2 (x y : Int) : lor x y / 2 % 2 = max (x / 2 % 2) (y / 2 % 2) :=
  bitv_lor x y 1
@[pyarith] theorem bitv_lxor_2 (x y : Int) : lxor x y / 2 % 2 = (x / 2 % 2 + y / 2 % 2) % 2 :=
  bitv_lxor x y 1
@[pyarith] theorem bitv_lnot_2 (x : Int) : lnot x / 2 % 2 = 1 - x / 2 % 2 := bitv_lnot x 1
@[pyarith] theorem bitv_lor_4 (x y : Int) : lor x y / 4 % 2 = max (x / 4 % 2) (y / 4 % 2) :=
  bitv_lor x y 2
@[pyarith] theorem bitv_lxor_4 (x y : Int) : lxor x y / 4 % 2 = (x / 4 % 2 + y / 4 % 2) % 2 :=
  bitv_lxor x y 2
@[pyarith] theorem bitv_lnot_4 (x : Int) : lnot x / 4 % 2 = 1 - x / 4 % 2 := bitv_lnot x 2
@[pyarith] theorem bitv_lor_8 (x y : Int) : lor x y / 8 % 2 = max (x / 8 % 2) (y / 8 % 2) :=
  bitv_lor x y 3
@[pyarith] theorem bitv_lxor_8 (x y : Int) : lxor x y / 8 % 2 = (x / 8 % 2 + y / 8 % 2) % 2 :=
  bitv_lxor x y 3
@[pyarith] theorem bitv_lnot_8 (x : Int) : lnot x / 8 % 2 = 1 - x / 8 % 2 := bitv_lnot x 3
@[pyarith] theorem bitv_lor_16 (x y : Int) : lor x y / 16 % 2 = max (x / 16 % 2) (y / 16 % 2) :=
  bitv_lor x y 4
@[pyarith] theorem bitv_lxor_16 (x y : Int) : lxor x y / 16 % 2 = (x / 16 % 2 + y / 16 % 2) % 2 :=
  bitv_lxor x y 4
@[pyarith] theorem bitv_lnot_16 (x : Int) : lnot x / 16 % 2 = 1 - x / 16 % 2 := bitv_lnot x 4
@[pyarith] theorem bitv_lor_32 (x y : Int) : lor x y / 32 % 2 = max (x / 32 % 2) (y / 32 % 2) :=
  bitv_lor x y 5
@[pyarith] theorem bitv_lxor_32 (x y : Int) : lxor x y / 32 % 2 = (x / 32 % 2 + y / 32 % 2) % 2 :=
  bitv_lxor x y 5
@[pyarith] theorem bitv_lnot_32 (x : Int) : lnot x / 32 % 2 = 1 - x / 32 % 2 := bitv_lnot x 5
@[pyarith] theorem bitv_lor_64 (x y : Int) : lor x y / 64 % 2 = max (x / 64 % 2) (y / 64 % 2) :=
  bitv_lor x y 6
@[pyarith] theorem bitv_lxor_64 (x y : Int) : lxor x y / 64 % 2 = (x / 64 % 2 + y / 64 % 2) % 2 :=
  bitv_lxor x y 6
@[pyarith] theorem bitv_lnot_64 (x : Int) : lnot x / 64 % 2 = 1 - x / 64 % 2 := bitv_lnot x 6
@[pyarith] theorem bitv_lor_128 (x y : Int) : lor x y / 128 % 2 = max (x / 128 % 2) (y / 128 % 2) :=
  bitv_lor x y 7
@[pyarith] theorem bitv_lxor_128 (x y : Int) : lxor x y / 128 % 2 = (x / 128 % 2 + y / 128 % 2) % 2 :=
  bitv_lxor x y 7
@[pyarith] theorem bitv_lnot_128 (x : Int) : lnot x / 128 % 2 = 1 - x / 128 % 2 := bitv_lnot x 7
@[pyarith] theorem bitv_land_256 (x y : Int) : land x y / 256 % 2 = min (x / 256 % 2) (y / 256 % 2) :=
  bitv_land x y 8
@[pyarith] theorem bitv_lor_256 (x y : Int) : lor x y / 256 % 2 = max (x / 256 % 2) (y / 256 % 2) :=
  bitv_lor x y 8
@[pyarith] theorem bitv_lxor_256 (x y : Int) : lxor x y / 256 % 2 = (x / 256 % 2 + y / 256 % 2) % 2 :=
  bitv_lxor x y 8
@[pyarith] theorem bitv_lnot_256 (x : Int) : lnot x / 256 % 2 = 1 - x / 256 % 2 := bitv_lnot x 8
@[pyarith] theorem bitv_land_512 (x y : Int) : land x y / 512 % 2 = min (x / 512 % 2) (y / 512 % 2) :=
  bitv_land x y 9
@[pyarith] theorem bitv_lor_512 (x y : Int) : lor x y / 512 % 2 = max (x / 512 % 2) (y / 512 % 2) :=
  bitv_lor x y 9
@[pyarith] theorem bitv_lxor_512 (x y : Int) : lxor x y / 512 % 2 = (x / 512 % 2 + y / 512 % 2) % 2 :=
  bitv_lxor x y 9
@[pyarith] theorem bitv_lnot_512 (x : Int) : lnot x / 512 % 2 = 1 - x / 512 % 2 := bitv_lnot x 9
@[pyarith] theorem bitv_land_1024 (x y : Int) : land x y / 1024 % 2 = min (x / 1024 % 2) (y / 1024 % 2) :=
  bitv_land x y 10
@[pyarith] theorem bitv_lor_1024 (x y : Int) : lor x y / 1024 % 2 = max (x / 1024 % 2) (y / 1024 % 2) :=
  bitv_lor x y 10
@[pyarith] theorem bitv_lxor_1024 (x y : Int) : lxor x y / 1024 % 2 = (x / 1024 % 2 + y / 1024 % 2) % 2 :=
  bitv_lxor x y 10
@[pyarith] theorem bitv_lnot_1024 (x : Int) : lnot x / 1024 % 2 = 1 - x / 1024 % 2 := bitv_lnot x 10
@[pyarith] theorem bitv_land_2048 (x y : Int) : land x y / 2048 % 2 = min (x / 2048 % 2) (y / 2048 % 2) :=
  bitv_land x y 11
@[pyarith] theorem bitv_lor_2048 (x y : Int) : lor x y / 2048 % 2 = max (x / 2048 % 2) (y / 2048 % 2) :=
  bitv_lor x y 11
@[pyarith] theorem bitv_lxor_2048 (x y : Int) : lxor x y / 2048 % 2 = (x / 2048 % 2 + y / 2048 % 2) % 2 :=
  bitv_lxor x y 11
@[pyarith] theorem bitv_lnot_2048 (x : Int) : lnot x / 2048 % 2 = 1 - x / 2048 % 2 := bitv_lnot x 11
@[pyarith] theorem bitv_land_4096 (x y : Int) : land x y / 4096 % 2 = min (x / 4096 % 2) (y / 4096 % 2) :=
  bitv_land x y 12
@[pyarith] theorem bitv_lor_4096 (x y : Int) : lor x y / 4096 % 2 = max (x / 4096 % 2) (y / 4096 % 2) :=
  bitv_lor x y 12
@[pyarith] theorem bitv_lxor_4096 (x y : Int) : lxor x y / 4096 % 2 = (x / 4096 % 2 + y / 4096 % 2) % 2 :=
  bitv_lxor x y 12
@[pyarith] theorem bitv_lnot_4096 (x : Int) : lnot x / 4096 % 2 = 1 - x / 4096 % 2 := bitv_lnot x 12
@[pyarith] theorem bitv_land_8192 (x y : Int) : land x y / 8192 % 2 = min (x / 8192 % 2) (y / 8192 % 2) :=
  bitv_land x y 13
@[pyarith] theorem bitv_lor_8192 (x y : Int) : lor x y / 8192 % 2 = max (x / 8192 % 2) (y / 8192 % 2) :=
  bitv_lor x y 13
@[pyarith] theorem bitv_lxor_8192 (x y : Int) : lxor x y / 8192 % 2 = (x / 8192 % 2 + y / 8192 % 2) % 2 :=
  bitv_lxor x y 13
@[pyarith] theorem bitv_lnot_8192 (x : Int) : lnot x / 8192 % 2 = 1 - x / 8192 % 2 := bitv_lnot x 13
@[pyarith] theorem bitv_lor_16384 (x y : Int) : lor x y / 16384 % 2 = max (x / 16384 % 2) (y / 16384 % 2) :=
  bitv_lor x y 14
@[pyarith] theorem bitv_lxor_16384 (x y : Int) : lxor x y / 16384 % 2 = (x / 16384 % 2 + y / 16384 % 2) % 2 :=
  bitv_lxor x y 14
@[pyarith] theorem bitv_lnot_16384 (x : Int) : lnot x / 16384 % 2 = 1 - x / 16384 % 2 := bitv_lnot x 14
@[pyarith] theorem bitv_lor_32768 (x y : Int) : lor x y / 32768 % 2 = max (x / 32768 % 2) (y / 32768 % 2) :=
  bitv_lor x y 15
@[pyarith] theorem bitv_lxor_32768 (x y : Int) : lxor x y / 32768 % 2 = (x / 32768 % 2 + y / 32768 % 2) % 2 :=
  bitv_lxor x y 15
@[pyarith] theorem bitv_lnot_32768 (x : Int) : lnot x / 32768 % 2 = 1 - x / 32768 % 2 := bitv_lnot x 15

end Py
