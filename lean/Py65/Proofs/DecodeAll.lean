/-
`Spec.decode` of all 256 opcode bytes in one pass.  The instruction tables of `Spec.Isa` are sorted
by opcode, so the bytes 0, 1, 2, … can be looked up while walking each table once; `decode` itself
searches the table from its head for every byte.  The table comparisons of C13 and C14 evaluate
`decodeAll` in place of 256 separate `decode`s.
-/
import Py65.Spec.Isa

namespace Py65.Proofs
open Py65.Spec

/-- The opcodes of the table increase strictly and none is below `n`. -/
def ascending : Int → List (Int × Mn × Mode) → Bool
  | _, [] => true
  | n, (o, _) :: t => decide (n ≤ o) && ascending (o + 1) t

/-- `lookup t n, lookup t (n + 1), …`, `k` of them, for an ascending table. -/
def sweep : List (Int × Mn × Mode) → Int → Nat → List (Option (Mn × Mode))
  | _, _, 0 => []
  | [], n, k + 1 => none :: sweep [] (n + 1) k
  | (o, r) :: t, n, k + 1 =>
    if o = n then some r :: sweep t (n + 1) k else none :: sweep ((o, r) :: t) (n + 1) k

theorem lookup_below {t : List (Int × Mn × Mode)} {n i : Int} (h : ascending n t = true) (hi : i < n) :
    lookup t i = none := by
  induction t generalizing n with
  | nil => rfl
  | cons e t ih =>
    obtain ⟨o, r⟩ := e
    simp only [ascending, Bool.and_eq_true, decide_eq_true_eq] at h
    rw [lookup, if_neg (by omega), ih h.2 (by omega)]

theorem sweep_eq {t : List (Int × Mn × Mode)} {n : Int} (k : Nat) (h : ascending n t = true) :
    sweep t n k = (List.range k).map fun (i : Nat) => lookup t (n + i) := by
  induction k generalizing t n with
  | zero => rfl
  | succ k ih =>
    have shift : ∀ t' : List (Int × Mn × Mode),
        ((List.range k).map fun (i : Nat) => lookup t' (n + 1 + i)) =
          (List.range k).map ((fun i : Nat => lookup t' (n + i)) ∘ Nat.succ) :=
      fun t' => List.map_congr_left fun i _ => by
        simp only [Function.comp, Nat.succ_eq_add_one]; congr 1; omega
    rw [List.range_succ_eq_map, List.map_cons, List.map_map, ← shift]
    match t with
    | [] => rw [sweep, ih rfl]; rfl
    | (o, r) :: t =>
      simp only [ascending, Bool.and_eq_true, decide_eq_true_eq] at h
      by_cases e : o = n
      · -- the entry is consumed; no later byte finds it again
        rw [sweep, if_pos e, ih (e ▸ h.2), lookup, if_pos (by omega)]
        congr 1
        exact List.map_congr_left fun i _ => by rw [lookup, if_neg (by omega)]
      · -- byte `n` lies below every opcode that is left
        have h' : ascending (n + 1) ((o, r) :: t) = true := by
          simp only [ascending, Bool.and_eq_true, decide_eq_true_eq]; exact ⟨by omega, h.2⟩
        rw [sweep, if_neg e, ih h', lookup_below h' (by omega)]

/-- `decode v` of the opcode bytes 0 … 255. -/
def decodeAll : Variant → List (Option (Mn × Mode))
  | .nmos => sweep nmosTable 0 256
  | .cmos => List.zipWith (fun e b => match e with | some r => some r | none => b)
      (sweep cmosExtTable 0 256) (sweep nmosTable 0 256)

theorem decodeAll_eq (v : Variant) :
    decodeAll v = (List.range 256).map fun n => decode v (Int.ofNat n) := by
  have hn : ascending 0 nmosTable = true := by decide +kernel
  have hc : ascending 0 cmosExtTable = true := by decide +kernel
  cases v
  · simp only [decodeAll, decode, sweep_eq 256 hn, Int.zero_add, Int.ofNat_eq_natCast]
  · simp only [decodeAll, decode, sweep_eq 256 hn, sweep_eq 256 hc, Int.zero_add, Int.ofNat_eq_natCast,
      List.zipWith_map, List.zipWith_self]
    rfl

/-- A table computed opcode by opcode from `decode` alone. -/
theorem map_decode {α : Type} (v : Variant) (g : Option (Mn × Mode) → α) :
    (decodeAll v).map g = (List.range 256).map fun n => g (decode v (Int.ofNat n)) := by
  rw [decodeAll_eq, List.map_map]; rfl

/-- A check of all opcodes that also looks at the opcode byte and at the entry of a 256-entry table
`l`; the entries come alongside instead of being looked up one by one. -/
theorem all_decode {α : Type} (v : Variant) (l : List α) (d : α) (hl : l.length = 256)
    (g : Nat × α → Option (Mn × Mode) → Bool) :
    (List.zipWith g ((List.range 256).zip l) (decodeAll v)).all id =
      (List.range 256).all fun n => g (n, l.getD n d) (decode v (Int.ofNat n)) := by
  have hz : (List.range 256).zip l = (List.range 256).map fun n => (n, l.getD n d) := by
    apply List.ext_getElem
    · simp [hl]
    · intro i h1 _
      have hi : i < l.length := by simp at h1; omega
      simp [hi]
  rw [decodeAll_eq, hz, List.zipWith_map_left, List.zipWith_map_right, List.zipWith_self, List.all_map]
  rfl

end Py65.Proofs
