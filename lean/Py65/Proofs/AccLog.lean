/-
Aspect *access log*: the log of a model state with the written values erased (`acl`), and what each
addressing-mode helper appends to it (`ModeAcc`: the operand and pointer reads of `Spec`, in order).
-/
import Py65.Proofs.Shapes
import Py65.Proofs.Step
import Py65.Spec.AccessAll
set_option linter.unusedSimpArgs false
namespace Py65.Proofs
open Py65 Py65.Gen Py65.Spec Py

def accOf : MemEv → Acc
  | .r a => .r a
  | .w a _ => .w a

/-- Abstract access log of a model state (newest first), write values erased. -/
def acl (s : St) : List Acc := s.log.map accOf

/-- What an addressing-mode helper reads, in order: operand bytes, then pointer bytes.  In
immediate mode the helper reads nothing (the operation reads the operand byte itself). -/
def modeTrace (W : Nat) (mo : Mode) (s : AState) : List Acc :=
  match mo with
  | .imm => []
  | _ => (operandAddrs W mo s).map Acc.r ++ pointerReads W mo s

def ModeAcc (c : Cfg) (x : St → Int × St) (mo : Mode) : Prop :=
  ∀ s, WF c s → acl (x s).2 = (modeTrace c.BYTE_WIDTH mo (core s)).reverse ++ acl s

set_option hygiene false in
macro "mode_unfold" : tactic =>
  `(tactic| (
    dsimp +instances only [Mpu6502.ProgramCounter, Mpu6502.ZeroPageAddr, Mpu6502.ZeroPageXAddr, Mpu6502.ZeroPageYAddr,
      Mpu6502.AbsoluteAddr, Mpu6502.AbsoluteXAddr, Mpu6502.AbsoluteYAddr, Mpu6502.IndirectXAddr,
      Mpu6502.IndirectYAddr, Mpu65c02.ZeroPageIndirectAddr, Mpu65c02.IndirectAbsXAddr,
      Mpu6502.WordAt, Mpu6502.WrapAt, Mpu6502.ByteAt, memGet, acl]
    simp +instances only [apply_ite Prod.snd, apply_ite Prod.fst, apply_ite St.log, ite_self,
      List.map_cons, accOf, modeTrace, operandAddrs, pointerReads, Mode.len, core, opnd1]))

theorem ProgramCounter_acc (c : Cfg) : ModeAcc c (Mpu6502.ProgramCounter c) .imm := by
  intro s _; rfl
theorem ZeroPageAddr_acc (c : Cfg) : ModeAcc c (Mpu6502.ZeroPageAddr c) .zpg := by
  intro s _; rfl
theorem ZeroPageXAddr_acc (c : Cfg) : ModeAcc c (Mpu6502.ZeroPageXAddr c) .zpx := by
  intro s _; rfl
theorem ZeroPageYAddr_acc (c : Cfg) : ModeAcc c (Mpu6502.ZeroPageYAddr c) .zpy := by
  intro s _; rfl
theorem AbsoluteAddr_acc (c : Cfg) (hc : IsDev c) : ModeAcc c (Mpu6502.AbsoluteAddr c) .abs := by
  intro s hs
  mode_unfold
  rcases hc with rfl | rfl <;> simp [AM, pyarith]

theorem AbsoluteXAddr_acc (c : Cfg) (hc : IsDev c) : ModeAcc c (Mpu6502.AbsoluteXAddr c) .abx := by
  intro s hs
  mode_unfold
  rcases hc with rfl | rfl <;> simp [AM, pyarith]
theorem AbsoluteYAddr_acc (c : Cfg) (hc : IsDev c) : ModeAcc c (Mpu6502.AbsoluteYAddr c) .aby := by
  intro s hs
  mode_unfold
  rcases hc with rfl | rfl <;> simp [AM, pyarith]
theorem IndirectAbsXAddr_acc (c : Cfg) (hc : IsDev c) : ModeAcc c (Mpu65c02.IndirectAbsXAddr c) .iax := by
  intro s hs
  mode_unfold
  rcases hc with rfl | rfl <;> simp [AM, pyarith]
theorem IndirectXAddr_acc (c : Cfg) (hc : IsDev c) : ModeAcc c (Mpu6502.IndirectXAddr c) .inx := by
  intro s hs
  have h1 := hs.mem s.pc; have hx := hs.x
  mode_unfold
  rcases hc with rfl | rfl
  · simp [AM, BM, pyarith] at h1 hx ⊢; omega
  · simp [AM, BM, pyarith] at h1 hx ⊢; omega
theorem IndirectYAddr_acc (c : Cfg) (hc : IsDev c) : ModeAcc c (Mpu6502.IndirectYAddr c) .iny := by
  intro s hs
  have h1 := hs.mem s.pc
  mode_unfold
  rcases hc with rfl | rfl
  · simp [AM, BM, pyarith] at h1 ⊢; omega
  · simp [AM, BM, pyarith] at h1 ⊢; omega
theorem ZeroPageIndirectAddr_acc (c : Cfg) (hc : c = dev6502.cfg) :
    ModeAcc c (Mpu65c02.ZeroPageIndirectAddr c) .zpi := by
  subst hc
  intro s hs
  have h1 := hs.mem s.pc
  mode_unfold
  simp [AM, BM, pyarith] at h1 ⊢; omega
end Py65.Proofs
