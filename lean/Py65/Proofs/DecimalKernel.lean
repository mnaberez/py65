/-
The decimal branches of the generated `opADC` / `opSBC`, run on a minimal state: the pure
function (A, M, C) ↦ (A', P') that `C04.nmos_adc` / `nmos_sbc` speak about.
-/
import Py65.Gen.Devices
import Py65.Spec.Decimal

namespace Py65.Proofs.Dec
open Py65 Py65.Gen Py65.Spec.Decimal

/-- state with accumulator `a`, decimal flag set, carry `c`, every cell = `m` -/
def st (a m : Int) (c : Bool) : St :=
  { (default : St) with a := a, p := 8 + (if c then 1 else 0), mem := fun _ => m }

def rd : St → Int × St := fun s => (0, s)

def flagsOf (s : St) : Res :=
  { a := s.a, c := decide (s.p % 2 = 1), n := decide (s.p / 128 % 2 = 1),
    v := decide (s.p / 64 % 2 = 1), z := decide (s.p / 2 % 2 = 1) }

def pyAdc (a m : Int) (c : Bool) : Res := flagsOf (Mpu6502.opADC dev6502.cfg rd (st a m c))
def pySbc (a m : Int) (c : Bool) : Res := flagsOf (Mpu6502.opSBC dev6502.cfg rd (st a m c))

end Py65.Proofs.Dec
