/-
Helper lemmas for C07 / C08 / C09 (assembler and disassembler models): fixed-width hexadecimal, template
matching step by step, the device tables against the documented tables, and -- under the device
hypotheses `DevOK` -- the back end on canonical operand text (`asm_core_of_devOK`), the converse that a text a
template matches is canonical (`backend_sound`), and the disassembler (`dis_spec`).
-/
import Mathlib.Tactic.SplitIfs
import Mathlib.Tactic.NormNum
import Py65.Proofs.NumLemmas
import Py65.Proofs.FmtLemmas
import Py65.Proofs.PyIntLemmas
import Py65.Model.Asm
import Py65.Model.Disasm
import Py65.Spec.Asm

namespace Py65.Proofs.Asm
open Py65.Model Py65.Model.PyStr Py65.Model.AddrParser Py65.Model.Asm Py65.Model.Disasm Py65.Proofs.Num
open Py65.Proofs.Fmt (pyIntL_fmtHexL)

/-- The `k` low hexadecimal digits of `v`, most significant first, lower case. -/
def hexFix : Nat → Nat → Str
  | 0, _ => []
  | k + 1, v => hexFix k (v / 16) ++ [digitChar (v % 16)]

@[simp] theorem hexFix_length (k v : Nat) : (hexFix k v).length = k := by
  induction k generalizing v with
  | zero => rfl
  | succ k ih => simp [hexFix, ih]

theorem hexFix_zero (k : Nat) : hexFix k 0 = List.replicate k '0' := by
  induction k with
  | zero => rfl
  | succ k ih =>
    rw [hexFix, Nat.zero_div, ih, List.replicate_succ']
    rfl

theorem hexFix_mod (k v : Nat) : hexFix k (v % 16 ^ k) = hexFix k v := by
  induction k generalizing v with
  | zero => rfl
  | succ k ih =>
    rw [hexFix, hexFix]
    have h1 : v % 16 ^ (k + 1) / 16 = (v / 16) % 16 ^ k := by
      rw [Nat.pow_succ, Nat.mul_comm, Nat.mod_mul_right_div_self]
    have h2 : v % 16 ^ (k + 1) % 16 = v % 16 := by
      rw [Nat.pow_succ]
      exact Nat.mod_mul_left_mod v (16 ^ k) 16
    rw [h1, h2, ih]

/-- `"%0kx" % v` for a value that fits in `k ≥ 1` digits. -/
theorem fmtHexL_eq_hexFix (k v : Nat) (hk : 1 ≤ k) (hv : v < 16 ^ k) : fmtHexL k v = hexFix k v := by
  induction k generalizing v with
  | zero => omega
  | succ k ih =>
    unfold fmtHexL rjustL
    rw [toDigits]
    split
    · rename_i h
      have hv16 : v < 16 := by omega
      have : v / 16 = 0 := Nat.div_eq_of_lt hv16
      simp only [List.length_singleton, Nat.add_sub_cancel, hexFix, this, hexFix_zero,
        Nat.mod_eq_of_lt hv16]
    · rename_i h
      have hv16 : 16 ≤ v := by omega
      have hk1 : 1 ≤ k := by
        rcases k with _ | k
        · simp at hv; omega
        · omega
      have hd : v / 16 < 16 ^ k := by
        rw [Nat.div_lt_iff_lt_mul (by omega)]
        rwa [Nat.pow_succ] at hv
      have := ih (v / 16) hk1 hd
      unfold fmtHexL rjustL at this
      simp only [List.length_append, List.length_singleton, hexFix]
      rw [← this, ← List.append_assoc]
      have e : k + 1 - ((toDigits 16 (v / 16)).length + 1) = k - (toDigits 16 (v / 16)).length := by omega
      rw [e]

theorem hexFix_split (a b v : Nat) : hexFix (a + b) v = hexFix a (v / 16 ^ b) ++ hexFix b v := by
  induction b generalizing v with
  | zero => simp [hexFix]
  | succ b ih =>
    rw [← Nat.add_assoc, hexFix, hexFix, ih, List.append_assoc]
    congr 2
    rw [Nat.div_div_eq_div_mul, Nat.pow_succ, Nat.mul_comm]

theorem digitChar_eq_zero : ∀ d, d < 16 → (digitChar d = '0' ↔ d = 0) := by decide
theorem upper_digitChar_eq_zero : ∀ d, d < 16 → (upper (digitChar d) = '0' ↔ d = 0) := by decide
theorem upper_digitChar_hexUpper : ∀ d, d < 16 → isHexUpper (upper (digitChar d)) = true := by decide
theorem dv_upper_digitChar : ∀ d, d < 16 → dv (upper (digitChar d)) = d := by decide
theorem isDig_upper_digitChar16 : ∀ d, d < 16 → IsDig 16 (upper (digitChar d)) := by
  intro d hd
  exact isDig_upper_digitChar (by decide) hd

/-- The upper-cased digits, as `.upper()` leaves them. -/
def hexFixU (k v : Nat) : Str := (hexFix k v).map upper

@[simp] theorem hexFixU_length (k v : Nat) : (hexFixU k v).length = k := by simp [hexFixU]

theorem hexFixU_succ (k v : Nat) : hexFixU (k + 1) v = hexFixU k (v / 16) ++ [upper (digitChar (v % 16))] := by
  simp [hexFixU, hexFix]

theorem hexFixU_split (a b v : Nat) : hexFixU (a + b) v = hexFixU a (v / 16 ^ b) ++ hexFixU b v := by
  simp [hexFixU, hexFix_split]

theorem hexFixU_allzero (k v : Nat) : (hexFixU k v).all (· = '0') = true ↔ v % 16 ^ k = 0 := by
  induction k generalizing v with
  | zero => simp [hexFixU, hexFix, Nat.mod_one]
  | succ k ih =>
    rw [hexFixU_succ, List.all_append, Bool.and_eq_true, ih]
    have hm : v % 16 < 16 := Nat.mod_lt _ (by decide)
    simp only [List.all_cons, List.all_nil, Bool.and_true, decide_eq_true_eq,
      upper_digitChar_eq_zero _ hm]
    rw [Nat.pow_succ, Nat.mul_comm, Nat.mod_mul]
    constructor
    · rintro ⟨h1, h2⟩; rw [h1, h2]
    · intro h; omega

theorem hexFixU_hexUpper (k v : Nat) : (hexFixU k v).all isHexUpper = true := by
  induction k generalizing v with
  | zero => rfl
  | succ k ih =>
    rw [hexFixU_succ, List.all_append, ih]
    simp [upper_digitChar_hexUpper _ (Nat.mod_lt v (by decide : 0 < 16))]

theorem hexFixU_digStr (k v : Nat) : DigStr 16 (hexFixU k v) := by
  induction k generalizing v with
  | zero => intro c hc; cases hc
  | succ k ih =>
    rw [hexFixU_succ]
    exact digStr_append (ih _) (by
      intro c hc
      simp only [List.mem_singleton] at hc
      subst hc
      exact isDig_upper_digitChar16 _ (Nat.mod_lt v (by decide)))

theorem valL_hexFixU (k v : Nat) : valL 16 (hexFixU k v) = v % 16 ^ k := by
  induction k generalizing v with
  | zero => simp [hexFixU, hexFix, valL, valAcc, Nat.mod_one]
  | succ k ih =>
    rw [hexFixU_succ, valL_snoc, ih, dv_upper_digitChar _ (Nat.mod_lt v (by decide))]
    rw [Nat.pow_succ, Nat.mul_comm (16 ^ k), Nat.mod_mul]
    omega

theorem pyIntL_hexFixU (k v : Nat) (hk : 1 ≤ k) : pyIntL (hexFixU k v) 16 = some ((v % 16 ^ k : Nat) : Int) := by
  have hne : hexFixU k v ≠ [] := by
    intro e
    have := congrArg List.length e
    simp at this
    omega
  rw [pyIntL_digits (by decide) (by decide) hne (hexFixU_digStr k v) (Or.inl rfl), valL_hexFixU]

theorem hexUpper_char (c : Char) (h : isHexUpper c = true) : ∃ k, k < 16 ∧ c = upper (digitChar k) := by
  have key : ∀ n < 71, isHexUpper (Char.ofNat n) = true →
      ∃ k, k < 16 ∧ Char.ofNat n = upper (digitChar k) := by decide
  have hlt : c.toNat < 71 := by
    simp only [isHexUpper, isDigit, Bool.or_eq_true, Bool.and_eq_true, decide_eq_true_eq] at h
    omega
  rw [← Char.ofNat_toNat c] at h ⊢
  exact key _ hlt h

/-- every group `[0-9A-F]{n}` is the fixed-width upper-case rendering of its value -/
theorem hexUpper_repr (n : Nat) (g : Str) (hl : g.length = n) (hh : g.all isHexUpper = true) :
    ∃ a, a < 16 ^ n ∧ g = hexFixU n a := by
  induction n generalizing g with
  | zero =>
    have : g = [] := List.length_eq_zero_iff.mp hl
    exact ⟨0, by decide, by rw [this]; rfl⟩
  | succ n ih =>
    have hne : g ≠ [] := by intro e; rw [e] at hl; cases hl
    have hsplit := List.dropLast_concat_getLast hne
    have hl' : g.dropLast.length = n := by simp [hl]
    have hall : ∀ c ∈ g, isHexUpper c = true := by simpa [List.all_eq_true] using hh
    have hh' : g.dropLast.all isHexUpper = true := by
      rw [List.all_eq_true]
      intro c hc
      exact hall c (List.dropLast_subset g hc)
    obtain ⟨a', ha', hg'⟩ := ih g.dropLast hl' hh'
    obtain ⟨k, hk, hck⟩ := hexUpper_char (g.getLast hne) (hall _ (List.getLast_mem hne))
    refine ⟨a' * 16 + k, ?_, ?_⟩
    · rw [Nat.pow_succ]; omega
    · rw [hexFixU_succ]
      have e1 : (a' * 16 + k) / 16 = a' := by omega
      have e2 : (a' * 16 + k) % 16 = k := by omega
      rw [e1, e2, ← hg', ← hck, hsplit]

theorem zeros_repr (n : Nat) : List.replicate n '0' = hexFixU n 0 := by
  unfold hexFixU
  rw [hexFix_zero]
  rw [List.map_replicate]
  rfl

@[simp] theorem matchItems_nil (n : Nat) (s : Str) :
    matchItems n [] s = if s = [] then some [] else none := by
  unfold matchItems; rfl

@[simp] theorem matchItems_lit_cons (n : Nat) (c c' : Char) (items : List TItem) (s : Str) :
    matchItems n (.lit c :: items) (c' :: s) = if c' = c then matchItems n items s else none := by
  rw [matchItems]

@[simp] theorem matchItems_lit_nil (n : Nat) (c : Char) (items : List TItem) :
    matchItems n (.lit c :: items) [] = none := by
  rw [matchItems]

theorem matchItems_zeros_append (n : Nat) (items : List TItem) (g rest : Str) (hg : g.length = n) :
    matchItems n (.zeros :: items) (g ++ rest) =
      if g.all (· = '0') = true then matchItems n items rest else none := by
  rw [matchItems]
  have h1 : (g ++ rest).take n = g := by rw [← hg]; simp
  have h2 : (g ++ rest).drop n = rest := by rw [← hg]; simp
  have h3 : (g ++ rest).length ≥ n := by simp; omega
  simp only [h1, h2, h3, true_and]

theorem matchItems_hex_append (n : Nat) (items : List TItem) (g rest : Str) (hg : g.length = n)
    (hh : g.all isHexUpper = true) :
    matchItems n (.hex :: items) (g ++ rest) = (matchItems n items rest).map (g :: ·) := by
  rw [matchItems]
  have h1 : (g ++ rest).take n = g := by rw [← hg]; simp
  have h2 : (g ++ rest).drop n = rest := by rw [← hg]; simp
  have h3 : (g ++ rest).length ≥ n := by simp; omega
  simp only [h1, h2, h3, hh, and_self, if_true]
  cases matchItems n items rest <;> rfl

theorem matchItems_zeros_end (n : Nat) (items : List TItem) (g : Str) (hg : g.length = n) :
    matchItems n (.zeros :: items) g =
      if g.all (· = '0') = true then matchItems n items [] else none := by
  have := matchItems_zeros_append n items g [] hg
  rwa [List.append_nil] at this

theorem matchItems_hex_end (n : Nat) (items : List TItem) (g : Str) (hg : g.length = n)
    (hh : g.all isHexUpper = true) :
    matchItems n (.hex :: items) g = (matchItems n items []).map (g :: ·) := by
  have := matchItems_hex_append n items g [] hg hh
  rwa [List.append_nil] at this

theorem inv_nil {n : Nat} {s : Str} {gs : List Str} (h : matchItems n [] s = some gs) : s = [] ∧ gs = [] := by
  rw [matchItems_nil] at h
  split_ifs at h with hs
  exact ⟨hs, by cases h; rfl⟩

theorem inv_lit {n : Nat} {c : Char} {items : List TItem} {s : Str} {gs : List Str}
    (h : matchItems n (.lit c :: items) s = some gs) : ∃ s', s = c :: s' ∧ matchItems n items s' = some gs := by
  cases s with
  | nil => rw [matchItems_lit_nil] at h; cases h
  | cons c' s' =>
    rw [matchItems_lit_cons] at h
    split_ifs at h with hc
    exact ⟨s', by rw [hc], h⟩

theorem inv_zeros {n : Nat} {items : List TItem} {s : Str} {gs : List Str}
    (h : matchItems n (.zeros :: items) s = some gs) :
    ∃ s', s = List.replicate n '0' ++ s' ∧ matchItems n items s' = some gs := by
  rw [matchItems] at h
  split_ifs at h with hc
  refine ⟨s.drop n, ?_, h⟩
  have hz : s.take n = List.replicate n '0' := by
    rw [List.eq_replicate_iff]
    refine ⟨by rw [List.length_take]; omega, ?_⟩
    intro b hb
    have := hc.2
    rw [List.all_eq_true] at this
    simpa using this b hb
  rw [← hz, List.take_append_drop]

theorem inv_hex {n : Nat} {items : List TItem} {s : Str} {gs : List Str}
    (h : matchItems n (.hex :: items) s = some gs) :
    ∃ g s' gs', s = g ++ s' ∧ g.length = n ∧ g.all isHexUpper = true ∧
      matchItems n items s' = some gs' ∧ gs = g :: gs' := by
  rw [matchItems] at h
  split_ifs at h with hc
  cases hm : matchItems n items (s.drop n) with
  | none => rw [hm] at h; cases h
  | some gs' =>
    rw [hm] at h
    refine ⟨s.take n, s.drop n, gs', (List.take_append_drop n s).symm, ?_, hc.2, hm, ?_⟩
    · rw [List.length_take]; omega
    · cases h; rfl

theorem inv_lits {n : Nat} (L : Str) {items : List TItem} {s : Str} {gs : List Str}
    (h : matchItems n (L.map .lit ++ items) s = some gs) :
    ∃ s', s = L ++ s' ∧ matchItems n items s' = some gs := by
  induction L generalizing s with
  | nil => exact ⟨s, rfl, h⟩
  | cons c L ih =>
    obtain ⟨s1, rfl, h1⟩ := inv_lit h
    obtain ⟨s2, rfl, h2⟩ := ih h1
    exact ⟨s2, rfl, h2⟩

/-- The text of an addressing mode in py65's tables. -/
def modeStr (mo : Py65.Spec.Mode) : PyStr.Str := (Py65.Spec.Mode.name mo).toList

/-- A row of the documented table as py65 spells it. -/
def render : Option (Py65.Spec.Mn × Py65.Spec.Mode) → PyStr.Str × PyStr.Str
  | some (mn, mo) => (Py65.Spec.Asm.mnText mn, modeStr mo)
  | none => ("???".toList, "imp".toList)

/-- The 256 rows of the documented table of a variant, as py65 spells them. -/
def specRows (v : Py65.Spec.Variant) : List (PyStr.Str × PyStr.Str) :=
  (List.range 256).map (fun (n : Nat) => render (Py65.Spec.decode v (n : Int)))

theorem specRows_length (v : Py65.Spec.Variant) : (specRows v).length = 256 := by
  simp [specRows]

theorem modeStr_inj (a b : Py65.Spec.Mode) (h : modeStr a = modeStr b) : a = b := by
  cases a <;> cases b <;> first | rfl | exact absurd h (by decide)

/-- the placeholder of undeclared opcodes -/
abbrev qqq : PyStr.Str := ['?', '?', '?']

theorem mnText_ne_placeholder (mn : Py65.Spec.Mn) : Py65.Spec.Asm.mnText mn ≠ qqq := by
  cases mn <;> simp [Py65.Spec.Asm.mnText]

theorem render_isRow (m : PyStr.Str) (mo : Py65.Spec.Mode) (hm : m ≠ qqq)
    (x : Option (Py65.Spec.Mn × Py65.Spec.Mode)) :
    decide (render x = (m, modeStr mo)) = Py65.Spec.Asm.isRow m mo x := by
  cases x with
  | none => simp [render, Py65.Spec.Asm.isRow, Ne.symm hm]
  | some r =>
    obtain ⟨mn, mo'⟩ := r
    simp only [render, Prod.mk.injEq, Bool.decide_and, Py65.Spec.Asm.isRow]
    congr 1
    by_cases h : mo' = mo
    · simp [h]
    · have : modeStr mo' ≠ modeStr mo := fun e => h (modeStr_inj _ _ e)
      simp [h, this]

/-- `indexOf` on the rendered documented table is the documented opcode lookup (the model never
looks up the placeholder `???`). -/
theorem indexOf_specRows (v : Py65.Spec.Variant) (m : PyStr.Str) (mo : Py65.Spec.Mode)
    (hm : m ≠ qqq) :
    indexOf (specRows v) (m, modeStr mo) = Py65.Spec.Asm.opcodeOf v m mo := by
  unfold indexOf Py65.Spec.Asm.opcodeOf
  simp only [specRows_length]
  have h : List.findIdx (fun y => decide (y = (m, modeStr mo))) (specRows v) =
      List.findIdx (Py65.Spec.Asm.rowIs v m mo) (List.range 256) := by
    unfold specRows
    rw [List.findIdx_map]
    congr 1
    funext n
    simp only [Function.comp, Py65.Spec.Asm.rowIs]
    exact render_isRow m mo hm _
  rw [h]

/-- No documented instruction is spelled `???`: the documented lookup of the placeholder fails. -/
theorem opcodeOf_placeholder (v : Py65.Spec.Variant) (mo : Py65.Spec.Mode) :
    Py65.Spec.Asm.opcodeOf v qqq mo = none := by
  unfold Py65.Spec.Asm.opcodeOf
  have : List.findIdx (Py65.Spec.Asm.rowIs v qqq mo) (List.range 256) = (List.range 256).length := by
    rw [List.findIdx_eq_length]
    intro n _
    unfold Py65.Spec.Asm.rowIs
    cases Py65.Spec.decode v (n : Int) with
    | none => rfl
    | some r =>
      obtain ⟨mn, mo'⟩ := r
      simp [Py65.Spec.Asm.isRow, mnText_ne_placeholder mn]
  rw [this]
  simp

open Py65.Spec.Asm (opcodeOf Shape Outcome Refusal Stmt encode encodeIn encodeAbs Documented disp isZp fits operandBytes)
open Py65.Spec (Mode)

theorem compiled_eq : compiled = [
    (['z', 'p', 'i'], [.lit '(', .lit '$', .zeros, .hex, .lit ')']),
    (['z', 'p', 'x'], [.lit '$', .zeros, .hex, .lit ',', .lit 'X']),
    (['z', 'p', 'y'], [.lit '$', .zeros, .hex, .lit ',', .lit 'Y']),
    (['z', 'p', 'g'], [.lit '$', .zeros, .hex]),
    (['i', 'n', 'x'], [.lit '(', .lit '$', .zeros, .hex, .lit ',', .lit 'X', .lit ')']),
    (['i', 'a', 'x'], [.lit '(', .lit '$', .hex, .hex, .lit ',', .lit 'X', .lit ')']),
    (['i', 'n', 'y'], [.lit '(', .lit '$', .zeros, .hex, .lit ')', .lit ',', .lit 'Y']),
    (['i', 'n', 'd'], [.lit '(', .lit '$', .hex, .hex, .lit ')']),
    (['a', 'b', 'x'], [.lit '$', .hex, .hex, .lit ',', .lit 'X']),
    (['a', 'b', 'y'], [.lit '$', .hex, .hex, .lit ',', .lit 'Y']),
    (['a', 'b', 's'], [.lit '$', .hex, .hex]),
    (['r', 'e', 'l'], [.lit '$', .hex, .hex]),
    (['i', 'm', 'p'], []),
    (['a', 'c', 'c'], []),
    (['a', 'c', 'c'], [.lit 'A']),
    (['i', 'm', 'm'], [.lit '#', .lit '$', .hex]) ] := by decide

/-- What the theorems need to know about a device record: its table is the rendered documented
table of the variant, its widths are `W` / `2W` with `W ∈ {8, 16}`, its formats are `%0(W/4)x` and
`%0(W/2)x`.  Established for the three devices by evaluation (`decide +kernel` on the GENERATED
tables), so a change of a device table or format makes these instances -- and every theorem that
uses them -- fail. -/
structure DevOK (d : Dev) (v : Py65.Spec.Variant) (W : Nat) : Prop where
  table : d.table = specRows v
  bw : d.byteWidth = W
  aw : d.addrWidth = 2 * W
  bfmt : ∀ k, pctFmt d.byteFmt k = some (fmtHexL (W / 4) k)
  afmt : ∀ k, pctFmt d.addrFmt k = some (fmtHexL (W / 2) k)
  hW : W = 8 ∨ W = 16

section backend
variable {d : Dev} {v : Py65.Spec.Variant} {W : Nat}

theorem DevOK.numchars (h : DevOK d v W) : d.numchars = W / 4 := by
  unfold Dev.numchars; rw [h.bw]

theorem DevOK.n_pos (h : DevOK d v W) : 1 ≤ W / 4 := by
  rcases h.hW with rfl | rfl <;> decide

theorem DevOK.pow16 (h : DevOK d v W) : 16 ^ (W / 4) = 2 ^ W := by
  rcases h.hW with rfl | rfl <;> decide

theorem DevOK.half (h : DevOK d v W) : W / 2 = W / 4 + W / 4 := by
  rcases h.hW with rfl | rfl <;> decide

/- `2 ^ (2 * W)` against `2 ^ W` is not linear arithmetic; each fact is settled once, at the two widths. -/

theorem byte_lt_addr (hW : W = 8 ∨ W = 16) {x : Int} (hx : x < 2 ^ W) : x < 2 ^ (2 * W) := by
  rcases hW with rfl | rfl
  · norm_num at hx ⊢; omega
  · norm_num at hx ⊢; omega

theorem word_spec (hW : W = 8 ∨ W = 16) {b1 b2 : Int} (hb1 : 0 ≤ b1 ∧ b1 < 2 ^ W) (hb2 : 0 ≤ b2 ∧ b2 < 2 ^ W) :
    (0 ≤ b1 + b2 * 2 ^ W ∧ b1 + b2 * 2 ^ W < 2 ^ (2 * W)) ∧
      (b1 + b2 * 2 ^ W) % 2 ^ W = b1 ∧ (b1 + b2 * 2 ^ W) / 2 ^ W = b2 ∧
      (b2 ≠ 0 → ¬ b1 + b2 * 2 ^ W < 2 ^ W) := by
  rcases hW with rfl | rfl
  · norm_num at hb1 hb2 ⊢; omega
  · norm_num at hb1 hb2 ⊢; omega

theorem pow16_2 (hW : W = 8 ∨ W = 16) : (16 : Nat) ^ (W / 4) * 16 ^ (W / 4) = 2 ^ (2 * W) := by
  rcases hW with rfl | rfl <;> decide

theorem toNat_lt_pow (hW : W = 8 ∨ W = 16) (x : Int) (h1 : x < 2 ^ (2 * W)) :
    x.toNat < 16 ^ (W / 4 + W / 4) := by
  rcases hW with rfl | rfl
  · norm_num at h1 ⊢; omega
  · norm_num at h1 ⊢; omega

theorem toNat_lt_byte (h : DevOK d v W) (x : Int) (h0 : 0 ≤ x) (h1 : x < 2 ^ W) : x.toNat < 16 ^ (W / 4) := by
  rw [h.pow16]
  have : ((x.toNat : Nat) : Int) = x := Int.toNat_of_nonneg h0
  exact_mod_cast (this ▸ h1 : ((x.toNat : Nat) : Int) < 2 ^ W)

theorem lo_val (hW : W = 8 ∨ W = 16) (x : Int) (h0 : 0 ≤ x) :
    ((x.toNat % 16 ^ (W / 4) : Nat) : Int) = x % 2 ^ W := by
  rcases hW with rfl | rfl
  · norm_num; omega
  · norm_num; omega

theorem hi_val (hW : W = 8 ∨ W = 16) (x : Int) (h0 : 0 ≤ x) (h1 : x < 2 ^ (2 * W)) :
    ((x.toNat / 16 ^ (W / 4) % 16 ^ (W / 4) : Nat) : Int) = x / 2 ^ W := by
  rcases hW with rfl | rfl
  · norm_num at h1 ⊢; omega
  · norm_num at h1 ⊢; omega

/-- high group all zeros ↔ the value is below one page -/
theorem hi_zero_iff (hW : W = 8 ∨ W = 16) (x : Int) (h0 : 0 ≤ x) (h1 : x < 2 ^ (2 * W)) :
    (∀ c ∈ hexFixU (W / 4) (x.toNat / 16 ^ (W / 4)), c = '0') ↔ x < 2 ^ W := by
  have hall := hexFixU_allzero (W / 4) (x.toNat / 16 ^ (W / 4))
  simp only [List.all_eq_true, decide_eq_true_eq] at hall
  rw [hall]
  have hlt := toNat_lt_pow hW x h1
  rcases hW with rfl | rfl
  · norm_num at hlt h1 ⊢; omega
  · norm_num at hlt h1 ⊢; omega

/-- the relative-branch computation is the documented displacement with its range check -/
theorem relOperand_spec (h : DevOK d v W) (x pc : Int) :
    relOperand d x pc =
      (if -(2 ^ (W - 1)) ≤ Py65.Spec.Asm.disp W x pc ∧ Py65.Spec.Asm.disp W x pc < 2 ^ (W - 1)
       then some (Py65.Spec.Asm.disp W x pc % 2 ^ W) else none) := by
  unfold relOperand Py65.Spec.Asm.disp Dev.addrMask Dev.byteMask
  rw [h.bw, h.aw]
  simp only [Py.shl, Py.shr, Int.one_mul, Py.land_mask]
  have e : x - pc - 2 = x - (pc + 2) := by omega
  rw [e]
  have h0 := Int.emod_nonneg (x - (pc + 2)) (show (2 : Int) ^ (2 * W) ≠ 0 by positivity)
  have h1 := Int.emod_lt_of_pos (x - (pc + 2)) (show (0 : Int) < 2 ^ (2 * W) by positivity)
  generalize (x - (pc + 2)) % 2 ^ (2 * W) = r at h0 h1 ⊢
  rcases h.hW with rfl | rfl
  · norm_num at h0 h1 ⊢
    split_ifs <;> first | rfl | omega
  · norm_num at h0 h1 ⊢
    split_ifs <;> first | rfl | omega

theorem emit_placeholder (pc : Int) (mode : Str) (gs : List Str) : emit d qqq pc mode gs = none := by
  simp [emit]

theorem modeStr_rel_iff (mo : Py65.Spec.Mode) : modeStr mo = ['r', 'e', 'l'] ↔ mo = .rel := by
  cases mo <;> decide

/-- `operands[1], operands[0]` for two groups: low byte first -/
def swap2 : List Str → List Str
  | [a, b] => [b, a]
  | gs => gs

theorem emit_nonrel (h : DevOK d v W) {m : Str} (hm : m ≠ qqq) (mo : Py65.Spec.Mode) (hmo : mo ≠ .rel)
    (pc : Int) (gs : List Str) :
    emit d m pc (modeStr mo) gs =
      match opcodeOf v m mo with
      | none => none
      | some op =>
        match hexInts (swap2 gs) with
        | some ops => some (finish d pc ((op : Int) :: ops))
        | none => some (.other "int") := by
  unfold emit
  have hr : ¬ modeStr mo = ['r', 'e', 'l'] := fun e => hmo ((modeStr_rel_iff mo).1 e)
  have hq : "???".toList = qqq := rfl
  have hrel : "rel".toList = ['r', 'e', 'l'] := rfl
  rw [hq, hrel, if_neg hm, h.table, indexOf_specRows v m mo hm]
  cases opcodeOf v m mo with
  | none => rfl
  | some op => simp only [if_neg hr]; rfl

theorem hexInts_nil : hexInts [] = some [] := rfl

theorem hexInts_one (n a : Nat) (hn : 1 ≤ n) :
    hexInts [hexFixU n a] = some [((a % 16 ^ n : Nat) : Int)] := by
  simp only [hexInts, pyIntL_hexFixU n a hn]

theorem hexInts_two (n a b : Nat) (hn : 1 ≤ n) :
    hexInts [hexFixU n a, hexFixU n b] = some [((a % 16 ^ n : Nat) : Int), ((b % 16 ^ n : Nat) : Int)] := by
  simp only [hexInts, pyIntL_hexFixU n a hn, pyIntL_hexFixU n b hn]

theorem hexInts_fmt (n a : Nat) : hexInts [fmtHexL n a] = some [(a : Int)] := by
  simp only [hexInts, pyIntL_fmtHexL]

theorem emit_rel (h : DevOK d v W) {m : Str} (hm : m ≠ qqq) (pc : Int) (x : Nat)
    (hx : x < 16 ^ (W / 4 + W / 4)) :
    emit d m pc ['r', 'e', 'l'] [hexFixU (W / 4) (x / 16 ^ (W / 4)), hexFixU (W / 4) x] =
      match opcodeOf v m .rel with
      | none => none
      | some op =>
        some (if -(2 ^ (W - 1)) ≤ disp W x pc ∧ disp W x pc < 2 ^ (W - 1)
              then finish d pc [(op : Int), disp W x pc % 2 ^ W] else .overflow) := by
  unfold emit
  have hq : "???".toList = qqq := rfl
  have hrel : "rel".toList = ['r', 'e', 'l'] := rfl
  have hms : (['r', 'e', 'l'] : Str) = modeStr .rel := rfl
  rw [hq, hrel, if_neg hm, h.table, hms, indexOf_specRows v m .rel hm]
  cases opcodeOf v m .rel with
  | none => rfl
  | some op =>
    have hfl : [hexFixU (W / 4) (x / 16 ^ (W / 4)), hexFixU (W / 4) x].flatten
        = hexFixU (W / 4 + W / 4) x := by
      simp [hexFixU_split]
    have hpos : 1 ≤ W / 4 + W / 4 := by have := h.n_pos; omega
    simp only [if_true, hfl, pyIntL_hexFixU _ x hpos, Nat.mod_eq_of_lt hx, relOperand_spec h]
    split_ifs with hc
    · have h0 : 0 ≤ disp W x pc % 2 ^ W := Int.emod_nonneg _ (by positivity)
      simp only [h.bfmt, hexInts_fmt, Int.toNat_of_nonneg h0]
    · rfl

/-- `for … : if match: … return`: the first template that produces a result wins -/
def orElseA (o : Option ARes) (k : ARes) : ARes :=
  match o with
  | some r => r
  | none => k

/-- the pattern matched with groups `gs`, then the body of the loop -/
def andThenG (g : Option (List Str)) (f : List Str → Option ARes) : Option ARes :=
  match g with
  | none => none
  | some gs => f gs

@[simp] theorem orElseA_none (k : ARes) : orElseA none k = k := rfl
@[simp] theorem orElseA_some (r k : ARes) : orElseA (some r) k = r := rfl
@[simp] theorem andThenG_none (f : List Str → Option ARes) : andThenG none f = none := rfl
@[simp] theorem andThenG_some (gs : List Str) (f : List Str → Option ARes) : andThenG (some gs) f = f gs := rfl
@[simp] theorem andThenG_ite (c : Prop) [Decidable c] (gs : List Str) (f : List Str → Option ARes) :
    andThenG (if c then some gs else none) f = if c then f gs else none := by
  split_ifs <;> rfl

theorem tryModes_cons (oc od : Str) (pc : Int) (mode : Str) (items : List TItem)
    (rest : List (Str × List TItem)) :
    tryModes d oc od pc ((mode, items) :: rest) =
      orElseA (andThenG (matchItems d.numchars items od) (emit d oc pc mode)) (tryModes d oc od pc rest) := by
  rw [tryModes, tryMode]
  cases matchItems d.numchars items od with
  | none => rfl
  | some gs =>
    simp only [andThenG_some]
    cases emit d oc pc mode gs <;> rfl

theorem tryModes_nil (oc od : Str) (pc : Int) : tryModes d oc od pc [] = .syntax := rfl

theorem encodeIn_skip {m : Str} {x pc : Int} {mo : Mode} (rest : List Mode)
    (h : opcodeOf v m mo = none ∨ fits W mo x = false) :
    encodeIn v W m x pc (mo :: rest) = encodeIn v W m x pc rest := by
  rw [encodeIn]
  rcases h with h | h
  · rw [h]
  · cases opcodeOf v m mo <;> simp only [h, Bool.false_eq_true, if_false]

theorem encodeIn_pick {m : Str} {x pc : Int} (pre : List Mode) (mo : Mode) (rest : List Mode) (op : Nat)
    (hskip : ∀ p ∈ pre, opcodeOf v m p = none ∨ fits W p x = false)
    (hop : opcodeOf v m mo = some op) (hfit : fits W mo x = true) :
    encodeIn v W m x pc (pre ++ mo :: rest) =
      match operandBytes W mo x pc with
      | none => .refuse .overflow
      | some bs => if pc + mo.len > 2 ^ (2 * W) then .refuse .overflow else .ok ((op : Int) :: bs) := by
  induction pre with
  | nil =>
    rw [List.nil_append, encodeIn, hop]
    simp only [hfit, if_true]
    rfl
  | cons p pre ih =>
    rw [List.cons_append, encodeIn_skip _ (hskip p (by simp)), ih fun q hq => hskip q (by simp [hq])]

theorem operandBytes_length {mo : Mode} {x pc : Int} {bs : List Int} (h : operandBytes W mo x pc = some bs) :
    mo.len = (bs.length : Int) + 1 := by
  cases mo <;> simp only [operandBytes, Option.some.injEq] at h
  case rel => split_ifs at h; cases h; rfl
  all_goals subst h; rfl

theorem operandBytes_some {mo : Mode} (hrel : mo ≠ .rel) (x pc : Int) :
    ∃ bs, operandBytes W mo x pc = some bs := by
  cases mo <;> first | exact ⟨_, rfl⟩ | exact absurd rfl hrel

/-- text in front of the operand value -/
def leadOf : Shape → Str
  | .ind | .indX | .indY => ['(']
  | _ => []

/-- text after the operand value -/
def afterOf : Shape → Str
  | .dirX => [',', 'X'] | .dirY => [',', 'Y'] | .ind => [')']
  | .indX => [',', 'X', ')'] | .indY => [')', ',', 'Y'] | _ => []

/-- the six shapes with an address operand -/
def Shape.isAddr : Shape → Bool
  | .none | .acc | .imm => false
  | _ => true

def toARes : Outcome → ARes
  | .ok bs => .ok bs
  | .refuse .syntax => .syntax
  | .refuse .overflow => .overflow
  | .refuse .key => .key

def ofTRes (r : TRes) (k : Str → ARes) : ARes :=
  match r with
  | .ok t => k t
  | .syntax => .syntax
  | .overflow => .overflow
  | .key => .key
  | .other w => .other w

/-- The model's back end on the canonical operand text of `(shape, value)`, preceded by the range
check that `normalize_and_split` applies to the value (`number`'s `_constrain` for addresses, the
byte check for immediates): what `assemble` computes once the operand word has been valued. -/
def assembleVal (d : Dev) (m : Str) (sh : Shape) (x pc : Int) : ARes :=
  match sh with
  | .none => backend d m [] pc
  | .acc => backend d m ['A'] pc
  | .imm => ofTRes (immText d x) fun t => backend d m (upperS t) pc
  | sh =>
    if x < 0 ∨ x > 2 ^ d.addrWidth - 1 then .overflow
    else ofTRes (addrText d x) fun t => backend d m (upperS (leadOf sh ++ t ++ afterOf sh)) pc

theorem assembleVal_addr (d : Dev) (m : Str) {sh : Shape} (hsh : Shape.isAddr sh = true) (x pc : Int) :
    assembleVal d m sh x pc =
      if x < 0 ∨ x > 2 ^ d.addrWidth - 1 then .overflow
      else ofTRes (addrText d x) fun t => backend d m (upperS (leadOf sh ++ t ++ afterOf sh)) pc := by
  cases sh <;> first | rfl | cases hsh

theorem inRange_addr {sh : Shape} {x : Int} (hsh : Shape.isAddr sh = true) :
    Shape.inRange W sh x = true ↔ 0 ≤ x ∧ x < 2 ^ (2 * W) := by
  cases sh <;> first | exact decide_eq_true_iff | cases hsh

theorem upperS_cons (c : Char) (s : Str) : upperS (c :: s) = upper c :: upperS s := rfl
theorem upperS_append (a b : Str) : upperS (a ++ b) = upperS a ++ upperS b := by simp [upperS]
theorem upperS_nil : upperS [] = [] := rfl
theorem afterOf_upper (sh : Shape) : upperS (afterOf sh) = afterOf sh := by cases sh <;> decide
theorem leadOf_upper (sh : Shape) : upperS (leadOf sh) = leadOf sh := by cases sh <;> decide

/-- canonical address text: `$` and the two upper-cased byte groups -/
theorem addrText_canon (h : DevOK d v W) (x : Int) (h0 : 0 ≤ x) (h1 : x < 2 ^ (2 * W)) :
    ∃ t, addrText d x = .ok t ∧
      upperS t = '$' :: (hexFixU (W / 4) (x.toNat / 16 ^ (W / 4)) ++ hexFixU (W / 4) x.toNat) := by
  have hlt := toNat_lt_pow h.hW x h1
  refine ⟨'$' :: fmtHexL (W / 2) x.toNat, ?_, ?_⟩
  · unfold addrText
    rw [if_neg (by omega), h.afmt]
  · rw [h.half, fmtHexL_eq_hexFix _ _ (by have := h.n_pos; omega) hlt, upperS_cons]
    show '$' :: hexFixU (W / 4 + W / 4) x.toNat = _
    rw [hexFixU_split]

/-- canonical immediate text: `#$` and one upper-cased byte group -/
theorem immText_canon (h : DevOK d v W) (x : Int) (h0 : 0 ≤ x) (h1 : x < 2 ^ W) :
    ∃ t, immText d x = .ok t ∧ upperS t = '#' :: '$' :: hexFixU (W / 4) x.toNat := by
  refine ⟨'#' :: '$' :: fmtHexL (W / 4) x.toNat, ?_, ?_⟩
  · unfold immText Dev.byteMask
    rw [h.bw]
    have : ¬ (x < 0 ∨ x > Py.shl 1 W - 1) := by
      simp only [Py.shl, Int.one_mul]; omega
    rw [if_neg this, h.bfmt]
  · rw [fmtHexL_eq_hexFix _ _ h.n_pos (toNat_lt_byte h x h0 h1)]
    rfl

theorem immText_out (h : DevOK d v W) (x : Int) (hx : ¬ (0 ≤ x ∧ x < 2 ^ W)) :
    immText d x = .overflow := by
  unfold immText Dev.byteMask
  rw [h.bw]
  have : (x < 0 ∨ x > Py.shl 1 W - 1) := by
    simp only [Py.shl, Int.one_mul]; omega
  rw [if_pos this]

theorem finish_eq (h : DevOK d v W) (pc : Int) (bs : List Int) :
    finish d pc bs = if pc + (bs.length : Int) > 2 ^ (2 * W) then .overflow else .ok bs := by
  unfold finish; rw [h.aw]

/-- The groups that the template of `mo` captures from the canonical text of the value `x`: none,
the low byte group, or the high and the low byte group. -/
def groups (W : Nat) (mo : Mode) (x : Int) : List Str :=
  match mo with
  | .imp | .acc => []
  | .abs | .abx | .aby | .ind | .iax | .rel =>
    [hexFixU (W / 4) (x.toNat / 16 ^ (W / 4)), hexFixU (W / 4) x.toNat]
  | _ => [hexFixU (W / 4) x.toNat]

/-- The value is one that the operand field of `mo` holds: a byte, or an address. -/
def InField (W : Nat) (mo : Mode) (x : Int) : Prop :=
  match mo with
  | .imp | .acc => True
  | .abs | .abx | .aby | .ind | .iax | .rel => 0 ≤ x ∧ x < 2 ^ (2 * W)
  | _ => 0 ≤ x ∧ x < 2 ^ W

theorem fits_of_inField {mo : Mode} {x : Int} (hx : InField W mo x) : fits W mo x = true := by
  cases mo <;> first | rfl | exact decide_eq_true hx.2

/-- the groups read back with `int(_, 16)`, low byte first, are the documented operand bytes -/
theorem hexInts_groups (h : DevOK d v W) {mo : Mode} (hrel : mo ≠ .rel) (x pc : Int) (hx : InField W mo x) :
    hexInts (swap2 (groups W mo x)) = operandBytes W mo x pc := by
  cases mo
  case rel => exact absurd rfl hrel
  case imp | acc => rfl
  case abs | abx | aby | ind | iax =>
    simp only [groups, swap2, operandBytes, hexInts_two _ _ _ h.n_pos, lo_val h.hW x hx.1, hi_val h.hW x hx.1 hx.2]
  all_goals
    simp only [groups, swap2, operandBytes, hexInts_one _ _ h.n_pos, lo_val h.hW x hx.1,
      Int.emod_eq_of_lt hx.1 hx.2]

theorem emit_groups (h : DevOK d v W) (m : Str) (mo : Mode) (x pc : Int) (hx : InField W mo x) :
    emit d m pc (modeStr mo) (groups W mo x) =
      (opcodeOf v m mo).map fun op =>
        match operandBytes W mo x pc with
        | some bs => finish d pc ((op : Int) :: bs)
        | none => .overflow := by
  by_cases hm : m = qqq
  · rw [hm, emit_placeholder, opcodeOf_placeholder]; rfl
  by_cases hrel : mo = .rel
  · subst hrel
    have := emit_rel h hm pc x.toNat (toNat_lt_pow h.hW x hx.2)
    rw [Int.toNat_of_nonneg hx.1] at this
    refine this.trans ?_
    cases opcodeOf v m .rel with
    | none => rfl
    | some op => simp only [Option.map, operandBytes]; split_ifs <;> rfl
  · obtain ⟨bs, hbs⟩ := operandBytes_some (W := W) hrel x pc
    rw [emit_nonrel h hm mo hrel, hexInts_groups h hrel x pc hx, hbs]
    cases opcodeOf v m mo <;> rfl

/-- a template that matched with the groups of `(mo, x)`, followed by the rest of the loop `K` -/
theorem step_mode (h : DevOK d v W) (m : Str) (x pc : Int) (mo : Mode) (hx : InField W mo x) (K : ARes)
    (rest : List Mode) (hK : K = toARes (encodeIn v W m x pc rest)) :
    orElseA (emit d m pc (modeStr mo) (groups W mo x)) K = toARes (encodeIn v W m x pc (mo :: rest)) := by
  rw [hK, emit_groups h m mo x pc hx, encodeIn, fits_of_inField hx]
  cases opcodeOf v m mo with
  | none => rfl
  | some op =>
    cases hob : operandBytes W mo x pc with
    | none => rfl
    | some bs =>
      simp only [Option.map, orElseA_some, if_true, finish_eq h, List.length_cons, operandBytes_length hob]
      split_ifs <;> first | rfl | omega

/-- a zero-page template (guarded by the all-zero test of the high group), then the rest of the loop -/
theorem step_zp (h : DevOK d v W) (m : Str) (x pc : Int) (h0 : 0 ≤ x) (h1 : x < 2 ^ (2 * W))
    (mo : Mode) (hz : isZp mo = true) (K : ARes) (rest : List Mode)
    (hK : K = toARes (encodeIn v W m x pc rest)) :
    orElseA (if ∀ c ∈ hexFixU (W / 4) (x.toNat / 16 ^ (W / 4)), c = '0'
             then emit d m pc (modeStr mo) [hexFixU (W / 4) x.toNat] else none) K
      = toARes (encodeIn v W m x pc (mo :: rest)) := by
  simp only [hi_zero_iff h.hW x h0 h1]
  by_cases hx : x < 2 ^ W
  · have hg : [hexFixU (W / 4) x.toNat] = groups W mo x := by cases mo <;> first | rfl | cases hz
    rw [if_pos hx, hg]
    exact step_mode h m x pc mo (by cases mo <;> first | exact ⟨h0, hx⟩ | cases hz) K rest hK
  · have hfit : fits W mo x = false := by simp only [fits, hz, if_true, decide_eq_false hx]
    rw [if_neg hx, encodeIn_skip rest (Or.inr hfit), hK]
    rfl

theorem upper_comma : upper ',' = ',' := by decide
theorem upper_X : upper 'X' = 'X' := by decide
theorem upper_Y : upper 'Y' = 'Y' := by decide
theorem upper_lp : upper '(' = '(' := by decide
theorem upper_rp : upper ')' = ')' := by decide

/-- the common opening of the address shapes in `core_addr`: unfolds both sides, disposes of a value `x`
out of range (`hr`), and for one in range (`hr'`) rewrites the operand text to the canonical one -/
macro "open_addr" h:ident x:ident hr:ident hr':ident : tactic =>
  `(tactic| (
    unfold assembleVal encode
    simp only [Shape.inRange, DevOK.aw $h]
    by_cases $hr:ident : $x < 0 ∨ $x > 2 ^ (2 * W) - 1
    · have : ¬ (0 ≤ $x ∧ $x < 2 ^ (2 * W)) := by omega
      simp [$hr:ident, this, toARes]
    have $hr':ident : 0 ≤ $x ∧ $x < 2 ^ (2 * W) := by omega
    obtain ⟨t, ht, hu⟩ := addrText_canon $h $x (And.left $hr') (And.right $hr')
    simp only [$hr:ident, $hr':ident, if_false, ht, ofTRes, leadOf, afterOf, List.nil_append,
      List.append_nil, List.cons_append, upperS_append, upperS_cons, upperS_nil, hu, Shape.modes,
      and_self, decide_true, if_true, upper_comma, upper_X, upper_Y, upper_lp, upper_rp,
      List.append_assoc]))

theorem core_addr (h : DevOK d v W) (m : Str) {sh : Shape} (hsh : Shape.isAddr sh = true) (x pc : Int) :
    assembleVal d m sh x pc = toARes (encode v W ⟨m, sh, x⟩ pc) := by
  have hH : (hexFixU (W / 4) (x.toNat / 16 ^ (W / 4))).length = d.numchars := by
    rw [h.numchars, hexFixU_length]
  have hL : (hexFixU (W / 4) x.toNat).length = d.numchars := by rw [h.numchars, hexFixU_length]
  have hHh := hexFixU_hexUpper (W / 4) (x.toNat / 16 ^ (W / 4))
  have hLh := hexFixU_hexUpper (W / 4) x.toNat
  cases sh
  case none | acc | imm => cases hsh
  all_goals
    open_addr h x hr hr'
    -- evaluate the sixteen templates on the canonical text
    simp only [backend, compiled_eq, tryModes_cons, tryModes_nil, matchItems_lit_cons, matchItems_lit_nil,
      matchItems_zeros_append _ _ _ _ hH, matchItems_hex_append _ _ _ _ hH hHh,
      matchItems_hex_append _ _ _ _ hL hLh, matchItems_hex_end _ _ _ hL hLh, matchItems_nil]
    simp
  -- Left are the templates that match the text, in the order of `compiled`, which is the order of
  -- `Shape.modes`: the zero-page template before the absolute one (and `rel` last for a plain address).
  -- One step per template; its two `_` are the rest of the loop and the rest of `Shape.modes`.
  · exact step_zp h m x pc hr'.1 hr'.2 .zpg rfl _ _
      (step_mode h m x pc .abs hr' _ _ (step_mode h m x pc .rel hr' _ _ rfl))
  · exact step_zp h m x pc hr'.1 hr'.2 .zpx rfl _ _ (step_mode h m x pc .abx hr' _ _ rfl)
  · exact step_zp h m x pc hr'.1 hr'.2 .zpy rfl _ _ (step_mode h m x pc .aby hr' _ _ rfl)
  · exact step_zp h m x pc hr'.1 hr'.2 .zpi rfl _ _ (step_mode h m x pc .ind hr' _ _ rfl)
  · exact step_zp h m x pc hr'.1 hr'.2 .inx rfl _ _ (step_mode h m x pc .iax hr' _ _ rfl)
  · exact step_zp h m x pc hr'.1 hr'.2 .iny rfl _ _ rfl

theorem core_none (h : DevOK d v W) (m : Str) (x pc : Int) :
    assembleVal d m .none x pc = toARes (encode v W ⟨m, .none, x⟩ pc) := by
  unfold assembleVal encode
  simp only [Shape.inRange, if_true, Shape.modes]
  simp only [backend, compiled_eq, tryModes_cons, tryModes_nil, matchItems_lit_nil, matchItems_nil]
  simp
  exact step_mode h m x pc .imp trivial _ _ (step_mode h m x pc .acc trivial _ _ rfl)

theorem core_acc (h : DevOK d v W) (m : Str) (x pc : Int) :
    assembleVal d m .acc x pc = toARes (encode v W ⟨m, .acc, x⟩ pc) := by
  unfold assembleVal encode
  simp only [Shape.inRange, if_true, Shape.modes]
  simp only [backend, compiled_eq, tryModes_cons, tryModes_nil, matchItems_lit_nil, matchItems_nil,
    matchItems_lit_cons]
  simp
  exact step_mode h m x pc .acc trivial _ _ rfl

theorem core_imm (h : DevOK d v W) (m : Str) (x pc : Int) :
    assembleVal d m .imm x pc = toARes (encode v W ⟨m, .imm, x⟩ pc) := by
  unfold assembleVal encode
  simp only [Shape.inRange]
  by_cases hr : 0 ≤ x ∧ x < 2 ^ W
  · obtain ⟨t, ht, hu⟩ := immText_canon h x hr.1 hr.2
    simp only [hr, and_self, decide_true, if_true, ht, ofTRes, hu, Shape.modes]
    have hL : (hexFixU (W / 4) x.toNat).length = d.numchars := by rw [h.numchars, hexFixU_length]
    have hLh := hexFixU_hexUpper (W / 4) x.toNat
    simp only [backend, compiled_eq, tryModes_cons, tryModes_nil, matchItems_lit_cons,
      matchItems_hex_end _ _ _ hL hLh, matchItems_nil]
    simp
    exact step_mode h m x pc .imm hr _ _ rfl
  · simp only [immText_out h x hr, ofTRes, hr, decide_false, Bool.false_eq_true, if_false, toARes]

/-- The back end on canonical operand text is the documented encoding or the right refusal. -/
theorem asm_core_of_devOK (h : DevOK d v W) (m : Str) (sh : Shape) (x pc : Int) :
    assembleVal d m sh x pc = toARes (encode v W ⟨m, sh, x⟩ pc) := by
  cases sh
  case none => exact core_none h m x pc
  case acc => exact core_acc h m x pc
  case imm => exact core_imm h m x pc
  all_goals exact core_addr h m rfl x pc

end backend

section sound
variable {d : Dev} {v : Py65.Spec.Variant} {W : Nat}

/-- The operand text `normalize_and_split` produces for `(shape, value)`. -/
def canonText (W : Nat) (sh : Shape) (x : Int) : Str :=
  match sh with
  | .none => []
  | .acc => ['A']
  | .imm => '#' :: '$' :: hexFixU (W / 4) x.toNat
  | sh => leadOf sh ++ '$' ::
      (hexFixU (W / 4) (x.toNat / 16 ^ (W / 4)) ++ (hexFixU (W / 4) x.toNat ++ afterOf sh))

theorem canonText_isAddr (W : Nat) {sh : Shape} (hsh : Shape.isAddr sh = true) (x : Int) :
    canonText W sh x = leadOf sh ++ '$' ::
      (hexFixU (W / 4) (x.toNat / 16 ^ (W / 4)) ++ (hexFixU (W / 4) x.toNat ++ afterOf sh)) := by
  cases sh <;> first | rfl | cases hsh

theorem assembleVal_canon (h : DevOK d v W) (m : Str) (sh : Shape) (x pc : Int)
    (hin : Shape.inRange W sh x = true) :
    assembleVal d m sh x pc = backend d m (canonText W sh x) pc := by
  cases sh
  case none => rfl
  case acc => rfl
  case imm =>
    simp only [Shape.inRange, decide_eq_true_eq] at hin
    obtain ⟨t, ht, hu⟩ := immText_canon h x hin.1 hin.2
    simp only [assembleVal, ht, ofTRes, hu, canonText]
  all_goals
    rw [inRange_addr rfl] at hin
    obtain ⟨t, ht, hu⟩ := addrText_canon h x hin.1 hin.2
    rw [assembleVal_addr d m rfl, h.aw, if_neg (by omega), ht, canonText_isAddr W rfl]
    simp only [ofTRes, upperS_append, leadOf_upper, afterOf_upper, hu, List.cons_append, List.append_assoc]

/-- The template of an address operand of shape `sh`: `$`, the high byte group (`hi`: all zeros in a
zero-page template, hex digits in an absolute one) and the low byte group, between the literal text
of the shape. -/
def tmplOf (hi : TItem) (sh : Shape) : List TItem :=
  (leadOf sh).map .lit ++ .lit '$' :: hi :: .hex :: (afterOf sh).map .lit

theorem matchItems_tmplOf {n : Nat} {hi : TItem} (hhi : hi = .zeros ∨ hi = .hex) {sh : Shape} {s : Str}
    {gs : List Str} (hm : matchItems n (tmplOf hi sh) s = some gs) :
    ∃ a b, a < 16 ^ n ∧ b < 16 ^ n ∧ s = leadOf sh ++ '$' :: (hexFixU n a ++ (hexFixU n b ++ afterOf sh)) := by
  obtain ⟨_, rfl, h1⟩ := inv_lits _ hm
  obtain ⟨r, rfl, h2⟩ := inv_lit h1
  obtain ⟨a, ha, s1, gs1, rfl, h3⟩ : ∃ a, a < 16 ^ n ∧ ∃ s1 gs1, r = hexFixU n a ++ s1 ∧
      matchItems n (.hex :: (afterOf sh).map .lit) s1 = some gs1 := by
    rcases hhi with rfl | rfl
    · obtain ⟨s1, e, h3⟩ := inv_zeros h2
      exact ⟨0, Nat.pow_pos (by decide), s1, gs, by rw [e, zeros_repr], h3⟩
    · obtain ⟨g, s1, gs1, e, hl, hh, h3, _⟩ := inv_hex h2
      obtain ⟨a, ha, rfl⟩ := hexUpper_repr n g hl hh
      exact ⟨a, ha, s1, gs1, e, h3⟩
  obtain ⟨g, s2, gs2, rfl, hl, hh, h4, _⟩ := inv_hex h3
  obtain ⟨b, hb, rfl⟩ := hexUpper_repr n g hl hh
  rw [← List.append_nil (List.map _ _)] at h4
  obtain ⟨s3, rfl, h5⟩ := inv_lits _ h4
  obtain ⟨rfl, _⟩ := inv_nil h5
  exact ⟨a, b, ha, hb, by rw [List.append_nil]⟩

theorem canon_addr (h : DevOK d v W) (a b : Nat) (ha : a < 16 ^ (W / 4)) (hb : b < 16 ^ (W / 4)) (sh : Shape)
    (hsh : Shape.isAddr sh = true) :
    Shape.inRange W sh ((a * 16 ^ (W / 4) + b : Nat) : Int) = true ∧
    leadOf sh ++ '$' :: (hexFixU (W / 4) a ++ (hexFixU (W / 4) b ++ afterOf sh))
      = canonText W sh ((a * 16 ^ (W / 4) + b : Nat) : Int) := by
  have hpos : 0 < 16 ^ (W / 4) := Nat.pow_pos (by decide)
  constructor
  · have : a * 16 ^ (W / 4) + b < 2 ^ (2 * W) := by
      rw [← pow16_2 h.hW]
      calc a * 16 ^ (W / 4) + b < a * 16 ^ (W / 4) + 16 ^ (W / 4) := by omega
        _ = (a + 1) * 16 ^ (W / 4) := by rw [Nat.add_mul, Nat.one_mul]
        _ ≤ 16 ^ (W / 4) * 16 ^ (W / 4) := Nat.mul_le_mul_right _ ha
    have : (((a * 16 ^ (W / 4) + b : Nat)) : Int) < 2 ^ (2 * W) := by exact_mod_cast this
    exact (inRange_addr hsh).mpr ⟨Int.natCast_nonneg _, this⟩
  · have e1 : (a * 16 ^ (W / 4) + b) / 16 ^ (W / 4) = a := by
      rw [Nat.add_comm, Nat.add_mul_div_right _ _ hpos, Nat.div_eq_of_lt hb, Nat.zero_add]
    have e2 : hexFixU (W / 4) (a * 16 ^ (W / 4) + b) = hexFixU (W / 4) b := by
      unfold hexFixU
      rw [← hexFix_mod, Nat.add_comm, Nat.add_mul_mod_self_right, Nat.mod_eq_of_lt hb]
    rw [canonText_isAddr W hsh, Int.toNat_natCast, e1, e2]

/-- the sixteen templates: twelve address templates, two empty ones, `A` and `#$hh` -/
theorem compiled_forms : ∀ p ∈ compiled,
    (∃ hi ∈ [TItem.zeros, .hex], ∃ sh ∈ [Shape.dir, .dirX, .dirY, .ind, .indX, .indY], p.2 = tmplOf hi sh) ∨
      p.2 = [] ∨ p.2 = [.lit 'A'] ∨ p.2 = [.lit '#', .lit '$', .hex] := by decide

/-- A text matched by any of the sixteen templates is the canonical operand text of some
`(shape, value)` within range. -/
theorem match_canonical (h : DevOK d v W) (od : Str) (mode : Str) (items : List TItem) (gs : List Str)
    (hmem : (mode, items) ∈ compiled) (hm0 : matchItems (W / 4) items od = some gs) :
    ∃ sh x, Shape.inRange W sh x = true ∧ od = canonText W sh x := by
  rcases compiled_forms _ hmem with ⟨hi, hhi, sh, hsh, e⟩ | e | e | e <;> dsimp only at e <;> subst e
  · have hsh' : Shape.isAddr sh = true := by clear hmem hm0; revert sh; decide
    obtain ⟨a, b, ha, hb, rfl⟩ := matchItems_tmplOf (by simpa using hhi) hm0
    exact ⟨sh, _, canon_addr h a b ha hb sh hsh'⟩
  · obtain ⟨rfl, _⟩ := inv_nil hm0
    exact ⟨.none, 0, rfl, rfl⟩
  · obtain ⟨_, rfl, hm1⟩ := inv_lit hm0
    obtain ⟨rfl, _⟩ := inv_nil hm1
    exact ⟨.acc, 0, rfl, rfl⟩
  · obtain ⟨_, rfl, hm1⟩ := inv_lit hm0
    obtain ⟨_, rfl, hm2⟩ := inv_lit hm1
    obtain ⟨g, _, _, rfl, hgl, hgh, hm3, _⟩ := inv_hex hm2
    obtain ⟨rfl, _⟩ := inv_nil hm3
    obtain ⟨a, ha, rfl⟩ := hexUpper_repr _ g hgl hgh
    refine ⟨.imm, a, ?_, ?_⟩
    · have : ((a : Nat) : Int) < 2 ^ W := by
        have : a < 2 ^ W := by rw [← h.pow16]; exact ha
        exact_mod_cast this
      simp [Shape.inRange, this]
    · simp [canonText]

/-- if the loop does not fall off its end, some template matched -/
theorem tryModes_matched (oc od : Str) (pc : Int) (l : List (Str × List TItem))
    (hne : tryModes d oc od pc l ≠ .syntax) :
    ∃ mode items gs, (mode, items) ∈ l ∧ matchItems d.numchars items od = some gs := by
  induction l with
  | nil => exact absurd rfl hne
  | cons p rest ih =>
    obtain ⟨mode, items⟩ := p
    rw [tryModes_cons] at hne
    cases hm : matchItems d.numchars items od with
    | some gs => exact ⟨mode, items, gs, List.mem_cons_self, hm⟩
    | none =>
      rw [hm] at hne
      obtain ⟨mode', items', gs', hmem, hm'⟩ := ih hne
      exact ⟨mode', items', gs', List.mem_cons_of_mem _ hmem, hm'⟩

/-- Whatever (opcode, operand) text reaches the back end: unless it ends in `SyntaxError`, the
operand text is the canonical text of some `(shape, value)` within range, and the result is the
documented outcome for `(opcode, shape, value)` at `pc`. -/
theorem backend_canonical (h : DevOK d v W) (oc od : Str) (pc : Int) (hne : backend d oc od pc ≠ .syntax) :
    ∃ sh x, Shape.inRange W sh x = true ∧ od = canonText W sh x ∧
      backend d oc od pc = toARes (encode v W ⟨oc, sh, x⟩ pc) := by
  obtain ⟨mode, items, gs, hmem, hm⟩ := tryModes_matched oc od pc compiled hne
  rw [h.numchars] at hm
  obtain ⟨sh, x, hin, rfl⟩ := match_canonical h od mode items gs hmem hm
  exact ⟨sh, x, hin, rfl, by rw [← assembleVal_canon h oc sh x pc hin, asm_core_of_devOK h]⟩

theorem toARes_ok {o : Outcome} {bs : List Int} (h : toARes o = .ok bs) : o = .ok bs := by
  cases o with
  | ok bs' => cases h; rfl
  | refuse r => cases r <;> cases h

theorem toARes_ne_other (o : Outcome) (w : String) : toARes o ≠ .other w := by
  cases o with
  | ok bs => simp [toARes]
  | refuse r => cases r <;> simp [toARes]

/-- "Never mis-assembles", back end: whatever (opcode, operand) text reaches the back end, if
bytes come back then the operand text is the canonical text of some `(shape, value)` within range
and the bytes are exactly the documented encoding of `(opcode, shape, value)` at `pc`. -/
theorem backend_sound (h : DevOK d v W) (oc od : Str) (pc : Int) (bs : List Int)
    (hb : backend d oc od pc = .ok bs) :
    ∃ sh x, Shape.inRange W sh x = true ∧ od = canonText W sh x ∧ encode v W ⟨oc, sh, x⟩ pc = .ok bs := by
  obtain ⟨sh, x, hin, hod, he⟩ := backend_canonical h oc od pc (by rw [hb]; simp)
  exact ⟨sh, x, hin, hod, toARes_ok (he ▸ hb)⟩

theorem backend_ne_other (h : DevOK d v W) (oc od : Str) (pc : Int) (w : String) :
    backend d oc od pc ≠ .other w := by
  intro hb
  obtain ⟨sh, x, _, _, he⟩ := backend_canonical h oc od pc (by rw [hb]; simp)
  exact toARes_ne_other _ w (he ▸ hb)

end sound

section disasm
variable {d : Dev} {v : Py65.Spec.Variant} {W : Nat}
open Py65.Spec (decode)
open Py65.Spec.Asm (mnText)

theorem table_get (h : DevOK d v W) (n : Nat) (hn : n < 256) :
    d.table[n]? = some (render (decode v (n : Int))) := by
  rw [h.table]
  unfold specRows
  rw [List.getElem?_map, List.getElem?_range hn]
  rfl

/-- the operand text the disassembler prints: `label_for(value, '$' + fmt % value)` -/
def shown (P : Parser) (k : Nat) (value : Int) : Str :=
  match labelFor P value with
  | some l => l
  | none => '$' :: fmtHexL k value.toNat

theorem labelOr_byte (h : DevOK d v W) (P : Parser) (a : Int) :
    labelOr P d.byteFmt a = some (shown P (W / 4) a) := by
  unfold labelOr shown
  cases labelFor P a <;> simp [h.bfmt]

theorem labelOr_addr (h : DevOK d v W) (P : Parser) (a : Int) :
    labelOr P d.addrFmt a = some (shown P (W / 2) a) := by
  unfold labelOr shown
  cases labelFor P a <;> simp [h.afmt]

/-- The text and length the disassembler produces for a decoded instruction with operand cell
`b1` and operand word `w` at `pc`. -/
def disText (d : Dev) (P : Parser) (W : Nat) (mn : Str) (mo : Mode) (pc b1 w : Int) : Str :=
  match mo with
  | .imp => mn
  | .acc => mn ++ [' ', 'A']
  | .imm => mn ++ ' ' :: '#' :: '$' :: fmtHexL (W / 4) b1.toNat
  | .zpg => mn ++ ' ' :: shown P (W / 4) b1
  | .zpx => mn ++ ' ' :: (shown P (W / 4) b1 ++ [',', 'X'])
  | .zpy => mn ++ ' ' :: (shown P (W / 4) b1 ++ [',', 'Y'])
  | .abs => mn ++ ' ' :: shown P (W / 2) w
  | .abx => mn ++ ' ' :: (shown P (W / 2) w ++ [',', 'X'])
  | .aby => mn ++ ' ' :: (shown P (W / 2) w ++ [',', 'Y'])
  | .ind => mn ++ ' ' :: '(' :: (shown P (W / 2) w ++ [')'])
  | .inx => mn ++ ' ' :: '(' :: (shown P (W / 4) b1 ++ [',', 'X', ')'])
  | .iny => mn ++ ' ' :: '(' :: (shown P (W / 4) b1 ++ [')', ',', 'Y'])
  | .rel => mn ++ ' ' :: shown P (W / 2) (relTarget d pc b1)
  | .zpi => mn ++ ' ' :: '(' :: (shown P (W / 4) b1 ++ [')'])
  | .iax => mn ++ ' ' :: '(' :: (shown P (W / 2) w ++ [',', 'X', ')'])

theorem dis_spec (h : DevOK d v W) (P : Parser) (mem : Int → Int) (pc : Int)
    (hop : 0 ≤ byteAt d mem pc ∧ byteAt d mem pc < 256) :
    instructionAt d P mem pc =
      match decode v (byteAt d mem pc) with
      | none => .ok 1 qqq
      | some (mn, mo) =>
        .ok mo.len.toNat (disText d P W (mnText mn) mo pc (byteAt d mem (pc + 1)) (wordAt d mem (pc + 1))) := by
  have hlen : d.table.length = 256 := by rw [h.table, specRows_length]
  have hn : (byteAt d mem pc).toNat < 256 := by omega
  have hcast : (((byteAt d mem pc).toNat : Nat) : Int) = byteAt d mem pc := Int.toNat_of_nonneg hop.1
  unfold instructionAt
  simp only [hlen]
  rw [if_neg (by simp; omega), table_get h _ hn, hcast]
  cases hdec : decode v (byteAt d mem pc) with
  | none => simp [render]
  | some r =>
    obtain ⟨mn, mo⟩ := r
    simp only [render, labelOr_byte h, labelOr_addr h, h.bfmt]
    cases mo <;> simp [modeStr, Py65.Spec.Mode.name, sp, disText, Py65.Spec.Mode.len]

end disasm

end Py65.Proofs.Asm
