/-
COMPOSITION of the regenerated monitor commands (C20).

`Py65.Gen.MonCmdGen.onecmd` (the generated `Monitor.onecmd` + `cmd.Cmd.onecmd`) reaches every `do_*` method
that `MonCmdGen` does not translate through its parameter `oth`; `Props/C20g.lean` states C20 for it under
two hypotheses about that parameter: `OthModels oth ext` and `ext.Honest`.  Here the parameter is
INSTANTIATED with the commands the other units regenerate

  `do_fill do_load do_save do_mem`                                   (`Gen/MonMemGen.lean`, `Gen/MonFillGen.lean`)
  `do_step do_goto do_return do_add_breakpoint do_delete_breakpoint do_show_breakpoints`   (`Gen/MonRunGen.lean`)
  `do_cycles do_tilde do_disassemble`                                (`Gen/MonShowGen.lean`)
  `do_reset do_mpu`                                                  (`Gen/MonIOGen.lean`)

through the state adapters of `Model/MonComposeRt.lean` (`othG`), the semantics `Ext` of the model is DEFINED
from the same generated commands (`extG`), and the two hypotheses are proved, call by call, from the units'
`GenEq` theorems.  What stays a parameter HERE: `P.unt` = the five `do_*` methods not plugged in in this file
(`do_help`, `do_version`, `do_assemble` with `_interactive_assemble`, `do_cd`, `do_pwd`), with the hypothesis
`UntModels`.  (`Gen/MonAsmGen.lean` translates exactly these five, on a state type of its own;
`Proofs/MonCompose2.lean` instantiates `P.unt` with them and proves `UntModels`.)

The hypotheses are asked for in POINTWISE form (`ModelsAt`, `HonestAt`, `onecmd_sim_at`, `onecmd_rejected_at` of
`MonCmdGenEq` / `MonCmdLemmas`: at the one call a line is dispatched to), because a generated run command may run
out of fuel (the model says nothing then) and because `do_fill` is only tied for a well-formed label table.
-/
import Py65.Model.MonComposeRt
import Py65.Proofs.MonCmdGenEq
import Py65.Proofs.MonMemGenEq
import Py65.Proofs.MonRunGenEq
import Py65.Proofs.ReprGenEq
import Py65.Proofs.MonIOGenEq

namespace Py65.Proofs.MonCompose
open Py65 Py65.Model Py65.Model.PyStr Py65.Model.AddrParser Py65.Model.MonCmd Py65.Model.MonGenRt
open Py65.Model.MonCmdRt Py65.Model.MonComposeRt Py65.Gen Py65.Proofs.MonCmd Py65.Proofs.MonCmdGenEq

open Py65.Model.MonMemRt Py65.Model.ShowRt

/-- Everything the composition is parametrised by: the glue (`Model/MonComposeRt.lean`), the parameters of the
generated units (the OS `w`, the device step, the uninterpreted printers / formatters of the display unit,
the environment of `MonIOGen`), the fuels of the three fuel-bounded loops, and -- the only SEMANTIC parameters --
the five methods not plugged in here: `unt name arg` (`do_help`, `do_version`, `do_assemble`, `do_cd`, `do_pwd`) with
`asm` = what `assemble` does to registers and memory according to the model (`Ext.run .assemble`). -/
structure Params where
  G : Glue
  w : World
  step : MonCmd.Dev → St → St
  dis : Core → Str → St → List Str
  itoa : Int → Int → Except Exc Str
  mpurepr : Core → St → Except Exc Str
  iat : Core → St → Int → Except Exc (Int × Str)
  fmtdis : Core → St → Int → Int → Str → Except Exc Str
  E : MonIORt.Env
  fuelFill : Nat
  fuelRun : Nat
  fuelDis : Nat
  unt : Str → Str → CmdSt → Flow CmdSt PyRet
  asm : Core → Str → Verdict × Regs × (Int → Int)

variable (P : Params)

def fillC (arg : Str) (c : Core) : MFlow MemSt Unit :=
  MonMemGen.do_fill P.w P.G.reply (memDev c.dev) c.parser P.fuelFill arg (memStOf P.G c)
def loadC (arg : Str) (c : Core) : MFlow MemSt Unit :=
  MonMemGen.do_load P.w P.G.reply (memDev c.dev) c.parser P.fuelFill arg (memStOf P.G c)
def saveC (arg : Str) (c : Core) : MFlow MemSt Unit :=
  MonMemGen.do_save P.w P.G.reply (memDev c.dev) c.parser arg (memStOf P.G c)
def memC (arg : Str) (c : Core) : MFlow MemSt Unit :=
  MonMemGen.do_mem P.w P.G.reply (memDev c.dev) c.parser arg (memStOf P.G c)
def stepC (arg : Str) (c : Core) : Flow RunSt Unit :=
  MonRunGen.do_step (P.step c.dev) (P.dis c) (memDev c.dev) c.parser arg (runStOf c)
def retC (arg : Str) (c : Core) : Flow RunSt Unit :=
  MonRunGen.do_return (P.step c.dev) (P.dis c) (memDev c.dev) c.parser P.fuelRun arg (runStOf c)
def gotoC (arg : Str) (c : Core) : Flow RunSt Unit :=
  MonRunGen.do_goto (P.step c.dev) (P.dis c) (memDev c.dev) c.parser P.fuelRun arg (runStOf c)
def addBpC (arg : Str) (c : Core) : Flow RunSt Unit :=
  MonRunGen.do_add_breakpoint (P.step c.dev) (P.dis c) (memDev c.dev) c.parser arg (runStOf c)
def delBpC (arg : Str) (c : Core) : Flow RunSt Unit :=
  MonRunGen.do_delete_breakpoint (P.step c.dev) (P.dis c) (memDev c.dev) c.parser arg (runStOf c)
def showBpC (arg : Str) (c : Core) : Flow RunSt Unit :=
  MonRunGen.do_show_breakpoints (P.step c.dev) (P.dis c) (memDev c.dev) c.parser arg (runStOf c)
def cyclesC (arg : Str) (c : Core) : Flow ShowSt Unit :=
  MonShowGen.do_cycles P.itoa (P.mpurepr c) (P.iat c) (P.fmtdis c) (memDev c.dev) c.parser arg (showStOf c)
def tildeC (arg : Str) (c : Core) : Flow ShowSt Unit :=
  MonShowGen.do_tilde P.itoa (P.mpurepr c) (P.iat c) (P.fmtdis c) (memDev c.dev) c.parser arg (showStOf c)
def disC (arg : Str) (c : Core) : Flow ShowSt Unit :=
  MonShowGen.do_disassemble P.itoa (P.mpurepr c) (P.iat c) (P.fmtdis c) (memDev c.dev) c.parser P.fuelDis arg (showStOf c)
def resetC (arg : Str) (c : Core) : MonIORt.Flow MonIORt.IoSt Unit := MonIOGen.do_reset P.E arg (ioStOf P.G c)
def mpuC (arg : Str) (c : Core) : MonIORt.Flow MonIORt.IoSt Unit := MonIOGen.do_mpu P.E arg (ioStOf P.G c)

/-- `do_<cmd>(arg)` for a command that `MonCmdGen` does not translate: the generated method of the unit
that does, through the adapters; `P.unt` for the five not plugged in here (the seven commands of `MonCmdGen`
never get here: `call_do` calls them directly). -/
def othCmd (cmd : Command) (name arg : Str) (σ : CmdSt) : Flow CmdSt PyRet :=
  match cmd with
  | .fill => liftMem σ.core σ (fillC P arg σ.core)
  | .load => liftMem σ.core σ (loadC P arg σ.core)
  | .save => liftMem σ.core σ (saveC P arg σ.core)
  | .mem => liftMem σ.core σ (memC P arg σ.core)
  | .step => liftRun σ.core σ (stepC P arg σ.core)
  | .ret => liftRun σ.core σ (retC P arg σ.core)
  | .goto => liftRun σ.core σ (gotoC P arg σ.core)
  | .add_breakpoint => liftRun σ.core σ (addBpC P arg σ.core)
  | .delete_breakpoint => liftRun σ.core σ (delBpC P arg σ.core)
  | .show_breakpoints => liftRun σ.core σ (showBpC P arg σ.core)
  | .cycles => liftShow σ.core σ (cyclesC P arg σ.core)
  | .tilde => liftShow σ.core σ (tildeC P arg σ.core)
  | .disassemble => liftShow σ.core σ (disC P arg σ.core)
  | .reset => liftIo σ.core σ (resetC P arg σ.core)
  | .mpu => liftIo σ.core σ (mpuC P arg σ.core)
  | _ => P.unt name arg σ

def cmdOfName (name : Str) : Option Command :=
  match commandTable.find? (fun kv => "do_".toList ++ kv.1 = name) with
  | some kv => some kv.2
  | none => none

def othG : Str → Str → CmdSt → Flow CmdSt PyRet := fun name arg σ =>
  match cmdOfName name with
  | some cmd => othCmd P cmd name arg σ
  | none => P.unt name arg σ

theorem cmdOfName_word (cmd : Command) : cmdOfName ("do_".toList ++ cmdWord cmd) = some cmd := by
  rw [← commandOf_cmdWord cmd]
  unfold cmdOfName commandOf
  simp only [List.append_cancel_left_eq]
  cases commandTable.find? fun kv => decide (kv.1 = cmdWord cmd) <;> rfl

theorem othG_word (cmd : Command) (arg : Str) (σ : CmdSt) :
    othG P ("do_".toList ++ cmdWord cmd) arg σ = othCmd P cmd ("do_".toList ++ cmdWord cmd) arg σ := by
  unfold othG
  rw [cmdOfName_word]

/-- The model's `Ext` DEFINED from the generated commands: verdict (`MonComposeRt.fillVerdict` …: what
"refused" means), registers and cells afterwards.  `assemble` is the parameter `P.asm`. -/
def extG : Ext :=
  { run := fun k c arg =>
      match k with
      | .assemble => P.asm c arg
      | .fill => (fillVerdict (fillC P arg c), memAfter c (fillC P arg c))
      | .load => (fillVerdict (loadC P arg c), memAfter c (loadC P arg c))
      | .goto => (gotoVerdict arg (gotoC P arg c), runAfter c (gotoC P arg c))
      | .step => (runVerdict (stepC P arg c), runAfter c (stepC P arg c))
      | .ret => (runVerdict (retC P arg c), runAfter c (retC P arg c)) }

def untranslated : Command → Bool
  | .help | .version | .assemble | .cd | .pwd => true
  | _ => false

/-- The hypothesis about the five commands behind `P.unt`, spelled out: for `help`, `version`, `cd`, `pwd`,
`assemble`, any argument and any state: the method ends (returns or raises, not `nofuel`); afterwards the
session core is what the model says -- UNCHANGED for `help`, `version`, `cd`, `pwd`; for `assemble` the
registers and cells `P.asm` gives, everything else unchanged --; `lastcmd` is untouched; the value returned
is not true. -/
def UntModels : Prop :=
  ∀ cmd, untranslated cmd = true → ∀ arg σ, ModelsAt P.unt (extG P) cmd arg σ

/-- ... and `assemble` honours "refused ⇒ registers and memory unchanged" itself (C07). -/
def AsmHonest : Prop :=
  ∀ c arg, (P.asm c arg).1.isRejected = true → (P.asm c arg).2.1 = c.regs ∧ (P.asm c arg).2.2 = c.mem

open Py65.Model.MonMem Py65.Proofs.MonMemGenEq Py65.Proofs.MonFillGenEq
open Py65.Proofs.MonRunGenEq hiding stateAfter

theorem liftMem_facts (c : Core) (σ : CmdSt) (r : MFlow MemSt Unit) (h : r ≠ .nofuel) {rm : Regs × (Int → Int)}
    (hrm : memAfter c r = rm) : CmdEnds σ (liftMem c σ r) { c with regs := rm.1, mem := rm.2 } := by
  subst hrm
  cases r with
  | nofuel => exact absurd rfl h
  | ok v s => exact ⟨by simp [liftMem], rfl, rfl, rfl⟩
  | raise e s => exact ⟨by simp [liftMem], rfl, rfl, rfl⟩

def bpsOf (c : Core) : Flow RunSt Unit → List (Option Int)
  | .ok _ s => s.breakpoints
  | .raise _ s => s.breakpoints
  | .nofuel => c.breakpoints

theorem liftRun_facts (c : Core) (σ : CmdSt) (r : Flow RunSt Unit) (h : r ≠ .nofuel) {rm : Regs × (Int → Int)}
    {bps : List (Option Int)} (hrm : runAfter c r = rm) (hb : bpsOf c r = bps) :
    CmdEnds σ (liftRun c σ r) { c with regs := rm.1, mem := rm.2, breakpoints := bps } := by
  subst hrm hb
  cases r with
  | nofuel => exact absurd rfl h
  | ok v s => exact ⟨by simp [liftRun], rfl, rfl, rfl⟩
  | raise e s => exact ⟨by simp [liftRun], rfl, rfl, rfl⟩

theorem runFlow_keeps (c : Core) (o : Option MonRun.RunRes) : bpsOf c (runFlow (runStOf c) o) = c.breakpoints := by
  cases o <;> rfl

theorem gotoC_eq (arg : Str) (c : Core) :
    gotoC P arg c =
      if arg = [] then .ok () { mpu := stOf c, breakpoints := c.breakpoints, out := helpGoto }
      else match numberL c.parser arg with
        | .ok a => runFlow (runStOf c) (MonRun.goto (P.step c.dev) c.breakpoints P.fuelRun a (stOf c))
        | r => .raise (numberExc r) (runStOf c) := by
  unfold gotoC
  rw [do_goto_eq]
  rfl

theorem gotoC_keeps (arg : Str) (c : Core) : bpsOf c (gotoC P arg c) = c.breakpoints := by
  rw [gotoC_eq]
  by_cases h : arg = []
  · simp only [h, if_true]; rfl
  · simp only [h, if_false]
    cases numberL c.parser arg with
    | ok a => exact runFlow_keeps c _
    | key | overflow | other => rfl

theorem retC_eq (arg : Str) (c : Core) :
    retC P arg c = runFlow (runStOf c) (MonRun.ret (P.step c.dev) c.breakpoints P.fuelRun (stOf c)) := by
  unfold retC
  rw [do_return_eq]
  rfl

theorem stepC_eq (arg : Str) (c : Core) :
    ∃ s : RunSt, stepC P arg c = .ok () s ∧ s.breakpoints = c.breakpoints := ⟨_, rfl, rfl⟩

theorem isWrote_wroteLine (d : MonMem.Dev) (c s e : Int) : isWrote (wroteLine d c s e) = true := by
  have : ∀ rest : Str, startsWith ("Wrote +".toList ++ rest) "Wrote +".toList = true := by
    intro rest
    simp [startsWith]
  unfold isWrote wroteLine
  simp only [List.append_assoc]
  exact this _

theorem parser_maxaddr (c : Core) : c.parser.maxaddr = (memDev c.dev).addrMask := by
  cases hd : c.dev <;> simp [Core.parser, Parser.maxaddr, hd, memDev, MonMem.Dev.addrMask, MonMem.dev8, MonMem.dev16,
    MonCmd.Dev.addrWidth, MonCmd.Dev.byteWidth]

theorem memDev_BW (d : MonCmd.Dev) : 8 ≤ (memDev d).BW := by cases d <;> decide

/-- The hypothesis of `do_fill_eq` about the fuel of `_fill`'s loop: above the size of the address space of
the session's device. -/
def FillFuel (c : Core) : Prop := ((memDev c.dev).addrMask + 1).toNat < P.fuelFill

/-- The hypothesis of `do_load_eq` about the fuel: above the length of every file the OS can deliver. -/
def LoadFuel : Prop := ∀ name file, loadSource P.w name = .ok file → file.length < P.fuelFill

theorem memAfter_fst (c : Core) (r : MFlow MemSt Unit) : (memAfter c r).1 = c.regs := by cases r <;> rfl

/-- The ends of `do_fill` / `do_load` that matter for "refused ⇒ unchanged": same memory object, or the report. -/
theorem mem_honest_core (c : Core) (d : MonMem.Dev) (r : MFlow MemSt Unit) (σ0 : MemSt) (hsub : σ0.memory.subject = c.mem)
    (hout : σ0.out = [])
    (hcase : (∃ out, r = .ok () { σ0 with out := out }) ∨ (∃ e, r = .raise e σ0) ∨
      (∃ m' c' s' e', r = .ok () { σ0 with memory := m', out := σ0.out ++ [wroteLine d c' s' e'] }) ∨ r = .nofuel)
    (h : (fillVerdict r).isRejected = true) : (memAfter c r).2 = c.mem := by
  rcases hcase with ⟨out, rfl⟩ | ⟨e, rfl⟩ | ⟨m', c', s', e', rfl⟩ | rfl
  · exact hsub
  · exact hsub
  · simp [fillVerdict, hout, endsWrote, isWrote_wroteLine, Verdict.isRejected] at h
  · simp [fillVerdict, Verdict.isRejected] at h

/-- `fill` refused (the generated `do_fill` raised, or the last line it printed is not "Wrote +…") ⇒ the
cells are as they were. -/
theorem fill_honest (hG : GlueOK P.G) (c : Core) (hwf : c.parser.WF) (hfuel : FillFuel P c) (arg : Str)
    (h : (fillVerdict (fillC P arg c)).isRejected = true) : (memAfter c (fillC P arg c)).2 = c.mem :=
  mem_honest_core c (memDev c.dev) _ (memStOf P.G c) (hG c) rfl
    (do_fill_ends P.w P.G.reply (memDev c.dev) c.parser P.fuelFill arg (memStOf P.G c) hwf (parser_maxaddr c) hfuel) h

/-- `load` refused ⇒ the cells are as they were. -/
theorem load_honest (hG : GlueOK P.G) (c : Core) (hload : LoadFuel P) (arg : Str)
    (h : (fillVerdict (loadC P arg c)).isRejected = true) : (memAfter c (loadC P arg c)).2 = c.mem :=
  mem_honest_core c (memDev c.dev) _ (memStOf P.G c) (hG c) rfl
    (do_load_ends P.w P.G.reply (memDev c.dev) c.parser P.fuelFill arg (memStOf P.G c) (memDev_BW c.dev)
      (fun name _ file _ hsrc => hload name file hsrc)) h

/-- `goto` refused (the address parser's exception left the method, or the argument was empty: usage text) ⇒
registers and cells are as they were (`do_goto_eq`). -/
theorem goto_honest (c : Core) (arg : Str) (h : (gotoVerdict arg (gotoC P arg c)).isRejected = true) :
    runAfter c (gotoC P arg c) = (c.regs, c.mem) := by
  rw [gotoC_eq] at h ⊢
  by_cases ha : arg = []
  · simp only [ha, if_true]; rfl
  · simp only [ha, if_false] at h ⊢
    cases hn : numberL c.parser arg with
    | ok a =>
      simp only [hn] at h
      cases hr : MonRun.goto (P.step c.dev) c.breakpoints P.fuelRun a (stOf c) with
      | none => simp only [hr, runFlow]; rfl
      | some r => rw [hr] at h; simp [runFlow, gotoVerdict, ha, Verdict.isRejected] at h
    | key | overflow | other => rfl

theorem step_never_rejected (c : Core) (arg : Str) : (runVerdict (stepC P arg c)).isRejected = false := rfl

theorem ret_never_rejected (c : Core) (arg : Str) : (runVerdict (retC P arg c)).isRejected = false := by
  rw [retC_eq]
  cases MonRun.ret (P.step c.dev) c.breakpoints P.fuelRun (stOf c) <;> rfl

/-- `Ext.Honest` for the `Ext` defined from the generated commands, at a core with a well-formed label
table: PROVED for `fill`, `load`, `goto`, `step`, `return`; `assemble` is the hypothesis `AsmHonest`. -/
theorem extG_honest_at (hG : GlueOK P.G) (ha : AsmHonest P) (hload : LoadFuel P) (c : Core) (hwf : c.parser.WF)
    (hfuel : FillFuel P c) : HonestAt (extG P) c := by
  intro k arg h
  cases k with
  | assemble => exact ha c arg h
  | fill => exact ⟨memAfter_fst c _, fill_honest P hG c hwf hfuel arg h⟩
  | load => exact ⟨memAfter_fst c _, load_honest P hG c hload arg h⟩
  | goto =>
    have := goto_honest P c arg h
    exact ⟨congrArg Prod.fst this, congrArg Prod.snd this⟩
  | step => rw [show ((extG P).run .step c arg).1 = runVerdict (stepC P arg c) from rfl, step_never_rejected] at h; cases h
  | ret => rw [show ((extG P).run .ret c arg).1 = runVerdict (retC P arg c) from rfl, ret_never_rejected] at h; cases h

def MpuKept (c : Core) : Flow RunSt Unit → Prop
  | .ok _ s => s.mpu = stOf c
  | .raise _ s => s.mpu = stOf c
  | .nofuel => False

theorem MpuKept.after {c : Core} {r : Flow RunSt Unit} (hk : MpuKept c r) :
    r ≠ .nofuel ∧ runAfter c r = (c.regs, c.mem) := by
  cases r with
  | nofuel => exact absurd hk id
  | ok v s => exact ⟨by simp, by simp only [runAfter, show s.mpu = stOf c from hk]; rfl⟩
  | raise e s => exact ⟨by simp, by simp only [runAfter, show s.mpu = stOf c from hk]; rfl⟩

theorem bpFlow_model (c : Core) (r : MonRun.BpOut × List (Option Int)) {c' : Core}
    (h : c' = { c with breakpoints := r.2 }) :
    MpuKept c (bpFlow (runStOf c) r) ∧ c' = { c with breakpoints := bpsOf c (bpFlow (runStOf c) r) } := by
  subst h
  unfold bpFlow
  cases bpText r.1 <;> exact ⟨rfl, rfl⟩

/-- `do_add_breakpoint`: for every argument string the generated method ends with the device untouched and
the breakpoint list of the session model. -/
theorem addBp_model (arg : Str) (c : Core) :
    MpuKept c (addBpC P arg c) ∧ (doAddBreakpoint c arg).2 = { c with breakpoints := bpsOf c (addBpC P arg c) } := by
  unfold addBpC
  rw [do_add_breakpoint_eq]
  unfold doAddBreakpoint
  cases hs : shlexSplit arg with
  | none => exact ⟨rfl, rfl⟩
  | some toks =>
    match toks with
    | [] | _ :: _ :: _ => exact ⟨rfl, rfl⟩
    | [tok] =>
      simp only
      cases hn : numberL c.parser tok with
      | key | overflow | other => exact ⟨rfl, rfl⟩
      | ok a =>
        refine bpFlow_model c (MonRun.addBp c.breakpoints a) ?_
        unfold MonRun.addBp
        by_cases hc : c.breakpoints.contains (some a) = true
        · have hm : some a ∈ c.breakpoints := by simpa using hc
          simp only [hc, hm, if_true]
        · have hm : ¬ some a ∈ c.breakpoints := by simpa using hc
          simp only [hc, hm, if_false, Bool.false_eq_true]

theorem set_none_of_getElem? (l : List (Option Int)) (i : Nat) (h : l[i]? = some none) : l.set i none = l := by
  obtain ⟨hi, he⟩ := List.getElem?_eq_some_iff.mp h
  have := List.set_getElem_self (as := l) hi
  rw [he] at this
  exact this

/-- `do_delete_breakpoint`: likewise (a number `< 0` or `≥ len` raises -- `TypeError` of the two-argument
`_output`, `IndexError` for `number == len` -- and leaves the list alone; a slot already deleted stays). -/
theorem delBp_model (arg : Str) (c : Core) :
    MpuKept c (delBpC P arg c) ∧ (doDeleteBreakpoint c arg).2 = { c with breakpoints := bpsOf c (delBpC P arg c) } := by
  unfold delBpC
  rw [do_delete_breakpoint_eq]
  unfold doDeleteBreakpoint
  cases hs : shlexSplit arg with
  | none => exact ⟨rfl, rfl⟩
  | some toks =>
    match toks with
    | [] | _ :: _ :: _ => exact ⟨rfl, rfl⟩
    | [tok] =>
      simp only
      cases hn : pyIntL tok 10 with
      | none => exact ⟨rfl, rfl⟩
      | some n =>
        refine bpFlow_model c (MonRun.delBp c.breakpoints n) ?_
        unfold MonRun.delBp
        by_cases hbad : n < 0 ∨ n > (c.breakpoints.length : Int)
        · have hbad' : n < 0 ∨ n ≥ (c.breakpoints.length : Int) := by omega
          simp only [hbad, hbad', if_true]
        · simp only [hbad, if_false]
          by_cases heq : n = (c.breakpoints.length : Int)
          · have hbad' : n < 0 ∨ n ≥ (c.breakpoints.length : Int) := by omega
            have hget : c.breakpoints[n.toNat]? = none := by
              rw [List.getElem?_eq_none]; omega
            simp only [hbad', if_true, hget]
          · have hbad' : ¬ (n < 0 ∨ n ≥ (c.breakpoints.length : Int)) := by omega
            simp only [hbad', if_false]
            cases hget : c.breakpoints[n.toNat]? with
            | none =>
              exfalso
              rw [List.getElem?_eq_none_iff] at hget
              omega
            | some slot =>
              cases slot with
              | none => simp only [set_none_of_getElem? _ _ hget]
              | some v => rfl

theorem showBp_kept (arg : Str) (c : Core) : MpuKept c (showBpC P arg c) ∧ bpsOf c (showBpC P arg c) = c.breakpoints := by
  unfold showBpC
  rw [do_show_breakpoints_eq]
  exact ⟨rfl, rfl⟩

def CellsKept (c : Core) : MFlow MemSt Unit → Prop
  | .ok _ s => s.memory.subject = c.mem
  | .raise _ s => s.memory.subject = c.mem
  | .nofuel => False

theorem CellsKept.after {c : Core} {r : MFlow MemSt Unit} (hk : CellsKept c r) :
    r ≠ .nofuel ∧ memAfter c r = (c.regs, c.mem) := by
  cases r with
  | nofuel => exact absurd hk id
  | ok v s => exact ⟨by simp, by simp only [memAfter, show s.memory.subject = c.mem from hk]⟩
  | raise e s => exact ⟨by simp, by simp only [memAfter, show s.memory.subject = c.mem from hk]⟩

theorem doSave_subject (reply : ObsMem.Reply) (d : MonMem.Dev) (Pp : Parser) (args : List Str) (m : ObsMem.OM) :
    (doSave reply d Pp args m).2.subject = m.subject := by
  unfold doSave
  split
  · split
    · split
      · exact getMany_subject _ _ _
      · rfl
    · rfl
  · rfl

theorem doMem_subject (reply : ObsMem.Reply) (d : MonMem.Dev) (Pp : Parser) (width : Nat) (split : List Str) (m : ObsMem.OM) :
    (doMem reply d Pp width split m).2.subject = m.subject := by
  unfold doMem
  split
  · split
    · exact getMany_subject _ _ _
    · rfl
    · rfl
    · rfl
  · rfl

theorem save_kept (hG : GlueOK P.G) (arg : Str) (c : Core) : CellsKept c (saveC P arg c) := by
  unfold saveC
  rw [do_save_eq]
  have h0 : (memStOf P.G c).memory.subject = c.mem := hG c
  cases hs : shlexSplit arg with
  | none => exact h0
  | some toks =>
    match toks with
    | [] | [_] | [_, _] | _ :: _ :: _ :: _ :: _ => exact h0
    | [name, s, e] =>
      simp only
      have hsub := doSave_subject P.G.reply (memDev c.dev) c.parser [s, e] (memStOf P.G c).memory
      cases ho : doSave P.G.reply (memDev c.dev) c.parser [s, e] (memStOf P.G c).memory with
      | mk o m' =>
        rw [ho] at hsub
        simp only at hsub
        cases o with
        | saved n file =>
          simp only [saveEnd]
          cases P.w.openW name <;> exact hsub.trans h0
        | help | syntaxError | key | overflow | other | indexError | wrote _ _ _ | lines _ => exact h0

theorem mem_kept (hG : GlueOK P.G) (arg : Str) (c : Core) (hw : 0 ≤ c.width) : CellsKept c (memC P arg c) := by
  unfold memC
  rw [do_mem_eq _ _ _ _ _ _ hw]
  have h0 : (memStOf P.G c).memory.subject = c.mem := hG c
  cases hs : shlexSplit arg with
  | none => exact h0
  | some split =>
    simp only
    have hsub := doMem_subject P.G.reply (memDev c.dev) c.parser (memStOf P.G c).width.toNat split (memStOf P.G c).memory
    cases ho : doMem P.G.reply (memDev c.dev) c.parser (memStOf P.G c).width.toNat split (memStOf P.G c).memory with
    | mk o m' =>
      rw [ho] at hsub
      simp only at hsub
      cases o with
      | lines ls => exact hsub.trans h0
      | help | syntaxError | key | overflow | other | indexError | wrote _ _ _ | saved _ _ => exact h0

def ShowKept (c : Core) : Flow ShowSt Unit → Prop
  | .ok _ s => s.mpu = stOf c
  | .raise _ s => s.mpu = stOf c
  | .nofuel => True

theorem liftShow_same (c : Core) (σ : CmdSt) (r : Flow ShowSt Unit) (h : r ≠ .nofuel) (hk : ShowKept c r) :
    CmdEnds σ (liftShow c σ r) c := by
  cases r with
  | nofuel => exact absurd rfl h
  | ok v s => exact ⟨by simp [liftShow], by simp only [liftShow, stateAfter, coreOfShow, show s.mpu = stOf c from hk]; rfl, rfl, rfl⟩
  | raise e s => exact ⟨by simp [liftShow], by simp only [liftShow, stateAfter, coreOfShow, show s.mpu = stOf c from hk]; rfl, rfl, rfl⟩

theorem cycles_kept (arg : Str) (c : Core) : cyclesC P arg c ≠ .nofuel ∧ ShowKept c (cyclesC P arg c) := by
  unfold cyclesC
  -- the session core has no cycle counter: the adapter's device (`stOf c`) starts with `cycles := 0`
  rw [ReprGenEq.do_cycles_eq _ _ _ _ _ _ _ _ (show (0 : Int) ≤ (showStOf c).mpu.cycles from le_refl 0)]
  exact ⟨by simp, rfl⟩

theorem tilde_kept (hit : ReprGenEq.ItoaBinInt P.itoa) (arg : Str) (c : Core) :
    tildeC P arg c ≠ .nofuel ∧ ShowKept c (tildeC P arg c) := by
  unfold tildeC
  rw [ReprGenEq.do_tilde_eq _ hit]
  cases Show.doTilde (memDev c.dev).byteFmtW c.parser arg with
  | lines l => exact ⟨by simp [ReprGenEq.tildeFlow], rfl⟩
  | raised r => exact ⟨by simp [ReprGenEq.tildeFlow], rfl⟩

theorem dis_kept (arg : Str) (c : Core) : ShowKept c (disC P arg c) := by
  unfold disC
  rw [ReprGenEq.do_disassemble_eq]
  cases Show.doDisassemble (P.iat c (showStOf c).mpu) (P.fmtdis c (showStOf c).mpu) (memDev c.dev).AW c.parser
      P.fuelDis arg with
  | help => rfl
  | shlexError => rfl
  | refused r => rfl
  | walked lines e =>
    cases e with
    | done => rfl
    | raised x => rfl
    | nofuel => trivial

open Py65.Model.MonIORt (IoSt MpuCls) in
theorem devOfCls_clsOf (d : MonCmd.Dev) : devOfCls (clsOf d) = d := by cases d <;> rfl

theorem get_mpu_dev (E : MonIORt.Env) (name : Str) : MonIOGen._get_mpu E name = (devOfName name).map clsOf := by
  rw [MonIOGenEq.get_mpu_spec]
  unfold devOfName
  have hl : MonIORt.pyLower name = name.map lower := rfl
  rw [hl]
  have e1 : "6502".toList = ['6', '5', '0', '2'] := rfl
  have e2 : "65c02".toList = ['6', '5', 'c', '0', '2'] := rfl
  have e3 : "65org16".toList = ['6', '5', 'o', 'r', 'g', '1', '6'] := rfl
  simp only [e1, e2, e3]
  split_ifs <;> rfl

/-- The session core read back from the state `_reset(cls, …)` leaves (`MonIOGenEq.resetSt`) is the model's
`resetCore`: new device of that class with reset registers, zeroed cells (`Monitor(memory=None)`), no labels,
radix 16; breakpoints and width stay. -/
theorem coreOfIo_resetSt (c : Core) (cls : MonIORt.MpuCls) (b : Bool) (out : List Str) :
    coreOfIo c { MonIOGenEq.resetSt cls b (ioStOf P.G c) with out := out } = resetCore c (devOfCls cls) := by
  have hmem : cellsOfMemObj ({ MonIOGenEq.resetSt cls b (ioStOf P.G c) with out := out }._mpu.memory) = fun _ => 0 := by
    simp only [MonIOGenEq.resetSt, ioStOf, MonIOGenEq.cellsOf, Option.getD_none]
    cases b <;> cases P.G.getc <;> cases P.G.putc <;> rfl
  unfold coreOfIo
  rw [hmem]
  simp [MonIOGenEq.resetSt, ioStOf, resetCore]

theorem coreOfIo_same (hG : GlueOK P.G) (c : Core) (out : List Str) :
    coreOfIo c { ioStOf P.G c with out := out } = c := by
  unfold coreOfIo
  simp only [ioStOf, devOfCls_clsOf, if_true, cellsOfMemObj, hG c]

theorem liftIo_ok (c : Core) (σ : CmdSt) (s : MonIORt.IoSt) : CmdEnds σ (liftIo c σ (.ok () s)) (coreOfIo c s) :=
  ⟨by simp [liftIo], rfl, rfl, rfl⟩

theorem reset_ends (arg : Str) (σ : CmdSt) :
    CmdEnds σ (liftIo σ.core σ (resetC P arg σ.core)) (resetCore σ.core σ.core.dev) := by
  unfold resetC
  rw [MonIOGenEq.do_reset_eq]
  refine (liftIo_ok σ.core σ _).congr ?_
  have := coreOfIo_resetSt P σ.core (ioStOf P.G σ.core)._mpu.cls (MonIOGenEq.both (ioStOf P.G σ.core)) []
  rwa [show devOfCls (ioStOf P.G σ.core)._mpu.cls = σ.core.dev from devOfCls_clsOf σ.core.dev] at this

theorem mpu_ends (hG : GlueOK P.G) (arg : Str) (σ : CmdSt) :
    CmdEnds σ (liftIo σ.core σ (mpuC P arg σ.core)) (doMpu σ.core arg).2 := by
  unfold mpuC
  rw [MonIOGenEq.do_mpu_eq, get_mpu_dev]
  unfold doMpu
  by_cases ha : arg = []
  · simp only [ha, if_true]
    exact (liftIo_ok σ.core σ _).congr (coreOfIo_same P hG σ.core _)
  · simp only [ha, if_false]
    cases hd : devOfName arg with
    | none =>
      simp only [Option.map_none]
      exact (liftIo_ok σ.core σ _).congr (coreOfIo_same P hG σ.core _)
    | some d =>
      simp only [Option.map_some]
      refine (liftIo_ok σ.core σ _).congr ?_
      rw [coreOfIo_resetSt, devOfCls_clsOf]

/-- What ONE call needs so that the generated command agrees with the model's `runCommand (extG P)`:
the commands with a fuel-bounded loop (`_fill` under `fill` / `load`, `_run` under `goto` / `return`, the walk
of `disassemble`) ended within their fuel; `mem` is tied for `self._width ≥ 0`; `tilde` for an `itoa` that
prints base 2 (true of the generated `itoa`: `C19g.itoaG_binInt`).  Nothing for the other commands. -/
def CallOK (cmd : Command) (arg : Str) (c : Core) : Prop :=
  match cmd with
  | .fill => fillC P arg c ≠ .nofuel
  | .load => loadC P arg c ≠ .nofuel
  | .goto => gotoC P arg c ≠ .nofuel
  | .ret => retC P arg c ≠ .nofuel
  | .disassemble => disC P arg c ≠ .nofuel
  | .mem => 0 ≤ c.width
  | .tilde => ReprGenEq.ItoaBinInt P.itoa
  | _ => True

theorem models_unt (cmd : Command) (hc : untranslated cmd = true) (arg : Str) (σ : CmdSt)
    (h : ModelsAt P.unt (extG P) cmd arg σ) : ModelsAt (othG P) (extG P) cmd arg σ := by
  unfold ModelsAt at h ⊢
  rw [othG_word]
  cases cmd <;> first | exact h | cases hc

/-- `OthModels (othG P) (extG P)` call by call: every command that `MonCmdGen` does not translate, through the
composed `oth`, does to the session core what the model says -- PROVED for the fifteen commands the other units
regenerate (each by the frame lemma of its unit's adapter and what its `GenEq` theorem says the method leaves
alone), a hypothesis at this call for `help version assemble cd pwd`. -/
theorem models_at (hG : GlueOK P.G) (cmd : Command) (arg : Str) (σ : CmdSt) (ht : translated cmd = false)
    (hok : CallOK P cmd arg σ.core) (hu : untranslated cmd = true → ModelsAt (othG P) (extG P) cmd arg σ) :
    ModelsAt (othG P) (extG P) cmd arg σ := by
  by_cases hc : untranslated cmd = true
  · exact hu hc
  unfold ModelsAt
  rw [othG_word]
  cases cmd
  case fill => exact liftMem_facts σ.core σ _ hok rfl
  case load => exact liftMem_facts σ.core σ _ hok rfl
  case goto => exact liftRun_facts σ.core σ _ hok rfl (gotoC_keeps P arg σ.core)
  case ret => exact liftRun_facts σ.core σ _ hok rfl (by rw [retC_eq]; exact runFlow_keeps _ _)
  case step =>
    obtain ⟨s, e, hb⟩ := stepC_eq P arg σ.core
    exact liftRun_facts σ.core σ (stepC P arg σ.core) (by rw [e]; simp) rfl (by rw [e]; exact hb)
  case add_breakpoint =>
    obtain ⟨h1, h2⟩ := addBp_model P arg σ.core
    exact (liftRun_facts σ.core σ _ h1.after.1 h1.after.2 rfl).congr h2.symm
  case delete_breakpoint =>
    obtain ⟨h1, h2⟩ := delBp_model P arg σ.core
    exact (liftRun_facts σ.core σ _ h1.after.1 h1.after.2 rfl).congr h2.symm
  case show_breakpoints =>
    obtain ⟨h1, h2⟩ := showBp_kept P arg σ.core
    exact liftRun_facts σ.core σ _ h1.after.1 h1.after.2 h2
  case save =>
    obtain ⟨h1, h2⟩ := (save_kept P hG arg σ.core).after
    exact liftMem_facts σ.core σ _ h1 h2
  case mem =>
    obtain ⟨h1, h2⟩ := (mem_kept P hG arg σ.core hok).after
    exact liftMem_facts σ.core σ _ h1 h2
  case cycles => exact liftShow_same σ.core σ _ (cycles_kept P arg σ.core).1 (cycles_kept P arg σ.core).2
  case tilde => exact liftShow_same σ.core σ _ (tilde_kept P hok arg σ.core).1 (tilde_kept P hok arg σ.core).2
  case disassemble => exact liftShow_same σ.core σ _ hok (dis_kept P arg σ.core)
  case reset => exact reset_ends P arg σ
  case mpu => exact mpu_ends P hG arg σ
  all_goals first | exact absurd rfl hc | cases ht

/-- A call the model REFUSES needs nothing more: a refused `fill` / `load` / `goto` has ended by definition of
the verdict, the other commands of `CallOK` are never refused. -/
theorem callOK_of_rejected (cmd : Command) (arg : Str) (c : Core)
    (h : (runCommand (extG P) c cmd arg).verdict.isRejected = true) : CallOK P cmd arg c := by
  -- the three verdicts call a run that is out of fuel `ok`
  have hfill : ∀ r, (fillVerdict r).isRejected = true → r ≠ .nofuel := fun r h e => by subst e; cases h
  have hrun : ∀ r, (runVerdict r).isRejected = true → r ≠ .nofuel := fun r h e => by subst e; cases h
  have hgoto : ∀ r, (gotoVerdict arg r).isRejected = true → r ≠ .nofuel := fun r h e => by subst e; cases h
  cases cmd <;> try trivial
  -- (`disassemble`, `tilde`, `mem` are never refused: closed by `trivial` from `h : false = true`)
  case ret => exact hrun _ h
  case goto => exact hgoto _ h
  case load => exact hfill _ h
  case fill => exact hfill _ h

section composed
variable (tb : Exc → Str) (mr : Core → Str)

/-- `GenEq` for the whole of `Monitor.onecmd` WITH THE GENERATED COMMANDS PLUGGED IN: with enough fuel for
the dispatcher, outside `Loops`, `CallOK` for the one command the line is dispatched to and -- if that is one of
the five behind `P.unt` -- `ModelsAt` for it, the generated `onecmd` returns with the session core and `lastcmd`
of the model `onecmdL (extG P)` and a true value exactly when the model requests exit. -/
theorem onecmd_sim_composed (hG : GlueOK P.G) (fuel : Nat) (line : Str) (σ : CmdSt)
    (hf : fuel > (preprocessL line).length + (preprocessL σ.lastcmd).length + 6) (hnl : ¬ Loops σ line)
    (hok : ∀ cmd a, dispatched { core := σ.core, lastcmd := σ.lastcmd } line = some (cmd, a) → CallOK P cmd a σ.core)
    (hu : ∀ cmd a, dispatched { core := σ.core, lastcmd := σ.lastcmd } line = some (cmd, a) → untranslated cmd = true →
      ∀ σ1 : CmdSt, σ1.core = σ.core → ModelsAt (othG P) (extG P) cmd a σ1) :
    Sim (onecmdL (extG P) { core := σ.core, lastcmd := σ.lastcmd } line)
      (MonCmdGen.onecmd (othG P) tb mr fuel line σ) := by
  refine onecmd_sim_at (othG P) tb mr (extG P) fuel line σ hf hnl ?_
  intro cmd a hd ht σ1 hσ1
  exact models_at P hG cmd a σ1 ht (hσ1 ▸ hok cmd a hd) fun hc => hu cmd a hd hc σ1 hσ1

/-- A line the model refuses: the generated `onecmd` with the generated commands returns and the session core
is as it was. -/
theorem onecmd_rejected_composed (hG : GlueOK P.G) (ha : AsmHonest P) (hload : LoadFuel P)
    (fuel : Nat) (line : Str) (σ : CmdSt) (hwf : σ.core.parser.WF) (hfill : FillFuel P σ.core)
    (hf : fuel > (preprocessL line).length + (preprocessL σ.lastcmd).length + 6) (hnl : ¬ Loops σ line)
    (h : (onecmdL (extG P) { core := σ.core, lastcmd := σ.lastcmd } line).1.verdict.isRejected = true)
    (hu : ∀ cmd a, dispatched { core := σ.core, lastcmd := σ.lastcmd } line = some (cmd, a) → untranslated cmd = true →
      ∀ σ1 : CmdSt, σ1.core = σ.core → ModelsAt (othG P) (extG P) cmd a σ1) :
    ∃ v σ', MonCmdGen.onecmd (othG P) tb mr fuel line σ = .ok v σ' ∧ σ'.core = σ.core := by
  have hok : ∀ cmd a, dispatched { core := σ.core, lastcmd := σ.lastcmd } line = some (cmd, a) →
      CallOK P cmd a σ.core := by
    intro cmd a hd
    rw [(onecmdL_dispatched (extG P) { core := σ.core, lastcmd := σ.lastcmd } line).1 cmd a hd] at h
    exact callOK_of_rejected P cmd a σ.core h
  obtain ⟨v, s', e1, e2, -, -⟩ := onecmd_sim_composed P tb mr hG fuel line σ hf hnl hok hu
  refine ⟨v, s', e1, e2.trans ?_⟩
  exact onecmd_rejected_at (extG P) { core := σ.core, lastcmd := σ.lastcmd }
    (extG_honest_at P hG ha hload σ.core hwf hfill) line h

end composed

end Py65.Proofs.MonCompose
