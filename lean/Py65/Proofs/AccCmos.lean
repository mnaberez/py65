/-
Aspect *access log*: the handlers the 65C02 adds or overrides.
-/
import Py65.Proofs.AccStack
set_option linter.unusedSimpArgs false
namespace Py65.Proofs
open Py65 Py65.Gen Py65.Spec Py

section
variable (v : Variant)
theorem ac_00 (c : Cfg) (hc : IsDev c) : HandlerAcc c v (Mpu65c02.inst_0x00 c) .BRK .imp := by
  exact_acc [Mpu65c02.inst_0x00]
theorem ac_da (c : Cfg) (hc : IsDev c) : HandlerAcc c v (Mpu65c02.inst_0xda c) .PHX .imp := by
  exact_acc [Mpu65c02.inst_0xda]
theorem ac_5a (c : Cfg) (hc : IsDev c) : HandlerAcc c v (Mpu65c02.inst_0x5a c) .PHY .imp := by
  exact_acc [Mpu65c02.inst_0x5a]
theorem ac_fa (c : Cfg) (hc : IsDev c) : HandlerAcc c v (Mpu65c02.inst_0xfa c) .PLX .imp := by
  exact_acc [Mpu65c02.inst_0xfa]
theorem ac_7a (c : Cfg) (hc : IsDev c) : HandlerAcc c v (Mpu65c02.inst_0x7a c) .PLY .imp := by
  exact_acc [Mpu65c02.inst_0x7a]
theorem ac_89 (c : Cfg) (hc : IsDev c) : HandlerAcc c v (Mpu65c02.inst_0x89 c) .BIT .imm := by
  exact_acc [Mpu65c02.inst_0x89]
theorem ac_cb (c : Cfg) : HandlerAcc c v (Mpu65c02.inst_0xcb c) .WAI .imp :=
  none_acc (rc_cb c).acl (fun _ => rfl)
theorem ac_80 (c : Cfg) : HandlerAcc c v (Mpu65c02.inst_0x80 c) .BRA .rel :=
  branch_acc c v _ .BRA (fun _ => rfl) (fun _ => rfl)
end

/-- JMP (ind), 65C02: the pointer's high byte comes from the next address. -/
theorem ac_6c (c : Cfg) (hc : IsDev c) : HandlerAcc c .cmos (Mpu65c02.inst_0x6c c) .JMP .ind := by
  intro s hs
  refine ⟨_, ?_, List.Perm.refl _⟩
  have hm0 := hs.mem s.pc; have hm1 := hs.mem ((s.pc + 1) % AM c.BYTE_WIDTH)
  inst_acl [Mpu65c02.inst_0x6c]
  rcases hc with rfl | rfl <;>
  · simp [instrAccesses, fetched, dataAccesses, operandAddrs, Mode.len, core,
      opnd16, opnd1, opnd2, AM, BM, pyarith] at hm0 hm1 ⊢
    try omega

theorem ac_7c (c : Cfg) (hc : IsDev c) (v : Variant) : HandlerAcc c v (Mpu65c02.inst_0x7c c) .JMP .iax := by
  intro s hs
  refine ⟨_, ?_, List.Perm.refl _⟩
  have hm0 := hs.mem s.pc; have hm1 := hs.mem ((s.pc + 1) % AM c.BYTE_WIDTH); have hx := hs.x
  inst_acl [Mpu65c02.inst_0x7c, Mpu65c02.IndirectAbsXAddr]
  rcases hc with rfl | rfl <;>
  · simp [instrAccesses, fetched, dataAccesses, operandAddrs, Mode.len, core,
      opnd16, opnd1, opnd2, AM, BM, pyarith] at hm0 hm1 hx ⊢
    try omega
end Py65.Proofs
