/-
Aspect *cyc*: the handlers that are not a mode helper followed by an operation helper - branches,
flag and register instructions, stack, jumps, BRK - one `HandlerCyc` fact each.
-/
import Py65.Proofs.CycModes
set_option linter.unusedSimpArgs false
namespace Py65.Proofs
open Py65 Py65.Gen Py65.Spec Py

theorem BranchRelAddr_cycles (c : Cfg) (s : St) : (Mpu6502.BranchRelAddr c s).cycles = s.cycles := by
  rw [BranchRelAddr_eq]

theorem branch_cyc (c : Cfg) (hc : IsDev c) (f : St → St) (mn : Mn) (hf : BranchShape c f mn)
    (hbr : isBranch mn = true) : HandlerCyc c f mn .rel := by
  intro s hs
  have e : (core s).p = s.p := rfl
  have hr : readCrosses c.BYTE_WIDTH .rel (core s) = false := rfl
  rw [hf, varCycles, hr, hbr, e]
  cases branchCond c.BYTE_WIDTH mn s.p
  · simp
  · rw [if_pos rfl, BranchRelAddr_cycles, BranchRelAddr_cyc c hc s hs]
    simp
    omega

theorem c_10 (c : Cfg) (hc : IsDev c) : HandlerCyc c (Mpu6502.inst_0x10 c) .BPL .rel :=
  branch_cyc c hc _ _ (b_10 c hc) rfl
theorem c_30 (c : Cfg) (hc : IsDev c) : HandlerCyc c (Mpu6502.inst_0x30 c) .BMI .rel :=
  branch_cyc c hc _ _ (b_30 c hc) rfl
theorem c_50 (c : Cfg) (hc : IsDev c) : HandlerCyc c (Mpu6502.inst_0x50 c) .BVC .rel :=
  branch_cyc c hc _ _ (b_50 c hc) rfl
theorem c_70 (c : Cfg) (hc : IsDev c) : HandlerCyc c (Mpu6502.inst_0x70 c) .BVS .rel :=
  branch_cyc c hc _ _ (b_70 c hc) rfl
theorem c_90 (c : Cfg) (hc : IsDev c) : HandlerCyc c (Mpu6502.inst_0x90 c) .BCC .rel :=
  branch_cyc c hc _ _ (b_90 c hc) rfl
theorem c_b0 (c : Cfg) (hc : IsDev c) : HandlerCyc c (Mpu6502.inst_0xb0 c) .BCS .rel :=
  branch_cyc c hc _ _ (b_b0 c hc) rfl
theorem c_d0 (c : Cfg) (hc : IsDev c) : HandlerCyc c (Mpu6502.inst_0xd0 c) .BNE .rel :=
  branch_cyc c hc _ _ (b_d0 c hc) rfl
theorem c_f0 (c : Cfg) (hc : IsDev c) : HandlerCyc c (Mpu6502.inst_0xf0 c) .BEQ .rel :=
  branch_cyc c hc _ _ (b_f0 c hc) rfl

theorem c_18 (c : Cfg) : HandlerCyc c (Mpu6502.inst_0x18 c) .CLC .imp :=
  plain_cyc rfl (fun _ => rfl) (r_18 c).keeps
theorem c_38 (c : Cfg) : HandlerCyc c (Mpu6502.inst_0x38 c) .SEC .imp :=
  plain_cyc rfl (fun _ => rfl) (r_38 c).keeps
theorem c_58 (c : Cfg) : HandlerCyc c (Mpu6502.inst_0x58 c) .CLI .imp :=
  plain_cyc rfl (fun _ => rfl) (r_58 c).keeps
theorem c_78 (c : Cfg) : HandlerCyc c (Mpu6502.inst_0x78 c) .SEI .imp :=
  plain_cyc rfl (fun _ => rfl) (r_78 c).keeps
theorem c_b8 (c : Cfg) : HandlerCyc c (Mpu6502.inst_0xb8 c) .CLV .imp :=
  plain_cyc rfl (fun _ => rfl) (r_b8 c).keeps
theorem c_d8 (c : Cfg) : HandlerCyc c (Mpu6502.inst_0xd8 c) .CLD .imp :=
  plain_cyc rfl (fun _ => rfl) (r_d8 c).keeps
theorem c_f8 (c : Cfg) : HandlerCyc c (Mpu6502.inst_0xf8 c) .SED .imp :=
  plain_cyc rfl (fun _ => rfl) (r_f8 c).keeps
theorem c_aa (c : Cfg) : HandlerCyc c (Mpu6502.inst_0xaa c) .TAX .imp :=
  plain_cyc rfl (fun _ => rfl) (r_aa c).keeps
theorem c_a8 (c : Cfg) : HandlerCyc c (Mpu6502.inst_0xa8 c) .TAY .imp :=
  plain_cyc rfl (fun _ => rfl) (r_a8 c).keeps
theorem c_8a (c : Cfg) : HandlerCyc c (Mpu6502.inst_0x8a c) .TXA .imp :=
  plain_cyc rfl (fun _ => rfl) (r_8a c).keeps
theorem c_98 (c : Cfg) : HandlerCyc c (Mpu6502.inst_0x98 c) .TYA .imp :=
  plain_cyc rfl (fun _ => rfl) (r_98 c).keeps
theorem c_ba (c : Cfg) : HandlerCyc c (Mpu6502.inst_0xba c) .TSX .imp :=
  plain_cyc rfl (fun _ => rfl) (r_ba c).keeps
theorem c_9a (c : Cfg) : HandlerCyc c (Mpu6502.inst_0x9a c) .TXS .imp :=
  plain_cyc rfl (fun _ => rfl) (r_9a c).keeps
theorem c_e8 (c : Cfg) : HandlerCyc c (Mpu6502.inst_0xe8 c) .INX .imp :=
  plain_cyc rfl (fun _ => rfl) (r_e8 c).keeps
theorem c_c8 (c : Cfg) : HandlerCyc c (Mpu6502.inst_0xc8 c) .INY .imp :=
  plain_cyc rfl (fun _ => rfl) (r_c8 c).keeps
theorem c_ca (c : Cfg) : HandlerCyc c (Mpu6502.inst_0xca c) .DEX .imp :=
  plain_cyc rfl (fun _ => rfl) (r_ca c).keeps
theorem c_88 (c : Cfg) : HandlerCyc c (Mpu6502.inst_0x88 c) .DEY .imp :=
  plain_cyc rfl (fun _ => rfl) (r_88 c).keeps
theorem c_ea (c : Cfg) : HandlerCyc c (Mpu6502.inst_0xea c) .NOP .imp :=
  plain_cyc rfl (fun _ => rfl) (r_ea c).keeps
theorem c_48 (c : Cfg) : HandlerCyc c (Mpu6502.inst_0x48 c) .PHA .imp :=
  plain_cyc rfl (fun _ => rfl) (by op_cyc [Mpu6502.inst_0x48])
theorem c_08 (c : Cfg) : HandlerCyc c (Mpu6502.inst_0x08 c) .PHP .imp :=
  plain_cyc rfl (fun _ => rfl) (by op_cyc [Mpu6502.inst_0x08])
theorem c_68 (c : Cfg) : HandlerCyc c (Mpu6502.inst_0x68 c) .PLA .imp :=
  plain_cyc rfl (fun _ => rfl) (by op_cyc [Mpu6502.inst_0x68])
theorem c_28 (c : Cfg) : HandlerCyc c (Mpu6502.inst_0x28 c) .PLP .imp :=
  plain_cyc rfl (fun _ => rfl) (by op_cyc [Mpu6502.inst_0x28])
theorem c_4c (c : Cfg) : HandlerCyc c (Mpu6502.inst_0x4c c) .JMP .abs :=
  plain_cyc rfl (fun _ => rfl) (by op_cyc [Mpu6502.inst_0x4c])
theorem c_60 (c : Cfg) : HandlerCyc c (Mpu6502.inst_0x60 c) .RTS .imp :=
  plain_cyc rfl (fun _ => rfl) (by op_cyc [Mpu6502.inst_0x60])
theorem c_40 (c : Cfg) : HandlerCyc c (Mpu6502.inst_0x40 c) .RTI .imp :=
  plain_cyc rfl (fun _ => rfl) (by op_cyc [Mpu6502.inst_0x40])
theorem c_00 (c : Cfg) : HandlerCyc c (Mpu6502.inst_0x00 c) .BRK .imp :=
  plain_cyc rfl (fun _ => rfl) (by op_cyc [Mpu6502.inst_0x00])
theorem c_20 (c : Cfg) : HandlerCyc c (Mpu6502.inst_0x20 c) .JSR .abs :=
  plain_cyc rfl (fun _ => rfl) (by op_cyc [Mpu6502.inst_0x20])
theorem c_6c (c : Cfg) : HandlerCyc c (Mpu6502.inst_0x6c c) .JMP .ind :=
  plain_cyc rfl (fun _ => rfl) (by op_cyc [Mpu6502.inst_0x6c])

theorem cc_00 (c : Cfg) : HandlerCyc c (Mpu65c02.inst_0x00 c) .BRK .imp :=
  plain_cyc rfl (fun _ => rfl) (by op_cyc [Mpu65c02.inst_0x00])
theorem cc_da (c : Cfg) : HandlerCyc c (Mpu65c02.inst_0xda c) .PHX .imp :=
  plain_cyc rfl (fun _ => rfl) (by op_cyc [Mpu65c02.inst_0xda])
theorem cc_5a (c : Cfg) : HandlerCyc c (Mpu65c02.inst_0x5a c) .PHY .imp :=
  plain_cyc rfl (fun _ => rfl) (by op_cyc [Mpu65c02.inst_0x5a])
theorem cc_fa (c : Cfg) : HandlerCyc c (Mpu65c02.inst_0xfa c) .PLX .imp :=
  plain_cyc rfl (fun _ => rfl) (by op_cyc [Mpu65c02.inst_0xfa])
theorem cc_7a (c : Cfg) : HandlerCyc c (Mpu65c02.inst_0x7a c) .PLY .imp :=
  plain_cyc rfl (fun _ => rfl) (by op_cyc [Mpu65c02.inst_0x7a])
theorem cc_89 (c : Cfg) : HandlerCyc c (Mpu65c02.inst_0x89 c) .BIT .imm :=
  plain_cyc rfl (fun _ => rfl) (by op_cyc [Mpu65c02.inst_0x89, Mpu6502.ImmediateByte])
theorem cc_cb (c : Cfg) : HandlerCyc c (Mpu65c02.inst_0xcb c) .WAI .imp :=
  plain_cyc rfl (fun _ => rfl) (rc_cb c).keeps
theorem cc_6c (c : Cfg) : HandlerCyc c (Mpu65c02.inst_0x6c c) .JMP .ind :=
  plain_cyc rfl (fun _ => rfl) (by op_cyc [Mpu65c02.inst_0x6c])
theorem cc_7c (c : Cfg) : HandlerCyc c (Mpu65c02.inst_0x7c c) .JMP .iax :=
  plain_cyc rfl (fun _ => rfl) (by op_cyc [Mpu65c02.inst_0x7c, Mpu65c02.IndirectAbsXAddr])

end Py65.Proofs
