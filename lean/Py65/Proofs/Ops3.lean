/-
Branches, flag set/clear, register transfers and increments, NOP.
-/
import Py65.Proofs.Ops2

namespace Py65.Proofs
open Py65 Py65.Gen Py65.Spec Py

/-- The code's sign extension of the branch operand: `pc - (m ^ byteMask) - 1` for a negative one. -/
theorem rel_target {c : Cfg} (hc : IsDev c) (pc m : Int) (hm : 0 ≤ m ∧ m ≤ c.byteMask) :
    (if land m c.NEGATIVE ≠ 0 then pc - lxor m c.byteMask - 1 else pc + m) =
      pc + signed c.BYTE_WIDTH m := by
  have h := byte_pow hc
  have hx : lxor m c.byteMask = c.byteMask - m := by
    have := lxor_mask m c.BYTE_WIDTH hm.1 (by omega)
    rw [← h] at this
    simpa using this
  simp only [top_test hc m hm, hx, signed, geB, decide_eq_true_eq]
  split <;> split <;> omega

theorem BranchRelAddr_core (c : Cfg) (hc : IsDev c) (s : St) (hs : WF c s) :
    core (Mpu6502.BranchRelAddr c s) = { core s with pc := branchTarget c.BYTE_WIDTH (core s) } := by
  have h := rel_target hc (s.pc + 1) (s.mem s.pc) (hs.mem s.pc)
  -- `+instances`: the code's tests sit in `Decidable` instances too, which must follow the unfolding
  dsimp +instances only [Mpu6502.BranchRelAddr, Mpu6502.ImmediateByte, Mpu6502.ByteAt, memGet]
  proj_simp [h]
  simp only [land_addrMask hc]
  rfl

/-- A conditional branch helper (`opBCL` branches when the flag is clear, `opBST` when set),
given how its flag test reads the status register. -/
theorem branch_ok (c : Cfg) (hc : IsDev c) (v : Variant) (f : St → St) (mn : Mn)
    (taken : Int → Bool)
    (hf : ∀ s, f s = if taken s.p then Mpu6502.BranchRelAddr c s else { s with pc := s.pc + 1 })
    (hcond : ∀ p, branchCond c.BYTE_WIDTH mn (normP p) = taken p)
    (hexec : ∀ a : AState, exec c.BYTE_WIDTH v mn .rel a =
      if branchCond c.BYTE_WIDTH mn a.p then { a with pc := branchTarget c.BYTE_WIDTH a }
      else { a with pc := nextPc c.BYTE_WIDTH .rel a }) :
    HandlerOK c v f mn .rel := by
  intro s hs
  rw [hexec, hf]
  have e : (abs s).p = normP s.p := rfl
  rw [e, hcond]
  cases h : taken s.p
  · simp only [Bool.false_eq_true, if_false, absH, abs, core, nextPc, Mode.len, addrMask_succ hc]
    rfl
  · simp only [if_true]
    obtain ⟨ha, hxx, hy, hsp, hp, hpc, hmem, hw⟩ := core_eq (BranchRelAddr_core c hc s hs)
    simp only [absH, abs, core, ha, hxx, hy, hsp, hp, hpc, hmem, hw, addrMask_succ hc]
    have : branchTarget c.BYTE_WIDTH (core s) % AM c.BYTE_WIDTH = branchTarget c.BYTE_WIDTH (core s) := by
      simp only [branchTarget]; exact Int.emod_emod_of_dvd _ (dvd_refl _)
    simp only [core] at this
    rw [this]
    rfl


theorem bitV_mem {c : Cfg} (hc : IsDev c) : bitV c.BYTE_WIDTH ∈ [0, 1, 2, 3, 6, 7, 14, 15] := by
  rcases hc with rfl | rfl <;> decide
theorem bitN_mem {c : Cfg} (hc : IsDev c) : bitN c.BYTE_WIDTH ∈ [0, 1, 2, 3, 6, 7, 14, 15] := by
  rcases hc with rfl | rfl <;> decide

theorem normP_idem (p : Int) : normP (normP p) = normP p := by
  simp only [normP, bitB, bitU, flagalg]

theorem normP_range {c : Cfg} (hc : IsDev c) (p : Int) (h : 0 ≤ p ∧ p ≤ c.byteMask) :
    0 ≤ normP p ∧ normP p ≤ c.byteMask := by
  rcases hc with rfl | rfl <;>
  · constfold at h ⊢
    simp only [normP, setFlag, bitB, bitU]; simp; omega

theorem absH_FlagsNZ {c : Cfg} (hc : IsDev c) (r : Int) (u : St) (hr : 0 ≤ r ∧ r ≤ c.byteMask) :
    absH c (Mpu6502.FlagsNZ c r u) = { absH c u with p := setNZ c.BYTE_WIDTH (normP u.p) r } := by
  obtain ⟨ha, hxx, hy, hsp, hp, hpc, hmem, hw⟩ := core_eq (FlagsNZ_core c hc r u hr)
  simp only [absH, core, ha, hxx, hy, hsp, hp, hpc, hmem, hw, normP_setNZ _ hc.W]

/-- How the flag instructions' masks read: `p & ~FLAG` clears, `p | FLAG` sets. -/
theorem flag_masks {c : Cfg} (hc : IsDev c) (p : Int) :
    (land p (lnot c.CARRY) = setFlag p bitC false ∧ lor p c.CARRY = setFlag p bitC true) ∧
    (land p (lnot c.INTERRUPT) = setFlag p bitI false ∧ lor p c.INTERRUPT = setFlag p bitI true) ∧
    (land p (lnot c.DECIMAL) = setFlag p bitD false ∧ lor p c.DECIMAL = setFlag p bitD true) ∧
    land p (lnot c.OVERFLOW) = setFlag p (bitV c.BYTE_WIDTH) false := by
  obtain ⟨hC, -, hI, hD, hV, -⟩ := hc.masks
  rw [hC, hI, hD, hV]
  exact ⟨⟨land_lnot_two_pow p _, lor_two_pow p _⟩, ⟨land_lnot_two_pow p _, lor_two_pow p _⟩,
    ⟨land_lnot_two_pow p _, lor_two_pow p _⟩, land_lnot_two_pow p _⟩

/-- Both sides of a one-byte handler theorem computed field by field (`pc` does not move). -/
macro "imp_close" hc:ident : tactic =>
  `(tactic| simp only [exec, absH, abs, core, nextPc, Mode.len, addrMask_succ $hc, Int.sub_self,
      Int.add_zero])

theorem h_18 (c : Cfg) (hc : IsDev c) (v : Variant) : HandlerOK c v (Mpu6502.inst_0x18 c) .CLC .imp := by
  intro s _
  simp only [Mpu6502.inst_0x18, Mpu6502.opCLR, (flag_masks hc _).1.1]
  imp_close hc
  rw [normP_setFlag _ _ _ (by decide)]
theorem h_38 (c : Cfg) (hc : IsDev c) (v : Variant) : HandlerOK c v (Mpu6502.inst_0x38 c) .SEC .imp := by
  intro s _
  simp only [Mpu6502.inst_0x38, Mpu6502.opSET, (flag_masks hc _).1.2]
  imp_close hc
  rw [normP_setFlag _ _ _ (by decide)]
theorem h_58 (c : Cfg) (hc : IsDev c) (v : Variant) : HandlerOK c v (Mpu6502.inst_0x58 c) .CLI .imp := by
  intro s _
  simp only [Mpu6502.inst_0x58, Mpu6502.opCLR, (flag_masks hc _).2.1.1]
  imp_close hc
  rw [normP_setFlag _ _ _ (by decide)]
theorem h_78 (c : Cfg) (hc : IsDev c) (v : Variant) : HandlerOK c v (Mpu6502.inst_0x78 c) .SEI .imp := by
  intro s _
  simp only [Mpu6502.inst_0x78, Mpu6502.opSET, (flag_masks hc _).2.1.2]
  imp_close hc
  rw [normP_setFlag _ _ _ (by decide)]
theorem h_b8 (c : Cfg) (hc : IsDev c) (v : Variant) : HandlerOK c v (Mpu6502.inst_0xb8 c) .CLV .imp := by
  intro s _
  simp only [Mpu6502.inst_0xb8, Mpu6502.opCLR, (flag_masks hc _).2.2.2]
  imp_close hc
  rw [normP_setFlag _ _ _ (bitV_mem hc)]
theorem h_d8 (c : Cfg) (hc : IsDev c) (v : Variant) : HandlerOK c v (Mpu6502.inst_0xd8 c) .CLD .imp := by
  intro s _
  simp only [Mpu6502.inst_0xd8, Mpu6502.opCLR, (flag_masks hc _).2.2.1.1]
  imp_close hc
  rw [normP_setFlag _ _ _ (by decide)]
theorem h_f8 (c : Cfg) (hc : IsDev c) (v : Variant) : HandlerOK c v (Mpu6502.inst_0xf8 c) .SED .imp := by
  intro s _
  simp only [Mpu6502.inst_0xf8, Mpu6502.opSET, (flag_masks hc _).2.2.1.2]
  imp_close hc
  rw [normP_setFlag _ _ _ (by decide)]
theorem h_aa (c : Cfg) (hc : IsDev c) (v : Variant) : HandlerOK c v (Mpu6502.inst_0xaa c) .TAX .imp := by
  intro s hs
  rw [Mpu6502.inst_0xaa]
  rw [absH_FlagsNZ hc _ _ hs.a]
  imp_close hc
theorem h_a8 (c : Cfg) (hc : IsDev c) (v : Variant) : HandlerOK c v (Mpu6502.inst_0xa8 c) .TAY .imp := by
  intro s hs
  rw [Mpu6502.inst_0xa8]
  rw [absH_FlagsNZ hc _ _ hs.a]
  imp_close hc
theorem h_8a (c : Cfg) (hc : IsDev c) (v : Variant) : HandlerOK c v (Mpu6502.inst_0x8a c) .TXA .imp := by
  intro s hs
  rw [Mpu6502.inst_0x8a]
  rw [absH_FlagsNZ hc _ _ hs.x]
  imp_close hc
theorem h_98 (c : Cfg) (hc : IsDev c) (v : Variant) : HandlerOK c v (Mpu6502.inst_0x98 c) .TYA .imp := by
  intro s hs
  rw [Mpu6502.inst_0x98]
  rw [absH_FlagsNZ hc _ _ hs.y]
  imp_close hc
theorem h_ba (c : Cfg) (hc : IsDev c) (v : Variant) : HandlerOK c v (Mpu6502.inst_0xba c) .TSX .imp := by
  intro s hs
  rw [Mpu6502.inst_0xba]
  rw [absH_FlagsNZ hc _ _ hs.sp]
  imp_close hc
theorem h_9a (c : Cfg) (hc : IsDev c) (v : Variant) : HandlerOK c v (Mpu6502.inst_0x9a c) .TXS .imp := by
  intro s _
  rw [Mpu6502.inst_0x9a]
  imp_close hc
theorem h_e8 (c : Cfg) (hc : IsDev c) (v : Variant) : HandlerOK c v (Mpu6502.inst_0xe8 c) .INX .imp := by
  intro s hs
  simp only [Mpu6502.inst_0xe8, land_byteMask hc]
  rw [absH_FlagsNZ hc _ _ (emod_byte hc _)]
  imp_close hc
theorem h_c8 (c : Cfg) (hc : IsDev c) (v : Variant) : HandlerOK c v (Mpu6502.inst_0xc8 c) .INY .imp := by
  intro s hs
  simp only [Mpu6502.inst_0xc8, land_byteMask hc]
  rw [absH_FlagsNZ hc _ _ (emod_byte hc _)]
  imp_close hc
theorem h_ca (c : Cfg) (hc : IsDev c) (v : Variant) : HandlerOK c v (Mpu6502.inst_0xca c) .DEX .imp := by
  intro s hs
  simp only [Mpu6502.inst_0xca, land_byteMask hc]
  rw [absH_FlagsNZ hc _ _ (emod_byte hc _)]
  imp_close hc
theorem h_88 (c : Cfg) (hc : IsDev c) (v : Variant) : HandlerOK c v (Mpu6502.inst_0x88 c) .DEY .imp := by
  intro s hs
  simp only [Mpu6502.inst_0x88, land_byteMask hc]
  rw [absH_FlagsNZ hc _ _ (emod_byte hc _)]
  imp_close hc
theorem h_ea (c : Cfg) (hc : IsDev c) (v : Variant) : HandlerOK c v (Mpu6502.inst_0xea c) .NOP .imp := by
  intro s _
  rw [Mpu6502.inst_0xea]
  imp_close hc

theorem opBCL_ok (c : Cfg) (hc : IsDev c) (v : Variant) (x : Int) (k : Nat) (mn : Mn)
    (hk : k ∈ [0, 1, 2, 3, 6, 7, 14, 15])
    (hx : ∀ p : Int, (land p x ≠ 0) = (flag p k = true))
    (hcond : ∀ p, branchCond c.BYTE_WIDTH mn p = !flag p k)
    (hexec : ∀ a : AState, exec c.BYTE_WIDTH v mn .rel a =
      if branchCond c.BYTE_WIDTH mn a.p then { a with pc := branchTarget c.BYTE_WIDTH a }
      else { a with pc := nextPc c.BYTE_WIDTH .rel a }) :
    HandlerOK c v (Mpu6502.opBCL c x) mn .rel := by
  apply branch_ok c hc v _ mn (fun p => !flag p k) _ _ hexec
  · intro s
    simp only [Mpu6502.opBCL, hx]
    cases h : flag s.p k <;> simp
  · intro p; rw [hcond, flag_normP _ _ hk]

theorem opBST_ok (c : Cfg) (hc : IsDev c) (v : Variant) (x : Int) (k : Nat) (mn : Mn)
    (hk : k ∈ [0, 1, 2, 3, 6, 7, 14, 15])
    (hx : ∀ p : Int, (land p x ≠ 0) = (flag p k = true))
    (hcond : ∀ p, branchCond c.BYTE_WIDTH mn p = flag p k)
    (hexec : ∀ a : AState, exec c.BYTE_WIDTH v mn .rel a =
      if branchCond c.BYTE_WIDTH mn a.p then { a with pc := branchTarget c.BYTE_WIDTH a }
      else { a with pc := nextPc c.BYTE_WIDTH .rel a }) :
    HandlerOK c v (Mpu6502.opBST c x) mn .rel := by
  apply branch_ok c hc v _ mn (fun p => flag p k) _ _ hexec
  · intro s
    simp only [Mpu6502.opBST, hx]
  · intro p; rw [hcond, flag_normP _ _ hk]

/-- The branch instructions' flag tests. -/
theorem flag_tests {c : Cfg} (hc : IsDev c) (p : Int) :
    ((land p c.CARRY ≠ 0) = (flag p bitC = true)) ∧ ((land p c.ZERO ≠ 0) = (flag p bitZ = true)) ∧
    ((land p c.OVERFLOW ≠ 0) = (flag p (bitV c.BYTE_WIDTH) = true)) ∧
    ((land p c.NEGATIVE ≠ 0) = (flag p (bitN c.BYTE_WIDTH) = true)) := by
  obtain ⟨hC, hZ, -, -, hV, hN⟩ := hc.masks
  rw [hC, hZ, hV, hN]
  exact ⟨propext (land_two_pow_ne_zero_iff p _), propext (land_two_pow_ne_zero_iff p _),
    propext (land_two_pow_ne_zero_iff p _), propext (land_two_pow_ne_zero_iff p _)⟩

theorem h_10 (c : Cfg) (hc : IsDev c) (v : Variant) : HandlerOK c v (Mpu6502.inst_0x10 c) .BPL .rel :=
  opBCL_ok c hc v _ (bitN c.BYTE_WIDTH) .BPL (bitN_mem hc) (fun p => (flag_tests hc p).2.2.2) (fun _ => rfl) (fun _ => rfl)
theorem h_30 (c : Cfg) (hc : IsDev c) (v : Variant) : HandlerOK c v (Mpu6502.inst_0x30 c) .BMI .rel :=
  opBST_ok c hc v _ (bitN c.BYTE_WIDTH) .BMI (bitN_mem hc) (fun p => (flag_tests hc p).2.2.2) (fun _ => rfl) (fun _ => rfl)
theorem h_50 (c : Cfg) (hc : IsDev c) (v : Variant) : HandlerOK c v (Mpu6502.inst_0x50 c) .BVC .rel :=
  opBCL_ok c hc v _ (bitV c.BYTE_WIDTH) .BVC (bitV_mem hc) (fun p => (flag_tests hc p).2.2.1) (fun _ => rfl) (fun _ => rfl)
theorem h_70 (c : Cfg) (hc : IsDev c) (v : Variant) : HandlerOK c v (Mpu6502.inst_0x70 c) .BVS .rel :=
  opBST_ok c hc v _ (bitV c.BYTE_WIDTH) .BVS (bitV_mem hc) (fun p => (flag_tests hc p).2.2.1) (fun _ => rfl) (fun _ => rfl)
theorem h_90 (c : Cfg) (hc : IsDev c) (v : Variant) : HandlerOK c v (Mpu6502.inst_0x90 c) .BCC .rel :=
  opBCL_ok c hc v _ bitC .BCC (by decide) (fun p => (flag_tests hc p).1) (fun _ => rfl) (fun _ => rfl)
theorem h_b0 (c : Cfg) (hc : IsDev c) (v : Variant) : HandlerOK c v (Mpu6502.inst_0xb0 c) .BCS .rel :=
  opBST_ok c hc v _ bitC .BCS (by decide) (fun p => (flag_tests hc p).1) (fun _ => rfl) (fun _ => rfl)
theorem h_d0 (c : Cfg) (hc : IsDev c) (v : Variant) : HandlerOK c v (Mpu6502.inst_0xd0 c) .BNE .rel :=
  opBCL_ok c hc v _ bitZ .BNE (by decide) (fun p => (flag_tests hc p).2.1) (fun _ => rfl) (fun _ => rfl)
theorem h_f0 (c : Cfg) (hc : IsDev c) (v : Variant) : HandlerOK c v (Mpu6502.inst_0xf0 c) .BEQ .rel :=
  opBST_ok c hc v _ bitZ .BEQ (by decide) (fun p => (flag_tests hc p).2.1) (fun _ => rfl) (fun _ => rfl)

end Py65.Proofs
