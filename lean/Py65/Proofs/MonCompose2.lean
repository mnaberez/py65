/-
COMPOSITION, second part (C20): the five commands `Proofs/MonCompose.lean` left behind the
parameters `P.unt` / `P.asm` -- `do_assemble` (with `_interactive_assemble`), `do_help`, `do_version`, `do_cd`,
`do_pwd` -- INSTANTIATED with the generated methods of `Gen/MonAsmGen.lean` through the adapter
`Model/MonCompose2Rt.lean`, with

  `asm`     := the GENERATED assembler of the session's device (`C20a.asmG (asmDev c.dev) Q.kt`),
  `dis`     := the GENERATED `do_disassemble` of `MonShowGen` (`MonCompose.disC`) on the core the `AsmSt` denotes,
  `iat`, `fmtdis` := the same uninterpreted parameters `P.iat` / `P.fmtdis` `MonShowGen` is run with,
  `cmdhelp` := `Q.cmdhelp` (cmd.Cmd.do_help: standard library, NOT translated; hypothesis `C20a.OutOnly`),
  `reply`, `d`, `w` := the glue's reply oracle, the device's widths, the OS parameter `Q.aw`.

`Params2.full Q : Params` is the resulting instance of `MonCompose.Params`; `InputOK` (every `assemble` run ends) is
needed only for the universally quantified `UntModels`, never for a refused line.
-/
import Py65.Model.MonCompose2Rt
import Py65.Proofs.MonCompose
import Py65.Props.C20a

namespace Py65.Proofs.MonCompose2
open Py65 Py65.Model Py65.Model.PyStr Py65.Model.AddrParser Py65.Model.MonCmd Py65.Model.MonGenRt
open Py65.Model.MonCmdRt Py65.Model.MonComposeRt Py65.Model.MonCompose2Rt Py65.Model.MonAsmRt Py65.Model.MonAsm
open Py65.Gen Py65.Proofs.MonCmd Py65.Proofs.MonCmdGenEq Py65.Proofs.MonCompose Py65.Proofs.MonAsmGenEq
open Py65.Props.C20a

def Fr (σ s : AsmSt) : Prop :=
  s.regs = σ.regs ∧ s.parser = σ.parser ∧ s.breakpoints = σ.breakpoints ∧ s.width = σ.width

theorem Fr.refl (σ : AsmSt) : Fr σ σ := ⟨rfl, rfl, rfl, rfl⟩

theorem Fr.trans {a b c : AsmSt} (h1 : Fr a b) (h2 : Fr b c) : Fr a c :=
  ⟨h2.1.trans h1.1, h2.2.1.trans h1.2.1, h2.2.2.1.trans h1.2.2.1, h2.2.2.2.trans h1.2.2.2⟩

def FrameKept {α : Type} (σ : AsmSt) : AFlow AsmSt α → Prop
  | .ok _ s => Fr σ s
  | .raise _ s => Fr σ s
  | .nofuel => True

theorem FrameKept.of_fr {α : Type} {σ0 σ : AsmSt} (h : Fr σ0 σ) {r : AFlow AsmSt α} (hk : FrameKept σ r) : FrameKept σ0 r := by
  cases r with
  | ok v s => exact h.trans hk
  | raise e s => exact h.trans hk
  | nofuel => trivial

theorem FrameKept.bind {α β : Type} {σ : AsmSt} {x : AFlow AsmSt α} {f : α → AsmSt → AFlow AsmSt β}
    (hx : FrameKept σ x) (hf : ∀ v s, FrameKept s (f v s)) : FrameKept σ (x.bind f) := by
  cases x with
  | ok v s => exact FrameKept.of_fr hx (hf v s)
  | raise e s => exact hx
  | nofuel => trivial

section frame
variable (asm : Parser → Str → Int → Except AExc (List Int))
  (iat : AsmSt → Int → Except AExc (Int × Str)) (fmtdis : AsmSt → Int → Int → Str → Except AExc Str)
  (dis : Str → AsmSt → AFlow AsmSt Unit) (reply : ObsMem.Reply) (d : MonMem.Dev)

theorem asmHandlers_kept (args st : Str) (e : AExc) (σ : AsmSt) : FrameKept σ (asmHandlers args st e σ) := by
  cases e <;> exact Fr.refl σ

theorem catchAsm_kept (args st : Str) (σ : AsmSt) (r : AFlow AsmSt Unit) (h : FrameKept σ r) :
    FrameKept σ (catchAsm args st r) := by
  cases r with
  | ok v s => exact h
  | raise e s => exact FrameKept.of_fr h (asmHandlers_kept args st e s)
  | nofuel => trivial

theorem iaAccept_kept (start : Int) (pr line : Str) (bytes : List Int) (σ : AsmSt) :
    FrameKept σ (iaAccept iat fmtdis reply d start pr line bytes σ) := by
  unfold iaAccept
  dsimp only
  split
  · exact Fr.refl σ
  · split
    · exact Fr.refl σ
    · exact Fr.refl σ

theorem iaTry_kept (start : Int) (pr line : Str) (σ : AsmSt) :
    FrameKept σ (iaTry asm iat fmtdis reply d start pr line σ) := by
  unfold iaTry
  split
  · exact Fr.refl σ
  · exact iaAccept_kept iat fmtdis reply d start pr line _ σ

theorem iaLine_kept (start : Int) (pr line : Str) (σ : AsmSt) :
    FrameKept σ (iaLine asm iat fmtdis reply d start pr line σ) := by
  unfold iaLine
  have h := iaTry_kept asm iat fmtdis reply d start pr line σ
  cases hr : iaTry asm iat fmtdis reply d start pr line σ with
  | ok v s => rw [hr] at h; exact h
  | nofuel => trivial
  | raise e s =>
    rw [hr] at h
    dsimp only
    split
    · exact h
    · exact h

theorem iaLoop_kept (fuel : Nat) : ∀ (start : Int) (σ : AsmSt), FrameKept σ (iaLoop asm iat fmtdis reply d fuel start σ) := by
  induction fuel with
  | zero => intro start σ; trivial
  | succ n ih =>
    intro start σ
    unfold iaLoop
    cases hi : σ.inp with
    | nil => trivial
    | cons line rest =>
      dsimp only
      split
      · exact Fr.refl σ
      · refine FrameKept.of_fr ?_ (FrameKept.bind (iaLine_kept asm iat fmtdis reply d start _ line _) (fun a s => ih a s))
        exact ⟨rfl, rfl, rfl, rfl⟩

theorem interactiveAssemble_kept (fuel : Nat) (args : Str) (σ : AsmSt) :
    FrameKept σ (interactiveAssemble asm iat fmtdis reply d fuel args σ) := by
  unfold interactiveAssemble
  split
  · exact FrameKept.bind (iaLoop_kept asm iat fmtdis reply d fuel _ σ) (fun _ s => Fr.refl s)
  · split
    · exact FrameKept.bind (iaLoop_kept asm iat fmtdis reply d fuel _ σ) (fun _ s => Fr.refl s)
    · exact Fr.refl σ
    · exact Fr.refl σ

theorem doAssemble_kept (hdis : ∀ a σ, FrameKept σ (dis a σ)) (fuel : Nat) (args : Str) (σ : AsmSt) :
    FrameKept σ (doAssemble asm dis (interactiveAssemble asm iat fmtdis reply d fuel) reply d args σ) := by
  unfold doAssemble
  split
  · split
    · exact asmHandlers_kept _ _ _ σ
    · split
      · exact asmHandlers_kept _ _ _ σ
      · refine FrameKept.of_fr ?_ (catchAsm_kept _ _ _ _ (hdis _ _))
        exact ⟨rfl, rfl, rfl, rfl⟩
  · exact interactiveAssemble_kept asm iat fmtdis reply d fuel args σ

end frame

/-- The parameters of the FULL composition: those of `MonCompose.Params` (`base`; its fields `unt` and `asm` are
NOT used) and what `MonAsmGen` needs on top: the input oracle and working directory (`I`), the OS for `cd`
(`aw`), the texts of two `KeyError`s that only reach the output (`kt`: the assembler's; `ktDis`: one leaving
`do_disassemble` into `do_assemble`'s handler), `cmd.Cmd.do_help` (`cmdhelp`), the fuel of the interactive loop
(one unit per prompt). -/
structure Params2 where
  base : Params
  I : Inputs
  aw : AWorld
  kt : Parser → Str → Str
  ktDis : Core → Str → Str
  cmdhelp : Str → AsmSt → AFlow AsmSt Unit
  fuelAsm : Nat

variable (Q : Params2)

/-- The assembler's view of the session device. -/
def asmDev : MonCmd.Dev → Asm.Dev
  | .d6502 => Asm.dev6502
  | .d65c02 => Asm.dev65c02
  | .d65org16 => Asm.dev65org16

/-- `self._assembler.assemble`: the GENERATED assembler of the session's device. -/
def asmA (c : Core) : Parser → Str → Int → Except AExc (List Int) := asmG (asmDev c.dev) Q.kt

/-- `self.do_disassemble`: the GENERATED command of `MonShowGen`, run on the core the `AsmSt` denotes. -/
def disA (c : Core) : Str → AsmSt → AFlow AsmSt Unit := fun arg σ =>
  liftShowA (Q.ktDis (coreOfAsm c σ) arg) σ (disC Q.base arg (coreOfAsm c σ))

/-- `self._disassembler.instruction_at`: the parameter `MonShowGen` is run with. -/
def iatA (c : Core) : AsmSt → Int → Except AExc (Int × Str) := fun σ a =>
  match Q.base.iat (coreOfAsm c σ) (stOf (coreOfAsm c σ)) a with
  | .ok r => .ok r
  | .error e => .error (aexcOf (Q.ktDis (coreOfAsm c σ) []) e)

/-- `self._format_disassembly`: the parameter `MonShowGen` is run with. -/
def fmtdisA (c : Core) : AsmSt → Int → Int → Str → Except AExc Str := fun σ a n t =>
  match Q.base.fmtdis (coreOfAsm c σ) (stOf (coreOfAsm c σ)) a n t with
  | .ok r => .ok r
  | .error e => .error (aexcOf (Q.ktDis (coreOfAsm c σ) []) e)

def asmC (arg : Str) (c : Core) : AFlow AsmSt Unit :=
  MonAsmGen.do_assemble Q.aw (asmA Q c) (iatA Q c) (fmtdisA Q c) (disA Q c) Q.cmdhelp Q.base.G.reply (memDev c.dev)
    Q.fuelAsm arg (asmStOf Q.base.G Q.I c arg)
def helpC (arg : Str) (c : Core) : AFlow AsmSt Unit :=
  MonAsmGen.do_help Q.aw (asmA Q c) (iatA Q c) (fmtdisA Q c) (disA Q c) Q.cmdhelp Q.base.G.reply (memDev c.dev)
    arg (asmStOf Q.base.G Q.I c arg)
def versionC (arg : Str) (c : Core) : AFlow AsmSt Unit :=
  MonAsmGen.do_version Q.aw (asmA Q c) (iatA Q c) (fmtdisA Q c) (disA Q c) Q.cmdhelp Q.base.G.reply (memDev c.dev)
    arg (asmStOf Q.base.G Q.I c arg)
def cdC (arg : Str) (c : Core) : AFlow AsmSt Unit :=
  MonAsmGen.do_cd Q.aw (asmA Q c) (iatA Q c) (fmtdisA Q c) (disA Q c) Q.cmdhelp Q.base.G.reply (memDev c.dev)
    arg (asmStOf Q.base.G Q.I c arg)
def pwdC (arg : Str) (c : Core) : AFlow AsmSt Unit :=
  MonAsmGen.do_pwd Q.aw (asmA Q c) (iatA Q c) (fmtdisA Q c) (disA Q c) Q.cmdhelp Q.base.G.reply (memDev c.dev)
    (some arg) (asmStOf Q.base.G Q.I c arg)

/-- The parameter `unt` of `MonCompose.Params`: the five GENERATED methods through the adapter (any other name
never gets here: `othG` sends the names of the command table to their units). -/
def untG : Str → Str → CmdSt → Flow CmdSt PyRet := fun name arg σ =>
  match cmdOfName name with
  | some .assemble => liftAsm σ.core σ (asmC Q arg σ.core)
  | some .help => liftAsm σ.core σ (helpC Q arg σ.core)
  | some .version => liftAsm σ.core σ (versionC Q arg σ.core)
  | some .cd => liftAsm σ.core σ (cdC Q arg σ.core)
  | some .pwd => liftAsm σ.core σ (pwdC Q arg σ.core)
  | _ => .ok none σ  -- never reached, see above; any value would do

/-- The parameter `asm` of `MonCompose.Params` (= `Ext.run .assemble` of the model): the verdict of the address
parser and the GENERATED assembler, registers and cells READ OFF the run of the generated `do_assemble`. -/
def asmModel : Core → Str → Verdict × Regs × (Int → Int) := fun c arg =>
  (asmVerdict (asmA Q c) c arg, asmAfter c (asmC Q arg c))

def Params2.full : Params := { Q.base with unt := untG Q, asm := asmModel Q }

theorem disA_kept (c : Core) (a : Str) (σ : AsmSt) : FrameKept σ (disA Q c a σ) := by
  unfold disA
  cases disC Q.base a (coreOfAsm c σ) with
  | ok v s => exact Fr.refl σ
  | raise e s => exact Fr.refl σ
  | nofuel => trivial

/-- What is not read back from `do_disassemble` inside `do_assemble` is unchanged: the device object of the
`ShowSt` is, at every end, the one built from the core the `AsmSt` denotes (`MonCompose.dis_kept`). -/
theorem disA_device_kept (c : Core) (a : Str) (σ : AsmSt) : ShowKept (coreOfAsm c σ) (disC Q.base a (coreOfAsm c σ)) :=
  dis_kept Q.base a (coreOfAsm c σ)

/-- EVERY end of the generated `do_assemble` (one-line or interactive, accepted or not, returned or raised):
registers, labels, radix, breakpoints, width are those it started with. -/
theorem asm_kept (arg : Str) (c : Core) : FrameKept (asmStOf Q.base.G Q.I c arg) (asmC Q arg c) := by
  unfold asmC
  rw [do_assemble_eq]
  exact doAssemble_kept _ _ _ _ _ _ (disA_kept Q c) _ _ _

theorem coreOfAsm_of_fr (G : Glue) (I : Inputs) (c : Core) (arg : Str) (s : AsmSt) (h : Fr (asmStOf G I c arg) s) :
    coreOfAsm c s = { c with regs := s.regs, mem := s.memory.subject } := by
  obtain ⟨-, h2, h3, h4⟩ := h
  have hl : s.parser.labels = c.labels := by rw [h2]; rfl
  have hr : s.parser.radix = c.radix := by rw [h2]; rfl
  have hb : s.breakpoints = c.breakpoints := h3
  have hw : s.width = c.width := h4
  simp only [coreOfAsm, hl, hr, hb, hw]

theorem coreOfAsm_same (G : Glue) (hG : GlueOK G) (I : Inputs) (c : Core) (arg : Str) (s : AsmSt)
    (h : SameSession (asmStOf G I c arg) s) : coreOfAsm c s = c := by
  obtain ⟨h1, h2, h3, h4, h5⟩ := h
  have hm : s.memory.subject = c.mem := by rw [h1]; exact hG c
  have hg : s.regs = c.regs := h2
  have hl : s.parser.labels = c.labels := by rw [h3]; rfl
  have hr : s.parser.radix = c.radix := by rw [h3]; rfl
  have hb : s.breakpoints = c.breakpoints := h4
  have hw : s.width = c.width := h5
  simp only [coreOfAsm, hm, hg, hl, hr, hb, hw]

/-- A REFUSED `assemble` (refused start address, or a statement the generated assembler refuses -- any
exception) ENDS: it returns or raises, never waits for input; memory object, registers, labels, radix,
breakpoints and width are exactly the old ones (`C20a.assemble_rejected_session` for the one-line form, the
start of `_interactive_assemble` for the other). -/
theorem asm_rejected_end (arg : Str) (c : Core) (h : (asmVerdict (asmA Q c) c arg).isRejected = true) :
    ∃ s, (asmC Q arg c = .ok () s ∨ ∃ e, asmC Q arg c = .raise e s) ∧ SameSession (asmStOf Q.base.G Q.I c arg) s := by
  unfold asmVerdict at h
  split at h
  · rename_i a st hs
    have hrej : (∃ e, parseNumberA (asmStOf Q.base.G Q.I c arg).parser a = .error e) ∨
        (∃ start e, parseNumberA (asmStOf Q.base.G Q.I c arg).parser a = .ok start ∧
          asmA Q c (asmStOf Q.base.G Q.I c arg).parser st start = .error e) := by
      show (∃ e, parseNumberA c.parser a = .error e) ∨
        (∃ start e, parseNumberA c.parser a = .ok start ∧ asmA Q c c.parser st start = .error e)
      cases hp : parseNumberA c.parser a with
      | error e => exact Or.inl ⟨e, rfl⟩
      | ok start =>
        rw [hp] at h
        dsimp only at h
        cases ha : asmA Q c c.parser st start with
        | error e => exact Or.inr ⟨start, e, rfl, ha⟩
        | ok bs => rw [ha] at h; cases h
    obtain ⟨s, hs', hss, -, -⟩ := assemble_rejected_session Q.aw (asmA Q c) (iatA Q c) (fmtdisA Q c) (disA Q c)
      Q.cmdhelp Q.base.G.reply (memDev c.dev) Q.fuelAsm arg a st (asmStOf Q.base.G Q.I c arg) hs hrej
    exact ⟨s, hs', hss⟩
  · rename_i hns
    by_cases ha : arg = []
    · rw [if_pos ha] at h; cases h
    · rw [if_neg ha] at h
      unfold asmC
      rw [do_assemble_eq]
      unfold doAssemble
      split
      · rename_i a st hs
        exact absurd hs (hns a st)
      · unfold interactiveAssemble
        rw [if_neg ha]
        have hpar : (asmStOf Q.base.G Q.I c arg).parser = c.parser := rfl
        rw [hpar]
        cases hp : parseNumberA c.parser arg with
        | ok start => rw [hp] at h; cases h
        | error e =>
          cases e <;> dsimp only <;>
            first
              | exact ⟨_, Or.inl rfl, SameSession.print _ _⟩
              | exact ⟨_, Or.inr ⟨_, rfl⟩, ⟨rfl, rfl, rfl, rfl, rfl⟩⟩

theorem asm_honest (hG : GlueOK Q.base.G) : AsmHonest Q.full := by
  intro c arg h
  obtain ⟨s, hs, hss⟩ := asm_rejected_end Q arg c h
  have hm : s.memory.subject = c.mem := by rw [hss.1]; exact hG c
  have hr : s.regs = c.regs := hss.2.1
  show (asmAfter c (asmC Q arg c)).1 = c.regs ∧ (asmAfter c (asmC Q arg c)).2 = c.mem
  rcases hs with hs | ⟨e, hs⟩ <;> rw [hs] <;> exact ⟨hr, hm⟩

theorem asm_rejected_ended (arg : Str) (c : Core) (h : (asmVerdict (asmA Q c) c arg).isRejected = true) :
    asmC Q arg c ≠ .nofuel := by
  obtain ⟨s, hs, -⟩ := asm_rejected_end Q arg c h
  rcases hs with hs | ⟨e, hs⟩ <;> rw [hs] <;> simp

theorem untG_word (cmd : Command) (arg : Str) (σ : CmdSt) :
    untG Q ("do_".toList ++ cmdWord cmd) arg σ =
      match cmd with
      | .assemble => liftAsm σ.core σ (asmC Q arg σ.core)
      | .help => liftAsm σ.core σ (helpC Q arg σ.core)
      | .version => liftAsm σ.core σ (versionC Q arg σ.core)
      | .cd => liftAsm σ.core σ (cdC Q arg σ.core)
      | .pwd => liftAsm σ.core σ (pwdC Q arg σ.core)
      | _ => .ok none σ := by
  unfold untG
  rw [cmdOfName_word]
  cases cmd <;> rfl

theorem liftAsm_facts (c : Core) (σ : CmdSt) (arg : Str) (r : AFlow AsmSt Unit) (h : r ≠ .nofuel)
    (hk : FrameKept (asmStOf Q.base.G Q.I c arg) r) :
    CmdEnds σ (liftAsm c σ r) { c with regs := (asmAfter c r).1, mem := (asmAfter c r).2 } := by
  cases r with
  | nofuel => exact absurd rfl h
  | ok v s => exact ⟨by simp [liftAsm], coreOfAsm_of_fr _ _ c arg s hk, rfl, rfl⟩
  | raise e s => exact ⟨by simp [liftAsm], coreOfAsm_of_fr _ _ c arg s hk, rfl, rfl⟩

def SameEnd (σ : AsmSt) : AFlow AsmSt Unit → Prop
  | .ok _ s => SameSession σ s
  | .raise _ s => SameSession σ s
  | .nofuel => False

theorem liftAsm_same (hG : GlueOK Q.base.G) (c : Core) (σ : CmdSt) (arg : Str) (r : AFlow AsmSt Unit)
    (hk : SameEnd (asmStOf Q.base.G Q.I c arg) r) : CmdEnds σ (liftAsm c σ r) c := by
  cases r with
  | nofuel => exact absurd hk id
  | ok v s => exact ⟨by simp [liftAsm], coreOfAsm_same _ hG _ c arg s hk, rfl, rfl⟩
  | raise e s => exact ⟨by simp [liftAsm], coreOfAsm_same _ hG _ c arg s hk, rfl, rfl⟩

theorem version_same (arg : Str) (c : Core) : SameEnd (asmStOf Q.base.G Q.I c arg) (versionC Q arg c) := by
  unfold versionC
  rw [(display_commands_pure Q.aw _ _ _ _ Q.cmdhelp _ _).1]
  exact SameSession.print _ _

theorem pwd_same (arg : Str) (c : Core) : SameEnd (asmStOf Q.base.G Q.I c arg) (pwdC Q arg c) := by
  unfold pwdC
  rw [do_pwd_eq]
  exact SameSession.print _ _

theorem help_same (hh : OutOnly Q.cmdhelp) (arg : Str) (c : Core) :
    SameEnd (asmStOf Q.base.G Q.I c arg) (helpC Q arg c) := by
  unfold helpC
  rcases (display_commands_pure Q.aw (asmA Q c) (iatA Q c) (fmtdisA Q c) (disA Q c) Q.cmdhelp Q.base.G.reply
    (memDev c.dev)).2.2.1 hh arg (asmStOf Q.base.G Q.I c arg) with ⟨o, ho⟩ | ⟨e, o, ho⟩
  · rw [ho]; exact ⟨rfl, rfl, rfl, rfl, rfl⟩
  · rw [ho]; exact ⟨rfl, rfl, rfl, rfl, rfl⟩

theorem cd_same (arg : Str) (c : Core) : SameEnd (asmStOf Q.base.G Q.I c arg) (cdC Q arg c) := by
  unfold cdC
  obtain ⟨s, hs, hss, -⟩ := (display_commands_pure Q.aw (asmA Q c) (iatA Q c) (fmtdisA Q c) (disA Q c) Q.cmdhelp
    Q.base.G.reply (memDev c.dev)).2.2.2 arg (asmStOf Q.base.G Q.I c arg)
  rcases hs with hs | ⟨⟨e, hs⟩, -⟩ <;> rw [hs] <;> exact hss

/-- The five generated methods of `MonAsmGen`, through the adapter, do to the session core what the model says:
nothing for `help version cd pwd`; for `assemble` registers and cells as `asmModel` reads them off the run,
everything else unchanged (`asm_kept`) -- at every call that returns (one-line form: `do_disassemble` ended within
`fuelDis`; interactive: a blank line came within `fuelAsm` prompts and before the typed lines ran out). -/
theorem untG_ends (hG : GlueOK Q.base.G) (hh : OutOnly Q.cmdhelp) (cmd : Command) (hc : untranslated cmd = true)
    (arg : Str) (σ : CmdSt) (hret : cmd = .assemble → asmC Q arg σ.core ≠ .nofuel) :
    CmdEnds σ (untG Q ("do_".toList ++ cmdWord cmd) arg σ) (runCommand (extG Q.full) σ.core cmd arg).core := by
  rw [untG_word]
  cases cmd
  case assemble => exact liftAsm_facts Q σ.core σ arg _ (hret rfl) (asm_kept Q arg σ.core)
  case help => exact liftAsm_same Q hG σ.core σ arg _ (help_same Q hh arg σ.core)
  case version => exact liftAsm_same Q hG σ.core σ arg _ (version_same Q arg σ.core)
  case cd => exact liftAsm_same Q hG σ.core σ arg _ (cd_same Q arg σ.core)
  case pwd => exact liftAsm_same Q hG σ.core σ arg _ (pwd_same Q arg σ.core)
  all_goals cases hc

/-- The input oracle (and the fuels) are such that EVERY `assemble` run ends: each interactive session is
closed by a blank line among the typed lines, within `fuelAsm` prompts; each one-line form's `disassemble` ends
within `fuelDis`.  (Needed only for the universally quantified `UntModels`; NOT for a refused line.) -/
def InputOK : Prop := ∀ arg c, asmC Q arg c ≠ .nofuel

theorem unt_models (hG : GlueOK Q.base.G) (hh : OutOnly Q.cmdhelp) (hin : InputOK Q) : UntModels Q.full :=
  fun cmd hc arg σ => untG_ends Q hG hh cmd hc arg σ fun _ => hin arg σ.core

/-- `MonCompose.CallOK` for the full instance, plus: the `assemble` run returned. -/
def CallOK2 (cmd : Command) (arg : Str) (c : Core) : Prop :=
  CallOK Q.full cmd arg c ∧ (cmd = .assemble → asmC Q arg c ≠ .nofuel)

theorem unt_at (hG : GlueOK Q.base.G) (hh : OutOnly Q.cmdhelp) (c : Core) (cmd : Command) (a : Str)
    (hc : untranslated cmd = true) (hret : cmd = .assemble → asmC Q a c ≠ .nofuel) (σ1 : CmdSt) (h1 : σ1.core = c) :
    ModelsAt (othG Q.full) (extG Q.full) cmd a σ1 :=
  models_unt Q.full cmd hc a σ1 (untG_ends Q hG hh cmd hc a σ1 (by rw [h1]; exact hret))

section composed
variable (tb : Exc → Str) (mr : Core → Str)

/-- `MonCompose.onecmd_sim_composed` for the full instance: no hypothesis about any `do_*` method is left. -/
theorem onecmd_sim_composed2 (hG : GlueOK Q.base.G) (hh : OutOnly Q.cmdhelp) (fuel : Nat) (line : Str) (σ : CmdSt)
    (hf : fuel > (preprocessL line).length + (preprocessL σ.lastcmd).length + 6) (hnl : ¬ Loops σ line)
    (hok : ∀ cmd a, dispatched { core := σ.core, lastcmd := σ.lastcmd } line = some (cmd, a) → CallOK2 Q cmd a σ.core) :
    Sim (onecmdL (extG Q.full) { core := σ.core, lastcmd := σ.lastcmd } line)
      (MonCmdGen.onecmd (othG Q.full) tb mr fuel line σ) :=
  onecmd_sim_composed Q.full tb mr hG fuel line σ hf hnl (fun cmd a hd => (hok cmd a hd).1)
    fun cmd a hd hc => unt_at Q hG hh σ.core cmd a hc (hok cmd a hd).2

/-- `MonCompose.onecmd_rejected_composed` for the full instance; a refused `assemble` has ended
(`asm_rejected_ended`), so nothing is asked of the input oracle. -/
theorem onecmd_rejected_composed2 (hG : GlueOK Q.base.G) (hh : OutOnly Q.cmdhelp) (hload : LoadFuel Q.full)
    (fuel : Nat) (line : Str) (σ : CmdSt) (hwf : σ.core.parser.WF) (hfill : FillFuel Q.full σ.core)
    (hf : fuel > (preprocessL line).length + (preprocessL σ.lastcmd).length + 6) (hnl : ¬ Loops σ line)
    (h : (onecmdL (extG Q.full) { core := σ.core, lastcmd := σ.lastcmd } line).1.verdict.isRejected = true) :
    ∃ v σ', MonCmdGen.onecmd (othG Q.full) tb mr fuel line σ = .ok v σ' ∧ σ'.core = σ.core :=
  onecmd_rejected_composed Q.full tb mr hG (asm_honest Q hG) hload fuel line σ hwf hfill hf hnl h
    fun cmd a hd hc => unt_at Q hG hh σ.core cmd a hc fun e => by
      subst e
      rw [(onecmdL_dispatched (extG Q.full) { core := σ.core, lastcmd := σ.lastcmd } line).1 _ a hd] at h
      exact asm_rejected_ended Q a σ.core h

end composed

end Py65.Proofs.MonCompose2
