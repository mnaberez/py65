/-
The canonical handler of a table row.  A device's `instruct` table is, row by row, determined by
the mnemonic and the addressing mode: most entries are `operation helper ∘ mode helper`, followed
by stepping PC over the operand bytes; the others (stack, control flow, flags, transfers) have a
handler of their own.  `stdHandler` names that handler; the per-aspect theorems about handlers
(state, access log, cycles) are proved about `stdHandler`, once per mnemonic, and one table fact
per device list says that the table holds `stdHandler` of each declared row.
-/
import Py65.Proofs.Step

namespace Py65.Proofs
open Py65 Py65.Gen Py65.Spec

/-- The addressing-mode helper for the modes that yield an effective address.  `(zp)` exists on
the 65C02 only. -/
def modeFn (c : Cfg) (v : Variant) : Mode → Option (St → Int × St)
  | .imm => some (Mpu6502.ProgramCounter c)
  | .zpg => some (Mpu6502.ZeroPageAddr c)
  | .zpx => some (Mpu6502.ZeroPageXAddr c)
  | .zpy => some (Mpu6502.ZeroPageYAddr c)
  | .abs => some (Mpu6502.AbsoluteAddr c)
  | .abx => some (Mpu6502.AbsoluteXAddr c)
  | .aby => some (Mpu6502.AbsoluteYAddr c)
  | .inx => some (Mpu6502.IndirectXAddr c)
  | .iny => some (Mpu6502.IndirectYAddr c)
  | .zpi => match v with
    | .cmos => some (Mpu65c02.ZeroPageIndirectAddr c)
    | .nmos => none
  | _ => none

/-- Operate through the mode's helper, then step PC over the operand bytes. -/
def viaMode (c : Cfg) (v : Variant) (mo : Mode) (f : (St → Int × St) → St → St) : Option (St → St) :=
  (modeFn c v mo).map fun x s => bump (mo.len - 1) (f x s)

/-- As `viaMode`, for operations that write to the effective address: no immediate operand. -/
def viaAddr (c : Cfg) (v : Variant) (mo : Mode) (f : (St → Int × St) → St → St) : Option (St → St) :=
  if mo = .imm then none else viaMode c v mo f

/-- A handler that exists in one addressing mode only. -/
def atMode (m mo : Mode) (h : St → St) : Option (St → St) := if mo = m then some h else none

/-- Shift, rotate, increment, decrement: on the accumulator, or on memory through the mode's helper. -/
def rmwHandler (c : Cfg) (v : Variant) (mo : Mode) (a : St → St) (f : (St → Int × St) → St → St) :
    Option (St → St) :=
  if mo = .acc then some a else viaAddr c v mo f

/-- Rows the NMOS devices do not have. -/
def cmosOnly (v : Variant) (o : Option (St → St)) : Option (St → St) :=
  match v with
  | .cmos => o
  | .nmos => none

/-- `RMB`/`SMB` address bits 0–7. -/
def bitRow (b : Nat) (o : Option (St → St)) : Option (St → St) := if b < 8 then o else none

/-- The rows the 65C02 adds with a mnemonic of their own. -/
def cmosHandler (c : Cfg) (mn : Mn) (mo : Mode) : Option (St → St) :=
  match mn with
  | .BRA => atMode .rel mo (Mpu65c02.inst_0x80 c)
  | .PHX => atMode .imp mo (Mpu65c02.inst_0xda c)
  | .PHY => atMode .imp mo (Mpu65c02.inst_0x5a c)
  | .PLX => atMode .imp mo (Mpu65c02.inst_0xfa c)
  | .PLY => atMode .imp mo (Mpu65c02.inst_0x7a c)
  | .WAI => atMode .imp mo (Mpu65c02.inst_0xcb c)
  | .STZ => viaAddr c .cmos mo (Mpu65c02.opSTZ c)
  | .TSB => viaAddr c .cmos mo (Mpu65c02.opTSB c)
  | .TRB => viaAddr c .cmos mo (Mpu65c02.opTRB c)
  | .RMB b => bitRow b (viaAddr c .cmos mo fun x => Mpu65c02.opRMB c x (255 - 2 ^ b))
  | .SMB b => bitRow b (viaAddr c .cmos mo fun x => Mpu65c02.opSMB c x (2 ^ b))
  | _ => none

/-- The handler of `(mn, mo)`, built from the mnemonic's operation helper and the mode's helper, or
the handler that stands alone.  `rows_*` below: at every declared row the devices' tables hold it.
The variant matters where the 65C02 replaces a handler (BRK, JMP (ind)) or adds a row.

Theorems about a handler that stands alone are named by aspect and opcode: `h_4c` state
(`HandlerOK`), `a_4c` access log, `c_4c` cycles, `r_18` touches registers only, `b_10` shape of a
branch; `ac_`, `cc_`, `rc_` the same for the 65C02's own handlers. -/
def stdHandler (c : Cfg) (v : Variant) (mn : Mn) (mo : Mode) : Option (St → St) :=
  match mn with
  | .ORA => viaMode c v mo (Mpu6502.opORA c)
  | .AND => viaMode c v mo (Mpu6502.opAND c)
  | .EOR => viaMode c v mo (Mpu6502.opEOR c)
  | .ADC => viaMode c v mo (Mpu6502.opADC c)
  | .SBC => viaMode c v mo (Mpu6502.opSBC c)
  | .LDA => viaMode c v mo (Mpu6502.opLDA c)
  | .LDX => viaMode c v mo (Mpu6502.opLDX c)
  | .LDY => viaMode c v mo (Mpu6502.opLDY c)
  | .CMP => viaMode c v mo fun x s => Mpu6502.opCMPR c x s.a s
  | .CPX => viaMode c v mo fun x s => Mpu6502.opCMPR c x s.x s
  | .CPY => viaMode c v mo fun x s => Mpu6502.opCMPR c x s.y s
  | .BIT => if mo = .imm then cmosOnly v (some (Mpu65c02.inst_0x89 c)) else viaMode c v mo (Mpu6502.opBIT c)
  | .STA => viaAddr c v mo (Mpu6502.opSTA c)
  | .STX => viaAddr c v mo (Mpu6502.opSTX c)
  | .STY => viaAddr c v mo (Mpu6502.opSTY c)
  | .ASL => rmwHandler c v mo (Mpu6502.opASL_acc c) (Mpu6502.opASL_mem c)
  | .LSR => rmwHandler c v mo (Mpu6502.opLSR_acc c) (Mpu6502.opLSR_mem c)
  | .ROL => rmwHandler c v mo (Mpu6502.opROL_acc c) (Mpu6502.opROL_mem c)
  | .ROR => rmwHandler c v mo (Mpu6502.opROR_acc c) (Mpu6502.opROR_mem c)
  | .INC => rmwHandler c v mo (Mpu6502.opINCR_acc c) (Mpu6502.opINCR_mem c)
  | .DEC => rmwHandler c v mo (Mpu6502.opDECR_acc c) (Mpu6502.opDECR_mem c)
  | .BRK => atMode .imp mo (match v with | .nmos => Mpu6502.inst_0x00 c | .cmos => Mpu65c02.inst_0x00 c)
  | .JSR => atMode .abs mo (Mpu6502.inst_0x20 c)
  | .RTS => atMode .imp mo (Mpu6502.inst_0x60 c)
  | .RTI => atMode .imp mo (Mpu6502.inst_0x40 c)
  | .JMP => match mo with
    | .abs => some (Mpu6502.inst_0x4c c)
    | .ind => some (match v with | .nmos => Mpu6502.inst_0x6c c | .cmos => Mpu65c02.inst_0x6c c)
    | .iax => cmosOnly v (some (Mpu65c02.inst_0x7c c))
    | _ => none
  | .PHP => atMode .imp mo (Mpu6502.inst_0x08 c)
  | .PLP => atMode .imp mo (Mpu6502.inst_0x28 c)
  | .PHA => atMode .imp mo (Mpu6502.inst_0x48 c)
  | .PLA => atMode .imp mo (Mpu6502.inst_0x68 c)
  | .BPL => atMode .rel mo (Mpu6502.inst_0x10 c)
  | .BMI => atMode .rel mo (Mpu6502.inst_0x30 c)
  | .BVC => atMode .rel mo (Mpu6502.inst_0x50 c)
  | .BVS => atMode .rel mo (Mpu6502.inst_0x70 c)
  | .BCC => atMode .rel mo (Mpu6502.inst_0x90 c)
  | .BCS => atMode .rel mo (Mpu6502.inst_0xb0 c)
  | .BNE => atMode .rel mo (Mpu6502.inst_0xd0 c)
  | .BEQ => atMode .rel mo (Mpu6502.inst_0xf0 c)
  | .CLC => atMode .imp mo (Mpu6502.inst_0x18 c)
  | .SEC => atMode .imp mo (Mpu6502.inst_0x38 c)
  | .CLI => atMode .imp mo (Mpu6502.inst_0x58 c)
  | .SEI => atMode .imp mo (Mpu6502.inst_0x78 c)
  | .CLV => atMode .imp mo (Mpu6502.inst_0xb8 c)
  | .CLD => atMode .imp mo (Mpu6502.inst_0xd8 c)
  | .SED => atMode .imp mo (Mpu6502.inst_0xf8 c)
  | .TAX => atMode .imp mo (Mpu6502.inst_0xaa c)
  | .TAY => atMode .imp mo (Mpu6502.inst_0xa8 c)
  | .TXA => atMode .imp mo (Mpu6502.inst_0x8a c)
  | .TYA => atMode .imp mo (Mpu6502.inst_0x98 c)
  | .TSX => atMode .imp mo (Mpu6502.inst_0xba c)
  | .TXS => atMode .imp mo (Mpu6502.inst_0x9a c)
  | .INX => atMode .imp mo (Mpu6502.inst_0xe8 c)
  | .INY => atMode .imp mo (Mpu6502.inst_0xc8 c)
  | .DEX => atMode .imp mo (Mpu6502.inst_0xca c)
  | .DEY => atMode .imp mo (Mpu6502.inst_0x88 c)
  | .NOP => atMode .imp mo (Mpu6502.inst_0xea c)
  | mn => cmosOnly v (cmosHandler c mn mo)

/-! ### what an equation `… = some h` says, as elimination rules (the motive `Q` is found by
unification from the goal) -/

@[elab_as_elim]
theorem modeFn_rec {c : Cfg} {v : Variant} {mo : Mode} {x : St → Int × St}
    {Q : (St → Int × St) → Mode → Prop} (hx : modeFn c v mo = some x)
    (imm : Q (Mpu6502.ProgramCounter c) .imm) (zpg : Q (Mpu6502.ZeroPageAddr c) .zpg)
    (zpx : Q (Mpu6502.ZeroPageXAddr c) .zpx) (zpy : Q (Mpu6502.ZeroPageYAddr c) .zpy)
    (abs : Q (Mpu6502.AbsoluteAddr c) .abs) (abx : Q (Mpu6502.AbsoluteXAddr c) .abx)
    (aby : Q (Mpu6502.AbsoluteYAddr c) .aby) (inx : Q (Mpu6502.IndirectXAddr c) .inx)
    (iny : Q (Mpu6502.IndirectYAddr c) .iny)
    (zpi : v = .cmos → Q (Mpu65c02.ZeroPageIndirectAddr c) .zpi) : Q x mo := by
  cases mo with
  | imm => exact Option.some.inj hx ▸ imm
  | zpg => exact Option.some.inj hx ▸ zpg
  | zpx => exact Option.some.inj hx ▸ zpx
  | zpy => exact Option.some.inj hx ▸ zpy
  | abs => exact Option.some.inj hx ▸ abs
  | abx => exact Option.some.inj hx ▸ abx
  | aby => exact Option.some.inj hx ▸ aby
  | inx => exact Option.some.inj hx ▸ inx
  | iny => exact Option.some.inj hx ▸ iny
  | zpi =>
    cases v with
    | cmos => exact Option.some.inj hx ▸ zpi rfl
    | nmos => cases hx
  | imp | acc | ind | rel | iax => cases hx

theorem modeFn_sem {c : Cfg} {v : Variant} {mo : Mode} {x : St → Int × St} (hc : IsDev c)
    (hv : v = .cmos → c = dev6502.cfg) (hx : modeFn c v mo = some x) : ModeSem c x mo :=
  modeFn_rec hx (ProgramCounter_sem c) (ZeroPageAddr_sem c) (ZeroPageXAddr_sem c hc)
    (ZeroPageYAddr_sem c hc) (AbsoluteAddr_sem c hc) (AbsoluteXAddr_sem c hc) (AbsoluteYAddr_sem c hc)
    (IndirectXAddr_sem c hc) (IndirectYAddr_sem c hc) fun h => ZeroPageIndirectAddr_sem c (hv h)

@[elab_as_elim]
theorem viaMode_rec {c : Cfg} {v : Variant} {mo : Mode} {f : (St → Int × St) → St → St} {h : St → St}
    {Q : (St → St) → Prop} (hh : viaMode c v mo f = some h)
    (q : ∀ x, modeFn c v mo = some x → Q fun s => bump (mo.len - 1) (f x s)) : Q h := by
  obtain ⟨x, hx, rfl⟩ := Option.map_eq_some_iff.1 hh
  exact q x hx

@[elab_as_elim]
theorem viaAddr_rec {c : Cfg} {v : Variant} {mo : Mode} {f : (St → Int × St) → St → St} {h : St → St}
    {Q : (St → St) → Prop} (hh : viaAddr c v mo f = some h)
    (q : mo ≠ .imm → ∀ x, modeFn c v mo = some x → Q fun s => bump (mo.len - 1) (f x s)) : Q h := by
  unfold viaAddr at hh
  split at hh
  · cases hh
  · rename_i hi
    exact viaMode_rec hh (q hi)

@[elab_as_elim]
theorem rmwHandler_rec {c : Cfg} {v : Variant} {mo : Mode} {a : St → St} {f : (St → Int × St) → St → St}
    {h : St → St} {Q : Mode → (St → St) → Prop} (hh : rmwHandler c v mo a f = some h) (qa : Q .acc a)
    (qm : mo ≠ .acc → mo ≠ .imm → ∀ x, modeFn c v mo = some x → Q mo fun s => bump (mo.len - 1) (f x s)) :
    Q mo h := by
  unfold rmwHandler at hh
  split at hh
  · rename_i hm
    obtain rfl := Option.some.inj hh
    exact hm ▸ qa
  · rename_i hm
    exact viaAddr_rec hh (qm hm)

@[elab_as_elim]
theorem atMode_rec {m mo : Mode} {g h : St → St} {Q : Mode → (St → St) → Prop}
    (hh : atMode m mo g = some h) (q : Q m g) : Q mo h := by
  unfold atMode at hh
  split at hh
  · rename_i hm
    obtain rfl := Option.some.inj hh
    exact hm ▸ q
  · cases hh

theorem cmosOnly_rec {v : Variant} {o : Option (St → St)} {h : St → St} {Q : Prop}
    (hh : cmosOnly v o = some h) (q : v = .cmos → o = some h → Q) : Q := by
  cases v with
  | nmos => cases hh
  | cmos => exact q rfl hh

theorem bitRow_rec {b : Nat} {o : Option (St → St)} {h : St → St} {Q : Prop}
    (hh : bitRow b o = some h) (q : b < 8 → o = some h → Q) : Q := by
  unfold bitRow at hh
  split at hh
  · rename_i hb
    exact q hb hh
  · cases hh

/-- Walk the 256 table slots `l` (those from opcode `n` on) and the items `t` (ascending opcodes
`key a`) together: `P a h` for each item `a` and the handler `h` in its slot.  (Indexing `l` once
per item instead makes the elaborator walk the list every time.) -/
def SlotsFrom {α : Type} (key : α → Int) (P : α → (St → St) → Prop) :
    Nat → List (St → St) → List α → Prop
  | n, [], [] => n = 256
  | _, [], _ :: _ => False
  | n, _ :: l, [] => SlotsFrom key P (n + 1) l []
  | n, h :: l, a :: t =>
    if key a = n then P a h ∧ SlotsFrom key P (n + 1) l t else SlotsFrom key P (n + 1) l (a :: t)

section
variable {α : Type} {key : α → Int} {P : α → (St → St) → Prop}

theorem SlotsFrom.le : ∀ {l : List (St → St)} {n : Nat} {t : List α}, SlotsFrom key P n l t → n ≤ 256
  | [], _, [], hr => Nat.le_of_eq hr
  | [], _, _ :: _, hr => by cases hr
  | _ :: _, _, [], hr => Nat.le_of_succ_le (SlotsFrom.le (by simpa only [SlotsFrom] using hr))
  | _ :: _, n, a :: _, hr => by
    unfold SlotsFrom at hr
    split at hr
    · exact Nat.le_of_succ_le (SlotsFrom.le hr.2)
    · exact Nat.le_of_succ_le (SlotsFrom.le hr)

theorem SlotsFrom.slot : ∀ {l : List (St → St)} {n : Nat} {t : List α}, SlotsFrom key P n l t →
    ∀ {a : α}, a ∈ t → (n : Int) ≤ key a ∧ key a < 256 ∧ P a (l.getD ((key a).toNat - n) id)
  | _, _, [], _, _, hm => by cases hm
  | [], _, _ :: _, hr, _, _ => by cases hr
  | h :: l, n, a' :: t, hr, a, hm => by
    have step : ∀ {t'}, SlotsFrom key P (n + 1) l t' → a ∈ t' →
        (n : Int) ≤ key a ∧ key a < 256 ∧ P a ((h :: l).getD ((key a).toNat - n) id) := by
      intro t' hr' hm'
      obtain ⟨h0, h1, e⟩ := SlotsFrom.slot hr' hm'
      have : (key a).toNat - n = ((key a).toNat - (n + 1)) + 1 := by omega
      rw [this, List.getD_cons_succ]
      exact ⟨by omega, h1, e⟩
    unfold SlotsFrom at hr
    split at hr
    · rename_i hk
      rcases List.mem_cons.1 hm with rfl | hm'
      · have := SlotsFrom.le hr.2
        simpa [hk] using ⟨by omega, hr.1⟩
      · exact step hr.2 hm'
    · exact step hr hm

/-- From a walk over all 256 slots to the entry `instruct op` of a device's table. -/
theorem SlotsFrom.instruct {l : List (St → St)} {t : List α} (hr : SlotsFrom key P 0 l t) {a : α}
    (hm : a ∈ t) :
    (0 ≤ key a ∧ key a < 256) ∧ P a (if 0 ≤ key a ∧ key a < 256 then l.getD (key a).toNat id else id) := by
  obtain ⟨h0, h1, e⟩ := hr.slot hm
  rw [if_pos ⟨h0, h1⟩]
  exact ⟨⟨h0, h1⟩, e⟩

end

def RowIs (c : Cfg) (v : Variant) (r : Int × Mn × Mode) (h : St → St) : Prop :=
  stdHandler c v r.2.1 r.2.2 = some h

/-- One `rfl` per row: the generated handler and `stdHandler` unfold to the same term. -/
theorem rows_6502 (c : Cfg) : SlotsFrom (·.1) (RowIs c .nmos) 0 (dev6502.instructL c) nmosTable := by
  refine ⟨rfl, rfl, rfl, rfl, rfl, rfl, rfl, rfl, rfl, rfl, rfl, rfl, rfl, rfl, rfl, rfl, ?_⟩
  refine ⟨rfl, rfl, rfl, rfl, rfl, rfl, rfl, rfl, rfl, rfl, rfl, rfl, rfl, rfl, rfl, rfl, ?_⟩
  refine ⟨rfl, rfl, rfl, rfl, rfl, rfl, rfl, rfl, rfl, rfl, rfl, rfl, rfl, rfl, rfl, rfl, ?_⟩
  refine ⟨rfl, rfl, rfl, rfl, rfl, rfl, rfl, rfl, rfl, rfl, rfl, rfl, rfl, rfl, rfl, rfl, ?_⟩
  refine ⟨rfl, rfl, rfl, rfl, rfl, rfl, rfl, rfl, rfl, rfl, rfl, rfl, rfl, rfl, rfl, rfl, ?_⟩
  refine ⟨rfl, rfl, rfl, rfl, rfl, rfl, rfl, rfl, rfl, rfl, rfl, rfl, rfl, rfl, rfl, rfl, ?_⟩
  refine ⟨rfl, rfl, rfl, rfl, rfl, rfl, rfl, rfl, rfl, rfl, rfl, rfl, rfl, rfl, rfl, rfl, ?_⟩
  refine ⟨rfl, rfl, rfl, rfl, rfl, rfl, rfl, rfl, rfl, rfl, rfl, rfl, rfl, rfl, rfl, rfl, ?_⟩
  refine ⟨rfl, rfl, rfl, rfl, rfl, rfl, rfl, rfl, rfl, rfl, rfl, rfl, rfl, rfl, rfl, rfl, ?_⟩
  exact ⟨rfl, rfl, rfl, rfl, rfl, rfl, rfl, rfl⟩

theorem rows_65c02_ext (c : Cfg) :
    SlotsFrom (·.1) (RowIs c .cmos) 0 (dev65c02.instructL c) cmosExtTable := by
  refine ⟨rfl, rfl, rfl, rfl, rfl, rfl, rfl, rfl, rfl, rfl, rfl, rfl, rfl, rfl, rfl, rfl, ?_⟩
  refine ⟨rfl, rfl, rfl, rfl, rfl, rfl, rfl, rfl, rfl, rfl, rfl, rfl, rfl, rfl, rfl, rfl, ?_⟩
  exact ⟨rfl, rfl, rfl, rfl, rfl, rfl, rfl, rfl, rfl, rfl, rfl, rfl, rfl⟩

/-- The rows the 65C02 inherits; BRK and JMP (ind) have handlers of their own there. -/
theorem rows_65c02_nmos (c : Cfg) :
    SlotsFrom (·.1) (RowIs c .cmos) 0 (dev65c02.instructL c) nmosTable := by
  refine ⟨rfl, rfl, rfl, rfl, rfl, rfl, rfl, rfl, rfl, rfl, rfl, rfl, rfl, rfl, rfl, rfl, ?_⟩
  refine ⟨rfl, rfl, rfl, rfl, rfl, rfl, rfl, rfl, rfl, rfl, rfl, rfl, rfl, rfl, rfl, rfl, ?_⟩
  refine ⟨rfl, rfl, rfl, rfl, rfl, rfl, rfl, rfl, rfl, rfl, rfl, rfl, rfl, rfl, rfl, rfl, ?_⟩
  refine ⟨rfl, rfl, rfl, rfl, rfl, rfl, rfl, rfl, rfl, rfl, rfl, rfl, rfl, rfl, rfl, rfl, ?_⟩
  refine ⟨rfl, rfl, rfl, rfl, rfl, rfl, rfl, rfl, rfl, rfl, rfl, rfl, rfl, rfl, rfl, rfl, ?_⟩
  refine ⟨rfl, rfl, rfl, rfl, rfl, rfl, rfl, rfl, rfl, rfl, rfl, rfl, rfl, rfl, rfl, rfl, ?_⟩
  refine ⟨rfl, rfl, rfl, rfl, rfl, rfl, rfl, rfl, rfl, rfl, rfl, rfl, rfl, rfl, rfl, rfl, ?_⟩
  refine ⟨rfl, rfl, rfl, rfl, rfl, rfl, rfl, rfl, rfl, rfl, rfl, rfl, rfl, rfl, rfl, rfl, ?_⟩
  refine ⟨rfl, rfl, rfl, rfl, rfl, rfl, rfl, rfl, rfl, rfl, rfl, rfl, rfl, rfl, rfl, rfl, ?_⟩
  exact ⟨rfl, rfl, rfl, rfl, rfl, rfl, rfl, rfl⟩

theorem decode_row {v : Variant} {op : Int} {mn : Mn} {mo : Mode} (hd : decode v op = some (mn, mo)) :
    (v = .cmos ∧ (op, mn, mo) ∈ cmosExtTable) ∨ (op, mn, mo) ∈ nmosTable := by
  cases v with
  | nmos => exact Or.inr (lookup_mem hd)
  | cmos =>
    simp only [decode] at hd
    split at hd
    · rename_i r hr
      obtain rfl := Option.some.inj hd
      exact Or.inl ⟨rfl, lookup_mem hr⟩
    · exact Or.inr (lookup_mem hd)

theorem row_6502 {op : Int} {mn : Mn} {mo : Mode} (hd : decode .nmos op = some (mn, mo)) :
    stdHandler dev6502.cfg .nmos mn mo = some (dev6502.tbl.instruct op) :=
  ((rows_6502 dev6502.cfg).instruct (lookup_mem hd)).2

/-- The 65Org16 has the 6502's handler list, at its own configuration. -/
theorem row_65org16 {op : Int} {mn : Mn} {mo : Mode} (hd : decode .nmos op = some (mn, mo)) :
    stdHandler dev65org16.cfg .nmos mn mo = some (dev65org16.tbl.instruct op) :=
  ((rows_6502 dev65org16.cfg).instruct (lookup_mem hd)).2

theorem row_65c02 {op : Int} {mn : Mn} {mo : Mode} (hd : decode .cmos op = some (mn, mo)) :
    stdHandler dev65c02.cfg .cmos mn mo = some (dev65c02.tbl.instruct op) := by
  rcases decode_row hd with ⟨_, hm⟩ | hm
  · exact ((rows_65c02_ext dev65c02.cfg).instruct hm).2
  · exact ((rows_65c02_nmos dev65c02.cfg).instruct hm).2

theorem decode_lt {v : Variant} {op : Int} {mn : Mn} {mo : Mode} (hd : decode v op = some (mn, mo)) :
    0 ≤ op ∧ op < 256 := by
  rcases decode_row hd with ⟨_, hm⟩ | hm
  · exact ((rows_65c02_ext dev65c02.cfg).instruct hm).1
  · exact ((rows_6502 dev6502.cfg).instruct hm).1

end Py65.Proofs
