/-
Aspect *state*: `stdHandler` meets `Spec.exec`, by cases on the mnemonic.  Each case is the
operation's lemma (stated for any mode helper satisfying `ModeSem`) at the mode's lemma, or the
theorem of a handler that stands alone.
-/
import Py65.Proofs.Rows
import Py65.Proofs.Ops5
import Py65.Proofs.OpsArith

namespace Py65.Proofs
open Py65 Py65.Gen Py65.Spec

/-- What the handler theorems ask of the state after the opcode fetch: ADC/SBC in binary mode;
JSR not overwriting its own operand bytes. -/
def RowPre (c : Cfg) (mn : Mn) (s : St) : Prop :=
  ((mn = .ADC ∨ mn = .SBC) → BinaryMode s) ∧ (mn = .JSR → NoSelfOverwriteJSR c s)

theorem HandlerOKp.mono {c : Cfg} {v : Variant} {h : St → St} {mn : Mn} {mo : Mode} {P P' : St → Prop}
    (hh : HandlerOKp c v h mn mo P) (hP : ∀ s, P' s → P s) : HandlerOKp c v h mn mo P' :=
  fun s hs hp => hh s hs (hP s hp)

/-- The 65C02's own rows; its helpers are proved at the 8-bit configuration, the only one it has. -/
theorem cmosHandler_ok {v : Variant} {mn : Mn} {mo : Mode} {h : St → St} {P : St → Prop}
    (hh : cmosHandler c8 mn mo = some h) : HandlerOKp c8 v h mn mo P := by
  have sem {x} (hx : modeFn c8 .cmos mo = some x) := modeFn_sem hc8 (fun _ => rfl) hx
  cases mn with
  | BRA => exact atMode_rec hh ((h_80 v).toP _)
  | PHX => exact atMode_rec hh ((h_da v).toP _)
  | PHY => exact atMode_rec hh ((h_5a v).toP _)
  | PLX => exact atMode_rec hh ((h_fa v).toP _)
  | PLY => exact atMode_rec hh ((h_7a v).toP _)
  | WAI => exact atMode_rec hh ((h_cb v).toP _)
  | STZ => exact viaAddr_rec hh fun _ x hx => (opSTZ_ok v x mo (sem hx)).toP _
  | TSB => exact viaAddr_rec hh fun _ x hx => (opTSB_ok v x mo (sem hx)).toP _
  | TRB => exact viaAddr_rec hh fun _ x hx => (opTRB_ok v x mo (sem hx)).toP _
  | RMB b =>
    exact bitRow_rec hh fun hb hh => viaAddr_rec hh fun _ x hx => (opRMB_ok v x mo (sem hx) b hb).toP _
  | SMB b =>
    exact bitRow_rec hh fun _ hh => viaAddr_rec hh fun _ x hx => (opSMB_ok v x mo (sem hx) b).toP _
  | _ => cases hh

theorem stdHandler_ok {c : Cfg} (hc : IsDev c) {v : Variant} {mn : Mn} {mo : Mode} {h : St → St}
    (hh : stdHandler c v mn mo = some h) (hv : v = .cmos → c = dev6502.cfg) :
    HandlerOKp c v h mn mo (RowPre c mn) := by
  have sem {x} (hx : modeFn c v mo = some x) := modeFn_sem hc hv hx
  cases mn with
  | ORA => exact viaMode_rec hh fun x hx => (opORA_ok c hc v x mo (sem hx)).toP _
  | AND => exact viaMode_rec hh fun x hx => (opAND_ok c hc v x mo (sem hx)).toP _
  | EOR => exact viaMode_rec hh fun x hx => (opEOR_ok c hc v x mo (sem hx)).toP _
  | LDA => exact viaMode_rec hh fun x hx => (opLDA_ok c hc v x mo (sem hx)).toP _
  | LDX => exact viaMode_rec hh fun x hx => (opLDX_ok c hc v x mo (sem hx)).toP _
  | LDY => exact viaMode_rec hh fun x hx => (opLDY_ok c hc v x mo (sem hx)).toP _
  | CMP => exact viaMode_rec hh fun x hx => (opCMP_ok c hc v x mo (sem hx)).toP _
  | CPX => exact viaMode_rec hh fun x hx => (opCPX_ok c hc v x mo (sem hx)).toP _
  | CPY => exact viaMode_rec hh fun x hx => (opCPY_ok c hc v x mo (sem hx)).toP _
  | ADC => exact viaMode_rec hh fun x hx => (opADC_okp c hc v x mo (sem hx)).mono fun _ hp => hp.1 (.inl rfl)
  | SBC => exact viaMode_rec hh fun x hx => (opSBC_okp c hc v x mo (sem hx)).mono fun _ hp => hp.1 (.inr rfl)
  | BIT =>
    by_cases hm : mo = .imm
    · subst hm
      refine cmosOnly_rec hh fun e hh => ?_
      obtain rfl := hv e
      obtain rfl := Option.some.inj hh
      exact (h_89 v).toP _
    · exact viaMode_rec ((if_neg hm).symm.trans hh) fun x hx => (opBIT_ok c hc v x mo (sem hx) hm).toP _
  | STA => exact viaAddr_rec hh fun _ x hx => (opSTA_ok c hc v x mo (sem hx)).toP _
  | STX => exact viaAddr_rec hh fun _ x hx => (opSTX_ok c hc v x mo (sem hx)).toP _
  | STY => exact viaAddr_rec hh fun _ x hx => (opSTY_ok c hc v x mo (sem hx)).toP _
  | ASL =>
    exact rmwHandler_rec hh ((rmw_acc_ok c hc v _ .ASL (by simp [IsRmw]) (opASL_acc_core c hc)).toP _) fun ha _ x hx =>
      (rmw_mem_ok c hc v _ .ASL (by simp [IsRmw]) mo ha (opASL_mem_core c hc x mo (sem hx))).toP _
  | LSR =>
    exact rmwHandler_rec hh ((rmw_acc_ok c hc v _ .LSR (by simp [IsRmw]) (opLSR_acc_core c hc)).toP _) fun ha _ x hx =>
      (rmw_mem_ok c hc v _ .LSR (by simp [IsRmw]) mo ha (opLSR_mem_core c hc x mo (sem hx))).toP _
  | ROL =>
    exact rmwHandler_rec hh ((rmw_acc_ok c hc v _ .ROL (by simp [IsRmw]) (opROL_acc_core c hc)).toP _) fun ha _ x hx =>
      (rmw_mem_ok c hc v _ .ROL (by simp [IsRmw]) mo ha (opROL_mem_core c hc x mo (sem hx))).toP _
  | ROR =>
    exact rmwHandler_rec hh ((rmw_acc_ok c hc v _ .ROR (by simp [IsRmw]) (opROR_acc_core c hc)).toP _) fun ha _ x hx =>
      (rmw_mem_ok c hc v _ .ROR (by simp [IsRmw]) mo ha (opROR_mem_core c hc x mo (sem hx))).toP _
  | INC =>
    exact rmwHandler_rec hh ((rmw_acc_ok c hc v _ .INC (by simp [IsRmw]) (opINCR_acc_core c hc)).toP _) fun ha _ x hx =>
      (rmw_mem_ok c hc v _ .INC (by simp [IsRmw]) mo ha (opINCR_mem_core c hc x mo (sem hx))).toP _
  | DEC =>
    exact rmwHandler_rec hh ((rmw_acc_ok c hc v _ .DEC (by simp [IsRmw]) (opDECR_acc_core c hc)).toP _) fun ha _ x hx =>
      (rmw_mem_ok c hc v _ .DEC (by simp [IsRmw]) mo ha (opDECR_mem_core c hc x mo (sem hx))).toP _
  | BRK =>
    cases v with
    | nmos => exact atMode_rec hh ((h_00 c hc).toP _)
    | cmos =>
      obtain rfl := hv rfl
      exact atMode_rec hh (h_00_cmos.toP _)
  | JMP =>
    cases mo with
    | abs =>
      obtain rfl := Option.some.inj hh
      exact (h_4c c hc v).toP _
    | ind =>
      obtain rfl := Option.some.inj hh
      cases v with
      | nmos => exact (h_6c c hc).toP _
      | cmos =>
        obtain rfl := hv rfl
        exact h_6c_cmos.toP _
    | iax =>
      refine cmosOnly_rec hh fun e hh => ?_
      obtain rfl := hv e
      obtain rfl := Option.some.inj hh
      exact (h_7c v).toP _
    | _ => cases hh
  | JSR => exact atMode_rec hh ((h_20 c hc v).mono fun _ hp => hp.2 rfl)
  | RTS => exact atMode_rec hh ((h_60 c hc v).toP _)
  | RTI => exact atMode_rec hh ((h_40 c hc v).toP _)
  | PHP => exact atMode_rec hh ((h_08 c hc v).toP _)
  | PLP => exact atMode_rec hh ((h_28 c hc v).toP _)
  | PHA => exact atMode_rec hh ((h_48 c hc v).toP _)
  | PLA => exact atMode_rec hh ((h_68 c hc v).toP _)
  | BPL => exact atMode_rec hh ((h_10 c hc v).toP _)
  | BMI => exact atMode_rec hh ((h_30 c hc v).toP _)
  | BVC => exact atMode_rec hh ((h_50 c hc v).toP _)
  | BVS => exact atMode_rec hh ((h_70 c hc v).toP _)
  | BCC => exact atMode_rec hh ((h_90 c hc v).toP _)
  | BCS => exact atMode_rec hh ((h_b0 c hc v).toP _)
  | BNE => exact atMode_rec hh ((h_d0 c hc v).toP _)
  | BEQ => exact atMode_rec hh ((h_f0 c hc v).toP _)
  | CLC => exact atMode_rec hh ((h_18 c hc v).toP _)
  | SEC => exact atMode_rec hh ((h_38 c hc v).toP _)
  | CLI => exact atMode_rec hh ((h_58 c hc v).toP _)
  | SEI => exact atMode_rec hh ((h_78 c hc v).toP _)
  | CLV => exact atMode_rec hh ((h_b8 c hc v).toP _)
  | CLD => exact atMode_rec hh ((h_d8 c hc v).toP _)
  | SED => exact atMode_rec hh ((h_f8 c hc v).toP _)
  | TAX => exact atMode_rec hh ((h_aa c hc v).toP _)
  | TAY => exact atMode_rec hh ((h_a8 c hc v).toP _)
  | TXA => exact atMode_rec hh ((h_8a c hc v).toP _)
  | TYA => exact atMode_rec hh ((h_98 c hc v).toP _)
  | TSX => exact atMode_rec hh ((h_ba c hc v).toP _)
  | TXS => exact atMode_rec hh ((h_9a c hc v).toP _)
  | INX => exact atMode_rec hh ((h_e8 c hc v).toP _)
  | INY => exact atMode_rec hh ((h_c8 c hc v).toP _)
  | DEX => exact atMode_rec hh ((h_ca c hc v).toP _)
  | DEY => exact atMode_rec hh ((h_88 c hc v).toP _)
  | NOP => exact atMode_rec hh ((h_ea c hc v).toP _)
  | _ =>
    refine cmosOnly_rec hh fun e hh => ?_
    obtain rfl := hv e
    exact cmosHandler_ok hh

/-- One `step()` with any table that holds the row's `stdHandler` at the opcode is one `Spec.step`. -/
theorem step_row {c : Cfg} (hc : IsDev c) (t : Tbl) {v : Variant} (s : St) (hs : WF c s)
    (hw : s.waiting = false) {mn : Mn} {mo : Mode} (hd : decode v (s.mem s.pc) = some (mn, mo))
    (hr : stdHandler c v mn mo = some (t.instruct (s.mem s.pc))) (hv : v = .cmos → c = dev6502.cfg)
    (hP : RowPre c mn (afterFetch c t s)) :
    abs (Mpu6502.step c t s) = Spec.step c.BYTE_WIDTH v (abs s) :=
  step_sem c hc t v s hs hw mn mo hd _ hP (stdHandler_ok hc hr hv)

end Py65.Proofs
