/-
irq(), nmi(), reset() and the waiting `step()` of the generated model meet `Spec.irq / nmi /
reset / step` (aspect *sem*) and count the documented cycles (aspect *cyc*).
-/
import Py65.Proofs.Ops5
import Py65.Proofs.Step

set_option linter.unusedSimpArgs false

namespace Py65.Proofs
open Py65 Py65.Gen Py65.Spec Py

/-- The shared interrupt entry sequence through the vector at `vec` (= `c.IRQ` or `c.NMI`). -/
def entry (c : Cfg) (vec : Int) (s : St) : St :=
  let s1 := Mpu6502.stPushWord c s.pc s
  let s2 : St := { s1 with p := land s1.p (lnot c.BREAK) }
  let s3 := Mpu6502.stPush c (lor s2.p c.UNUSED) s2
  let s4 : St := { s3 with p := lor s3.p c.INTERRUPT }
  let r := Mpu6502.WordAt c vec s4
  { r.2 with pc := r.1, cycles := r.2.cycles + 7 }

theorem nmi_eq_entry (c : Cfg) (s : St) : Mpu6502.nmi c s = entry c c.NMI s := rfl
theorem irq_eq_entry (c : Cfg) (s : St) :
    Mpu6502.irq c s = if land s.p c.INTERRUPT ≠ 0 then s else entry c c.IRQ s := rfl

theorem entry_sem (c : Cfg) (hc : IsDev c) (vec : Int) (hvec : 65530 ≤ vec ∧ vec ≤ 65534) (s : St)
    (hs : WF c s) :
    abs (entry c vec s) = { interrupt c.BYTE_WIDTH vec (abs s) with waiting := s.waiting } := by
  have hpcr := hs.pc
  have hpr := hs.p
  have e1 : ∀ r : Int, lor (land r (lnot c.BREAK)) c.UNUSED = setFlag (setFlag r bitB false) bitU true := by
    intro r; rcases hc with rfl | rfl <;> (constfold; simp only [flagalg])
  have e2 : ∀ r : Int, lor (land r (lnot c.BREAK)) c.INTERRUPT = setFlag (setFlag r bitB false) bitI true := by
    intro r; rcases hc with rfl | rfl <;> (constfold; simp only [flagalg])
  have hpv : 0 ≤ setFlag (setFlag s.p bitB false) bitU true ∧
      setFlag (setFlag s.p bitB false) bitU true ≤ c.byteMask := by
    rcases hc with rfl | rfl <;>
    · constfold at hpr ⊢
      simp only [setFlag]; simp; omega
  have hhi : s.pc / BM c.BYTE_WIDTH % BM c.BYTE_WIDTH = s.pc / BM c.BYTE_WIDTH := by
    rcases hc with rfl | rfl <;> (constfold at hpcr ⊢; omega)
  simp only [entry, stPushWord_p, stPush_p, e1, e2]
  refine (abs_of_core _ _ (vector_entry c hc s hs s.pc (land s.p (lnot c.BREAK)) _
    (setFlag (setFlag s.p bitB false) bitI true) vec hhi hpv hvec)).trans ?_
  have hpp : normP (setFlag (setFlag s.p bitB false) bitI true) = setFlag (normP s.p) bitI true := by
    simp only [normP, bitB, bitU, bitI, flagalg]
  have hpb : setFlag (normP s.p) bitB false = setFlag (setFlag s.p bitB false) bitU true := by
    simp only [normP, bitB, bitU, flagalg]
  dsimp only [interrupt, abs, core, push, write, word]
  rw [hpp, hpb]

theorem stPush_cycles (c : Cfg) (z : Int) (s : St) : (Mpu6502.stPush c z s).cycles = s.cycles := rfl
theorem stPushWord_cycles (c : Cfg) (z : Int) (s : St) :
    (Mpu6502.stPushWord c z s).cycles = s.cycles := by
  simp only [Mpu6502.stPushWord, stPush_cycles]

/- Not `rfl`: each stack helper mentions its argument state several times, so unfolding the whole
sequence at once is slow to check. -/
theorem entry_cycles (c : Cfg) (vec : Int) (s : St) : (entry c vec s).cycles = s.cycles + 7 := by
  simp only [entry, WordAt_cycles, stPush_cycles, stPushWord_cycles]

/-- `nmi()` on a device that is not waiting (6502, 65Org16; the 65C02 wrapper clears the flag first). -/
theorem nmi_sem (c : Cfg) (hc : IsDev c) (s : St) (hs : WF c s) (hw : s.waiting = false) :
    abs (Mpu6502.nmi c s) = Spec.nmi c.BYTE_WIDTH (abs s) := by
  rw [nmi_eq_entry, entry_sem c hc _ (by rw [vec_NMI hc]; decide) s hs, vec_NMI hc, hw]; rfl

theorem irq_test {c : Cfg} (hc : IsDev c) (p : Int) : (land p c.INTERRUPT ≠ 0) = (flag p bitI = true) := by
  rcases hc with rfl | rfl <;> exact propext (land_two_pow_ne_zero_iff p 2)

/-- `irq()`: nothing at all while I is set; otherwise the entry sequence through the IRQ vector. -/
theorem irq_sem (c : Cfg) (hc : IsDev c) (s : St) (hs : WF c s) (hw : s.waiting = false) :
    abs (Mpu6502.irq c s) = Spec.irq c.BYTE_WIDTH (abs s) := by
  rw [irq_eq_entry]
  have e : flag (abs s).p bitI = flag s.p bitI := flag_normP _ _ (by decide)
  simp only [irq_test hc, Spec.irq, e]
  cases h : flag s.p bitI
  · simp only [Bool.false_eq_true, if_false]
    rw [entry_sem c hc _ (by rw [vec_IRQ hc]; decide) s hs, vec_IRQ hc, hw]; rfl
  · simp only [if_true, abs, core, hw]

/-- A masked `irq()` changes nothing: registers, flags, memory, cycle counter, access log. -/
theorem irq_masked (c : Cfg) (hc : IsDev c) (s : St) (hI : flag s.p bitI = true) :
    Mpu6502.irq c s = s := by
  rw [irq_eq_entry]; simp only [irq_test hc, hI, if_true]

theorem irq_cycles (c : Cfg) (hc : IsDev c) (s : St) :
    (Mpu6502.irq c s).cycles = s.cycles + irqCycles (abs s) := by
  rw [irq_eq_entry]
  have e : flag (abs s).p bitI = flag s.p bitI := flag_normP _ _ (by decide)
  simp only [irq_test hc, irqCycles, e]
  cases h : flag s.p bitI <;> simp [entry_cycles]

theorem nmi_cycles (c : Cfg) (s : St) : (Mpu6502.nmi c s).cycles = s.cycles + nmiCycles :=
  entry_cycles c c.NMI s

theorem reset_at_sem (c : Cfg) (hc : IsDev c) (a : Int) (s : St) (hw : s.waiting = false) :
    abs (Mpu6502.reset_at c a s) = Spec.reset c.BYTE_WIDTH (some a) (abs s) := by
  have e : lor c.BREAK c.UNUSED = normP 0 := by rcases hc with rfl | rfl <;> decide
  have eb : c.byteMask = BM c.BYTE_WIDTH - 1 := by rcases hc with rfl | rfl <;> rfl
  simp only [Mpu6502.reset_at, Spec.reset, abs, core, e, eb, hw, normP_idem]

theorem reset_vec_sem (c : Cfg) (hc : IsDev c) (s : St) (hw : s.waiting = false) :
    abs (Mpu6502.reset_vec c s) = Spec.reset c.BYTE_WIDTH none (abs s) := by
  have e : lor c.BREAK c.UNUSED = normP 0 := by rcases hc with rfl | rfl <;> decide
  have eb : c.byteMask = BM c.BYTE_WIDTH - 1 := by rcases hc with rfl | rfl <;> rfl
  have ev : (resetVector + 1) % AM c.BYTE_WIDTH = resetVector + 1 := by
    rcases hc with rfl | rfl <;> decide
  simp only [Mpu6502.reset_vec, WordAt_val c hc, WordAt_a, WordAt_x, WordAt_y, WordAt_sp, WordAt_p,
    WordAt_mem, WordAt_waiting, Spec.reset, abs, core, word, e, eb, hw, normP_idem, vec_RESET hc, ev]

theorem reset_cycles (c : Cfg) (a : Int) (s : St) :
    (Mpu6502.reset_at c a s).cycles = 0 ∧ (Mpu6502.reset_vec c s).cycles = 0 := ⟨rfl, rfl⟩

/-- A waiting 65C02 executes nothing: `step()` changes only the cycle counter, by one. -/
theorem wai_halts (c : Cfg) (t : Tbl) (s : St) (hw : s.waiting = true) :
    Mpu65c02.step c t s = { s with cycles := s.cycles + 1 } := by
  simp [Mpu65c02.step, hw]

theorem wai_halts_spec (W : Nat) (v : Variant) (a : AState) (hw : a.waiting = true) :
    Spec.step W v a = a := by simp [Spec.step, hw]

/-- irq(), nmi() and reset() end the wait (also a masked irq). -/
theorem wai_resumes (c : Cfg) (s : St) (a : Int) :
    (Mpu65c02.irq c s).waiting = false ∧ (Mpu65c02.nmi c s).waiting = false ∧
    (Mpu65c02.reset_at c a s).waiting = false ∧ (Mpu65c02.reset_vec c s).waiting = false := by
  refine ⟨?_, rfl, rfl, rfl⟩
  simp only [Mpu65c02.irq, irq_eq_entry]
  split <;> rfl

theorem irq65c02_sem (s : St) (hs : WF c8 s) :
    abs (Mpu65c02.irq c8 s) = Spec.irq 8 (abs s) := by
  have h := irq_sem c8 hc8 { s with waiting := false } ⟨hs.a, hs.x, hs.y, hs.sp, hs.p, hs.pc, hs.mem⟩ rfl
  simp only [Mpu65c02.irq]
  rw [h]
  simp only [Spec.irq, Spec.interrupt, abs, core, push, write]
  by_cases hI : flag (normP s.p) bitI = true
  · simp only [hI, if_true]
  · simp only [hI, if_false]; rfl

theorem nmi65c02_sem (s : St) (hs : WF c8 s) :
    abs (Mpu65c02.nmi c8 s) = Spec.nmi 8 (abs s) := by
  have h := nmi_sem c8 hc8 { s with waiting := false } ⟨hs.a, hs.x, hs.y, hs.sp, hs.p, hs.pc, hs.mem⟩ rfl
  simp only [Mpu65c02.nmi]
  rw [h]; rfl

end Py65.Proofs
