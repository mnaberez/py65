/-
Aspect *cyc*, handlers: `HandlerCyc` says a handler leaves `cycles` alone and adds `varCycles` to
`excycles`.  The addressing-mode helpers that cannot cross a page, and the two ways a handler is put
together (mode helper + operation, or no mode helper at all).
-/
import Py65.Proofs.CycOps
set_option linter.unusedSimpArgs false
namespace Py65.Proofs
open Py65 Py65.Gen Py65.Spec Py

/-- The variable part of an instruction's cycle count as the handlers compute it: the page-crossing
cycle of an indexed address (only when the opcode's `extracycles` entry, copied into `addcycles`
by `step()`, is non-zero) and the taken-branch cycles. -/
def varCycles (W : Nat) (mn : Mn) (mo : Mode) (add : Prop) [Decidable add] (s : AState) : Int :=
  (if add ∧ readCrosses W mo s = true then 1 else 0) +
  (if isBranch mn = true ∧ branchCond W mn s.p = true then
     1 + (if page W (branchTarget W s) ≠ page W (nextPc W mo s) then 1 else 0)
   else 0)

def HandlerCyc (c : Cfg) (h : St → St) (mn : Mn) (mo : Mode) : Prop :=
  ∀ s, WF c s → (h s).cycles = s.cycles ∧
    (h s).excycles = s.excycles + varCycles c.BYTE_WIDTH mn mo (s.addcycles ≠ 0) (core s)

set_option hygiene false in
macro "mode_cyc" : tactic =>
  `(tactic| (
    intro s _
    dsimp +instances only [Mpu6502.ProgramCounter, Mpu6502.ZeroPageAddr, Mpu6502.ZeroPageXAddr, Mpu6502.ZeroPageYAddr,
      Mpu6502.AbsoluteAddr, Mpu6502.IndirectXAddr, Mpu65c02.ZeroPageIndirectAddr, Mpu65c02.IndirectAbsXAddr,
      Mpu6502.WordAt, Mpu6502.WrapAt, Mpu6502.ByteAt, memGet, readCrosses]
    simp))

theorem ProgramCounter_cyc (c : Cfg) : ModeCyc c (Mpu6502.ProgramCounter c) .imm := by mode_cyc
theorem ZeroPageAddr_cyc (c : Cfg) : ModeCyc c (Mpu6502.ZeroPageAddr c) .zpg := by mode_cyc
theorem ZeroPageXAddr_cyc (c : Cfg) : ModeCyc c (Mpu6502.ZeroPageXAddr c) .zpx := by mode_cyc
theorem ZeroPageYAddr_cyc (c : Cfg) : ModeCyc c (Mpu6502.ZeroPageYAddr c) .zpy := by mode_cyc
theorem AbsoluteAddr_cyc (c : Cfg) : ModeCyc c (Mpu6502.AbsoluteAddr c) .abs := by mode_cyc
theorem IndirectXAddr_cyc (c : Cfg) : ModeCyc c (Mpu6502.IndirectXAddr c) .inx := by mode_cyc
theorem ZeroPageIndirectAddr_cyc (c : Cfg) : ModeCyc c (Mpu65c02.ZeroPageIndirectAddr c) .zpi := by mode_cyc
theorem IndirectAbsXAddr_cyc (c : Cfg) : ModeCyc c (Mpu65c02.IndirectAbsXAddr c) .iax := by mode_cyc

theorem varCycles_nobranch (W : Nat) (mn : Mn) (mo : Mode) (add : Prop) [Decidable add] (s : AState)
    (h : isBranch mn = false) :
    varCycles W mn mo add s = (if add ∧ readCrosses W mo s = true then 1 else 0) := by
  simp [varCycles, h]

/-- load / store / read-modify-write families: the handler's extra cycles are its mode helper's -/
theorem data_cyc (c : Cfg) (f : St → St) (x : St → Int × St) (mn : Mn) (mo : Mode) (k : Int)
    (hb : isBranch mn = false) (hx : ModeCyc c x mo) (hop : KeepsCyc f x) :
    HandlerCyc c (fun s => bump k (f s)) mn mo := by
  intro s hs
  have e1 : (bump k (f s)).cycles = (f s).cycles := rfl
  have e2 : (bump k (f s)).excycles = (f s).excycles := rfl
  rw [e1, e2, (hop s).1, (hop s).2, (hx s hs).1, (hx s hs).2, varCycles_nobranch _ _ _ _ _ hb]
  exact ⟨rfl, rfl⟩

/-- instructions without an addressing-mode helper and without a branch -/
theorem plain_cyc {c : Cfg} {h : St → St} {mn : Mn} {mo : Mode}
    (hb : isBranch mn = false) (hm : ∀ a, readCrosses c.BYTE_WIDTH mo a = false)
    (hk : KeepsCyc h (fun s => (0, s))) : HandlerCyc c h mn mo := by
  intro s _
  rw [(hk s).1, (hk s).2, varCycles_nobranch _ _ _ _ _ hb]
  simp [hm]

end Py65.Proofs
