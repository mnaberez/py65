/-
From the handlers to the calls.  Every slot of a device's table holds the handler of a declared row, the
default handler, or (outside 0..255) nothing (`Dev.instruct_cases`); the handler theorems are lifted
through `step()` and joined with `irq()`, `nmi()` and `reset()` into one statement about every call of
every device, `apply_eff`.  Its `LogOK` half along histories: `run_log`.
-/
import Py65.Proofs.HistLogHandlers
import Py65.Proofs.HistStep

namespace Py65.Proofs
open Py65 Py65.Gen Py65.Spec

theorem step_eff {c : Cfg} (hc : IsDev c) {t : Tbl} (ht : ∀ n, HandlerEff c (t.instruct n)) :
    HandlerEff c (Mpu6502.step c t) := fun s =>
  have h1 : Eff c s (afterFetch c t s) := ((Eff.refl c s).read s.pc (·.pc)).regs
  (h1.trans (fun hr => ⟨hr.a, hr.x, hr.y, hr.sp, inA_land_addrMask hc _, hr.mem⟩) (ht _ _)).regs.regs

namespace Hist

/-- `step()` of the 65C02 and of the 65Org16: a waiting processor only counts a cycle. -/
theorem wait_eff {c : Cfg} {f : St → St} (hf : HandlerEff c f) :
    HandlerEff c fun s => if s.waiting then { s with cycles := s.cycles + 1 } else f s :=
  fun s => Eff.ite (Eff.refl c s).regs (hf s)

/-- `irq()` / `nmi()` of the 65C02 first end a wait. -/
theorem wake_eff {c : Cfg} {f : St → St} (hf : HandlerEff c f) :
    HandlerEff c fun s => f { s with waiting := false } := fun s =>
  Eff.trans (s' := { s with waiting := false }) (Eff.refl c s).regs
    (fun hr => ⟨hr.a, hr.x, hr.y, hr.sp, hr.pc, hr.mem⟩) (hf _)

theorem table_eff (d : Dev) (n : Int) : HandlerEff d.cfg (d.tbl.instruct n) :=
  d.instruct_cases (stdHandler_eff d.isDev) (fun s => (Eff.refl _ s).regs) (Eff.refl _) n

/-- Every call of every device, on ANY state. -/
theorem apply_eff (d : Dev) (o : Op) : HandlerEff d.cfg (apply d o) := by
  have hc := d.isDev
  cases o with
  | step =>
    have h := step_eff hc (table_eff d)
    cases d
    · exact h
    · exact wait_eff h
    · exact wait_eff h
  | irq =>
    cases d
    · exact irq_eff hc
    · exact wake_eff (irq_eff hc)
    · exact irq_eff hc
  | nmi =>
    cases d
    · exact nmi_eff hc
    · exact wake_eff (nmi_eff hc)
    · exact nmi_eff hc
  | reset a =>
    cases d <;> cases a
    · exact reset_vec_eff hc
    · exact reset_at_eff _ _
    · exact fun s => (reset_vec_eff hc s).regs
    · exact fun s => (reset_at_eff _ _ s).regs
    · exact reset_vec_eff hc
    · exact reset_at_eff _ _

theorem apply_log (d : Dev) (o : Op) (s : St) (hi : Inv d s) (hl : LogOK d.W s.log) :
    LogOK d.W (apply d o s).log :=
  d.W_eq ▸ (apply_eff d o).log d.isDev s hi.1 (d.W_eq ▸ hl)

theorem run_log (d : Dev) (ops : List Op) (s : St) (hi : Inv d s) (hok : Along d (OpOK d) ops s)
    (hl : LogOK d.W s.log) : LogOK d.W (run d ops s).log := by
  induction ops generalizing s with
  | nil => exact hl
  | cons o ops ih =>
    exact ih _ (apply_inv d o s hi hok.1) hok.2 (apply_log d o s hi hl)

end Hist

end Py65.Proofs
