/-
Helper lemmas for C10 / C11 / C18 about the `ObservableMemory` model (`Py65/Model/ObsMem.lean`)
and its Spec (`Py65/Spec/ObsMem.lean`).  Property statements live in `Py65/Props/C10.lean`,
`Py65/Props/C11.lean`.
-/
import Py65.Spec.ObsMem
import Py65.Proofs.PyIntLemmas
import Mathlib.Data.List.Nodup
import Mathlib.Tactic.Linarith
import Mathlib.Tactic.SplitIfs

namespace Py65.Model.ObsMem
open Py65.Spec.ObsMem

theorem land_physMask {m : OM} (h : WF m) (a : Int) : Py.land a m.physMask = phys m.physMask a := by
  unfold phys
  rcases h.1 with h1 | h1 <;> rw [h1]
  · have := Py.land_mask a 16; norm_num at this ⊢; exact this
  · have := Py.land_mask a 18; norm_num at this ⊢; exact this

theorem phys_nonneg {m : OM} (h : WF m) (a : Int) : 0 ≤ phys m.physMask a := by
  unfold phys
  rcases h.1 with h1 | h1 <;> rw [h1] <;> omega

theorem phys_le {m : OM} (h : WF m) (a : Int) : phys m.physMask a ≤ m.physMask := by
  unfold phys
  rcases h.1 with h1 | h1 <;> rw [h1] <;> omega

theorem phys_of_inRange {mask a : Int} (h0 : 0 ≤ a) (h1 : a ≤ mask) : phys mask a = a := by
  unfold phys
  exact Int.emod_eq_of_lt h0 (by omega)

theorem phys_phys {m : OM} (h : WF m) (a : Int) : phys m.physMask (phys m.physMask a) = phys m.physMask a :=
  phys_of_inRange (phys_nonneg h a) (phys_le h a)

theorem land_of_inRange {m : OM} (h : WF m) {a : Int} (h0 : 0 ≤ a) (h1 : a ≤ m.physMask) :
    Py.land a m.physMask = a := by
  rw [land_physMask h, phys_of_inRange h0 h1]

theorem readReplies_nil (reply : Reply) (n : Nat) (a : Int) : readReplies reply [] n a = [] := rfl

theorem readReplies_cons (reply : Reply) (cb : Nat) (rest : List Nat) (n : Nat) (a : Int) :
    readReplies reply (cb :: rest) n a = reply cb n a none :: readReplies reply rest (n + 1) a := by
  unfold readReplies
  rw [List.length_cons, List.range_succ_eq_map, List.map_cons, List.map_map]
  simp only [List.getD_cons_zero, Nat.add_zero, List.cons.injEq, true_and]
  apply List.map_congr_left
  intro i _
  simp only [Function.comp, List.getD_cons_succ]
  congr 1; omega

theorem readLoop_log (reply : Reply) (a : Int) (subs : List Nat) (fin : Option Int) (log : List Ev) :
    (readLoop reply a subs fin log).2 = log ++ subs.map (fun cb => { cb := cb, addr := a, val := none }) := by
  induction subs generalizing fin log with
  | nil => simp [readLoop]
  | cons cb rest ih => simp [readLoop, ih]

theorem readLoop_val (reply : Reply) (a : Int) (subs : List Nat) (fin : Option Int) (log : List Ev) :
    (readLoop reply a subs fin log).1 =
      match lastSome (readReplies reply subs log.length a) with
      | some v => some v
      | none => fin := by
  induction subs generalizing fin log with
  | nil => simp [readLoop, readReplies_nil, lastSome]
  | cons cb rest ih =>
    rw [readLoop, ih, readReplies_cons]
    simp only [List.length_append, List.length_cons, List.length_nil, Nat.zero_add, lastSome]
    cases lastSome (readReplies reply rest (log.length + 1) a) <;> cases reply cb log.length a none <;> rfl

theorem readLoop_quiet (reply : Reply) (a : Int) (subs : List Nat) (fin : Option Int) (log : List Ev)
    (hq : ∀ cb ∈ subs, ∀ i, reply cb i a none = none) :
    (readLoop reply a subs fin log).1 = fin := by
  induction subs generalizing fin log with
  | nil => rfl
  | cons cb rest ih =>
    rw [readLoop, ih _ _ (fun c hc => hq c (List.mem_cons_of_mem _ hc)),
      hq cb List.mem_cons_self]

theorem seen_cons (reply : Reply) (cb : Nat) (rest : List Nat) (n : Nat) (a v : Int) (i : Nat) :
    seen reply (cb :: rest) n a v (i + 1) =
      seen reply rest (n + 1) a (match reply cb n a (some v) with | some r => r | none => v) i := by
  induction i with
  | zero =>
    simp only [seen, List.getD_cons_zero, Nat.add_zero]
    cases reply cb n a (some v) <;> rfl
  | succ i ih =>
    rw [seen, ih]
    conv_rhs => rw [seen]
    simp only [List.getD_cons_succ]
    have : n + (i + 1) = n + 1 + i := by omega
    rw [this]

theorem writeLoop_eq (reply : Reply) (a : Int) (subs : List Nat) (v : Int) (log : List Ev) :
    writeLoop reply a subs v log =
      (seen reply subs log.length a v subs.length,
       log ++ (List.range subs.length).map fun i =>
         { cb := subs.getD i 0, addr := a, val := some (seen reply subs log.length a v i) }) := by
  induction subs generalizing v log with
  | nil => simp [writeLoop, seen]
  | cons cb rest ih =>
    rw [writeLoop, ih]
    simp only [List.length_append, List.length_cons, List.length_nil, Nat.zero_add]
    rw [List.range_succ_eq_map, List.map_cons, List.map_map, seen_cons]
    have h0 : seen reply (cb :: rest) log.length a v 0 = v := rfl
    simp only [h0, List.getD_cons_zero, List.append_assoc, List.cons_append, List.nil_append]
    congr 3
    apply List.map_congr_left
    intro i _
    simp only [Function.comp, Nat.succ_eq_add_one, seen_cons, List.getD_cons_succ]
    rfl

theorem writeLoop_quiet (reply : Reply) (a : Int) (subs : List Nat) (v : Int) (log : List Ev)
    (hq : ∀ cb ∈ subs, ∀ i x, reply cb i a x = none) :
    writeLoop reply a subs v log = (v, log ++ subs.map (fun cb => { cb := cb, addr := a, val := some v })) := by
  induction subs generalizing v log with
  | nil => simp [writeLoop]
  | cons cb rest ih =>
    rw [writeLoop, hq cb List.mem_cons_self, ih _ _ (fun c hc => hq c (List.mem_cons_of_mem _ hc))]
    simp

@[simp] theorem get_physMask (reply : Reply) (m : OM) (a : Int) : (get reply m a).2.physMask = m.physMask := rfl
@[simp] theorem get_subject (reply : Reply) (m : OM) (a : Int) : (get reply m a).2.subject = m.subject := rfl
@[simp] theorem get_subjLen (reply : Reply) (m : OM) (a : Int) : (get reply m a).2.subjLen = m.subjLen := rfl
@[simp] theorem get_rsubs (reply : Reply) (m : OM) (a : Int) : (get reply m a).2.rsubs = m.rsubs := rfl
@[simp] theorem get_wsubs (reply : Reply) (m : OM) (a : Int) : (get reply m a).2.wsubs = m.wsubs := rfl
@[simp] theorem set_physMask (reply : Reply) (m : OM) (a v : Int) : (set reply m a v).physMask = m.physMask := rfl
@[simp] theorem set_subjLen (reply : Reply) (m : OM) (a v : Int) : (set reply m a v).subjLen = m.subjLen := rfl
@[simp] theorem set_rsubs (reply : Reply) (m : OM) (a v : Int) : (set reply m a v).rsubs = m.rsubs := rfl
@[simp] theorem set_wsubs (reply : Reply) (m : OM) (a v : Int) : (set reply m a v).wsubs = m.wsubs := rfl

theorem get_log (reply : Reply) (m : OM) (a : Int) :
    (get reply m a).2.log = m.log ++
      (m.rsubs.of (Py.land a m.physMask)).map (fun cb => { cb := cb, addr := Py.land a m.physMask, val := none }) := by
  simp [get, readLoop_log]

theorem get_val (reply : Reply) (m : OM) (a : Int) :
    (get reply m a).1 =
      (lastSome (readReplies reply (m.rsubs.of (Py.land a m.physMask)) m.log.length (Py.land a m.physMask))).getD
        (m.subject (Py.land a m.physMask)) := by
  simp only [get, readLoop_val]
  cases lastSome (readReplies reply (m.rsubs.of (Py.land a m.physMask)) m.log.length (Py.land a m.physMask)) <;> rfl

theorem set_log (reply : Reply) (m : OM) (a v : Int) :
    (set reply m a v).log = m.log ++
      (List.range (m.wsubs.of (Py.land a m.physMask)).length).map fun i =>
        { cb := (m.wsubs.of (Py.land a m.physMask)).getD i 0, addr := Py.land a m.physMask,
          val := some (seen reply (m.wsubs.of (Py.land a m.physMask)) m.log.length (Py.land a m.physMask) v i) } := by
  simp [set, writeLoop_eq]

theorem set_subject (reply : Reply) (m : OM) (a v : Int) :
    (set reply m a v).subject =
      upd m.subject (Py.land a m.physMask)
        (seen reply (m.wsubs.of (Py.land a m.physMask)) m.log.length (Py.land a m.physMask) v
          (m.wsubs.of (Py.land a m.physMask)).length) := by
  simp only [set, writeLoop_eq]
  rfl

def addCb (l : List Nat) (cb : Nat) : List Nat := if cb ∈ l then l else l ++ [cb]

theorem subOne_of (mask : Int) (cb : Nat) (subs : Subs) (x a : Int) :
    (subOne mask cb subs x).of a = if a = Py.land x mask then addCb (subs.of a) cb else subs.of a := by
  unfold subOne addCb
  by_cases ha : a = Py.land x mask
  · subst ha
    by_cases hm : cb ∈ subs.of (Py.land x mask) <;> simp [hm]
  · by_cases hm : cb ∈ subs.of (Py.land x mask) <;> simp [hm, ha]

theorem addCb_addCb (l : List Nat) (cb : Nat) : addCb (addCb l cb) cb = addCb l cb := by
  unfold addCb
  by_cases h : cb ∈ l <;> simp [h]

theorem mem_addCb (l : List Nat) (cb : Nat) : cb ∈ addCb l cb := by
  unfold addCb
  by_cases h : cb ∈ l <;> simp [h]

theorem foldl_subOne_of (mask : Int) (cb : Nat) (addrs : List Int) (subs : Subs) (a : Int) :
    (addrs.foldl (subOne mask cb) subs).of a =
      if a ∈ addrs.map (fun x => Py.land x mask) then addCb (subs.of a) cb else subs.of a := by
  induction addrs generalizing subs with
  | nil => simp
  | cons x xs ih =>
    rw [List.foldl_cons, ih, subOne_of]
    by_cases ha : a = Py.land x mask <;> by_cases hx : a ∈ xs.map (fun x => Py.land x mask) <;>
      simp [ha, hx, addCb_addCb]

theorem foldl_subOne_same (mask : Int) (cb : Nat) (addrs : List Int) (subs : Subs)
    (h : ∀ x ∈ addrs, cb ∈ subs.of (Py.land x mask)) :
    addrs.foldl (subOne mask cb) subs = subs := by
  induction addrs with
  | nil => rfl
  | cons x xs ih =>
    rw [List.foldl_cons]
    have hx : subOne mask cb subs x = subs := by
      unfold subOne
      simp [h x List.mem_cons_self]
    rw [hx]
    exact ih (fun y hy => h y (List.mem_cons_of_mem _ hy))

def extend (acc : List Nat) (l : List Nat) : List Nat := l.foldl addCb acc

theorem extend_eq (acc l : List Nat) :
    extend acc l = acc ++ (keepFirst l).filter (fun y => decide (y ∉ acc)) := by
  induction l generalizing acc with
  | nil => simp [extend, keepFirst]
  | cons x xs ih =>
    unfold extend at ih ⊢
    rw [List.foldl_cons, ih, keepFirst]
    unfold addCb
    by_cases hx : x ∈ acc
    · simp only [hx, if_true, List.filter_cons, not_true_eq_false, decide_false, Bool.false_eq_true,
        if_false, List.filter_filter]
      congr 1
      apply List.filter_congr
      intro y _
      by_cases hy : y ∈ acc
      · simp [hy]
      · have : y ≠ x := fun e => hy (e ▸ hx)
        simp [hy, this]
    · simp only [hx, if_false, List.filter_cons, not_false_eq_true, decide_true, if_true,
        List.filter_filter, List.append_assoc, List.singleton_append]
      congr 2
      apply List.filter_congr
      intro y _
      by_cases hy : y ∈ acc
      · have : y ≠ x := fun e => hx (e ▸ hy)
        simp [hy, this]
      · by_cases hyx : y = x
        · simp [hyx, hx]
        · simp [hy, hyx]

theorem extend_nil (l : List Nat) : extend [] l = keepFirst l := by
  rw [extend_eq]; simp

theorem mem_keepFirst (l : List Nat) (x : Nat) : x ∈ keepFirst l ↔ x ∈ l := by
  induction l with
  | nil => simp [keepFirst]
  | cons y ys ih =>
    simp only [keepFirst, List.mem_cons, List.mem_filter, ih]
    by_cases h : x = y <;> simp [h]

theorem keepFirst_nodup (l : List Nat) : (keepFirst l).Nodup := by
  induction l with
  | nil => simp [keepFirst]
  | cons y ys ih =>
    rw [keepFirst, List.nodup_cons]
    refine ⟨by simp, ih.filter _⟩

theorem keepFirst_eq_nil (l : List Nat) : keepFirst l = [] ↔ l = [] := by
  cases l <;> simp [keepFirst]

theorem keepFirst_append_of_mem (l : List Nat) (x : Nat) (h : x ∈ l) : keepFirst (l ++ [x]) = keepFirst l := by
  have h1 := extend_eq [] (l ++ [x])
  unfold extend at h1
  rw [List.foldl_append] at h1
  have h2 := extend_eq [] l
  unfold extend at h2
  simp only [List.foldl_cons, List.foldl_nil, List.nil_append, List.not_mem_nil, not_false_eq_true,
    decide_true, List.filter_true] at h1 h2
  rw [← h1, h2]
  unfold addCb
  simp [(mem_keepFirst l x).2 h]

theorem getMany_fields (reply : Reply) (idx : List Int) (m : OM) :
    (getMany reply idx m).2.physMask = m.physMask ∧ (getMany reply idx m).2.subject = m.subject ∧
    (getMany reply idx m).2.subjLen = m.subjLen ∧ (getMany reply idx m).2.rsubs = m.rsubs ∧
    (getMany reply idx m).2.wsubs = m.wsubs := by
  induction idx generalizing m with
  | nil => simp [getMany]
  | cons n ns ih =>
    simp only [getMany]
    have := ih (get reply m n).2
    simpa using this

theorem setMany_fields (reply : Reply) (idx vals : List Int) (m : OM) :
    (setMany reply idx vals m).physMask = m.physMask ∧
    (setMany reply idx vals m).subjLen = m.subjLen ∧ (setMany reply idx vals m).rsubs = m.rsubs ∧
    (setMany reply idx vals m).wsubs = m.wsubs := by
  induction idx generalizing vals m with
  | nil => simp [setMany]
  | cons n ns ih =>
    cases vals with
    | nil => simp [setMany]
    | cons v vs =>
      simp only [setMany]
      have := ih vs (set reply m n v)
      simpa using this

theorem apply_fields (reply : Reply) (m : OM) (op : Op) :
    (apply reply m op).2.physMask = m.physMask ∧ m.subjLen ≤ (apply reply m op).2.subjLen ∧
    ((∀ addrs cb, op ≠ .subR addrs cb ∧ op ≠ .subW addrs cb) →
      (apply reply m op).2.rsubs = m.rsubs ∧ (apply reply m op).2.wsubs = m.wsubs) := by
  cases op with
  | subR addrs cb => exact ⟨rfl, Int.le_refl _, fun h => absurd rfl (h addrs cb).1⟩
  | subW addrs cb => exact ⟨rfl, Int.le_refl _, fun h => absurd rfl (h addrs cb).2⟩
  | get a => exact ⟨rfl, Int.le_refl _, fun _ => ⟨rfl, rfl⟩⟩
  | set a v => exact ⟨rfl, Int.le_refl _, fun _ => ⟨rfl, rfl⟩⟩
  | getSlice s e st =>
    simp only [apply, getSlice]
    cases sliceIndices (m.physMask + 1) s e st with
    | none => exact ⟨rfl, Int.le_refl _, fun _ => ⟨rfl, rfl⟩⟩
    | some idx =>
      obtain ⟨h1, _, h3, h4, h5⟩ := getMany_fields reply idx m
      exact ⟨h1, Int.le_of_eq h3.symm, fun _ => ⟨h4, h5⟩⟩
  | setSlice s e st vs =>
    simp only [apply, setSlice]
    cases sliceIndices (m.physMask + 1) s e st with
    | none => exact ⟨rfl, Int.le_refl _, fun _ => ⟨rfl, rfl⟩⟩
    | some idx =>
      obtain ⟨h1, h3, h4, h5⟩ := setMany_fields reply idx vs m
      exact ⟨h1, Int.le_of_eq h3.symm, fun _ => ⟨h4, h5⟩⟩
  | write s bs =>
    refine ⟨rfl, ?_, fun _ => ⟨rfl, rfl⟩⟩
    simp only [apply, write]
    split_ifs <;> omega

theorem apply_physMask (reply : Reply) (m : OM) (op : Op) : (apply reply m op).2.physMask = m.physMask :=
  (apply_fields reply m op).1

theorem apply_WF (reply : Reply) (m : OM) (op : Op) (h : WF m) : WF (apply reply m op).2 := by
  refine ⟨?_, ?_⟩
  · rw [apply_physMask]; exact h.1
  · rw [apply_physMask]; exact Int.le_trans h.2 (apply_fields reply m op).2.1

theorem run_cons (reply : Reply) (m : OM) (op : Op) (rest : List Op) :
    run reply m (op :: rest) = run reply (apply reply m op).2 rest := rfl

theorem run_append (reply : Reply) (m : OM) (h1 h2 : List Op) :
    run reply m (h1 ++ h2) = run reply (run reply m h1) h2 := by
  unfold run; rw [List.foldl_append]

theorem run_physMask (reply : Reply) (m : OM) (hist : List Op) : (run reply m hist).physMask = m.physMask := by
  induction hist generalizing m with
  | nil => rfl
  | cons op rest ih => rw [run_cons, ih, apply_physMask]

theorem run_WF (reply : Reply) (m : OM) (hist : List Op) (h : WF m) : WF (run reply m hist) := by
  induction hist generalizing m with
  | nil => exact h
  | cons op rest ih => rw [run_cons]; exact ih _ (apply_WF reply m op h)

theorem init_WF (w : Int) (cells : Int → Int) : WF (init w cells) := by
  unfold WF init
  by_cases h : w > 16 <;> simp [h]

def subsOf : Kind → OM → Subs
  | .read, m => m.rsubs
  | .write, m => m.wsubs

/-- `subscribe_to_read` / `subscribe_to_write`, by kind. -/
def subscribe : Kind → OM → List Int → Nat → OM
  | .read => subscribeRead
  | .write => subscribeWrite

def Op.sub : Kind → List Int → Nat → Op
  | .read => .subR
  | .write => .subW

theorem apply_sub (reply : Reply) (m : OM) (k : Kind) (addrs : List Int) (cb : Nat) :
    apply reply m (Op.sub k addrs cb) = (.unit, subscribe k m addrs cb) := by
  cases k <;> rfl

theorem registered_sub (k' k : Kind) (mask a : Int) (addrs : List Int) (cb : Nat) :
    registered k' mask a (Op.sub k addrs cb) = if k' = k ∧ a ∈ addrs.map (phys mask) then some cb else none := by
  cases k <;> rfl

theorem subscribe_of (k' k : Kind) (m : OM) (addrs : List Int) (cb : Nat) (a : Int) :
    (subsOf k' (subscribe k m addrs cb)).of a =
      if k' = k ∧ a ∈ addrs.map (fun x => Py.land x m.physMask) then addCb ((subsOf k' m).of a) cb
      else (subsOf k' m).of a := by
  cases k <;> cases k' <;> simp [subsOf, subscribe, subscribeRead, subscribeWrite, foldl_subOne_of]

theorem subscribe_same (k : Kind) (m : OM) (addrs : List Int) (cb : Nat)
    (h : ∀ x ∈ addrs, cb ∈ (subsOf k m).of (Py.land x m.physMask)) : subscribe k m addrs cb = m := by
  cases k
  · exact congrArg (fun s => { m with rsubs := s }) (foldl_subOne_same _ _ _ _ h)
  · exact congrArg (fun s => { m with wsubs := s }) (foldl_subOne_same _ _ _ _ h)

theorem apply_subs (k : Kind) (reply : Reply) (m : OM) (op : Op) (h : WF m) (a : Int) :
    (subsOf k (apply reply m op).2).of a =
      match registered k m.physMask a op with
      | some cb => addCb ((subsOf k m).of a) cb
      | none => (subsOf k m).of a := by
  have same : ∀ m' : OM, m'.rsubs = m.rsubs ∧ m'.wsubs = m.wsubs → (subsOf k m').of a = (subsOf k m).of a :=
    fun m' h => by cases k <;> simp [subsOf, h.1, h.2]
  have sub : ∀ k' addrs cb, (subsOf k (apply reply m (Op.sub k' addrs cb)).2).of a =
      match registered k m.physMask a (Op.sub k' addrs cb) with
      | some cb => addCb ((subsOf k m).of a) cb
      | none => (subsOf k m).of a := by
    intro k' addrs cb
    rw [apply_sub, subscribe_of, registered_sub, ← funext (land_physMask h)]
    split_ifs <;> rfl
  cases op with
  | subR addrs cb => exact sub .read addrs cb
  | subW addrs cb => exact sub .write addrs cb
  | get _ | set _ _ | getSlice _ _ _ | setSlice _ _ _ _ | write _ _ =>
    exact same _ ((apply_fields reply m _).2.2 fun _ _ => ⟨nofun, nofun⟩)

theorem run_subs (k : Kind) (reply : Reply) (m : OM) (hist : List Op) (h : WF m) (a : Int) :
    (subsOf k (run reply m hist)).of a =
      extend ((subsOf k m).of a) (hist.filterMap (registered k m.physMask a)) := by
  induction hist generalizing m with
  | nil => rfl
  | cons op rest ih =>
    rw [run_cons, ih _ (apply_WF reply m op h), apply_physMask, apply_subs k reply m op h, List.filterMap_cons]
    cases registered k m.physMask a op <;> rfl

/-- A callback is a kind-`k` subscriber of `a` iff some kind-`k` subscription of the history mentions an
alias of `a`. -/
theorem mem_subscribers (k : Kind) (mask : Int) (hist : List Op) (a : Int) (cb : Nat) :
    cb ∈ subscribers k mask hist a ↔
      ∃ addrs, Op.sub k addrs cb ∈ hist ∧ ∃ x ∈ addrs, phys mask x = a := by
  unfold subscribers
  rw [mem_keepFirst, List.mem_filterMap]
  constructor
  · rintro ⟨op, hop, hreg⟩
    cases op <;> cases k <;> simp [registered] at hreg
    all_goals
      obtain ⟨⟨x, hx, hxa⟩, rfl⟩ := hreg
      exact ⟨_, hop, x, hx, hxa⟩
  · rintro ⟨addrs, hop, x, hx, hxa⟩
    exact ⟨_, hop, by rw [registered_sub, if_pos ⟨rfl, List.mem_map.2 ⟨x, hx, hxa⟩⟩]⟩

theorem getMany_foldl_aux (reply : Reply) (idx : List Int) (pre : List Int) (m : OM) :
    idx.foldl (fun (acc : List Int × OM) n => (acc.1 ++ [(get reply acc.2 n).1], (get reply acc.2 n).2)) (pre, m)
      = (pre ++ (getMany reply idx m).1, (getMany reply idx m).2) := by
  induction idx generalizing pre m with
  | nil => simp [getMany]
  | cons n ns ih => rw [List.foldl_cons, ih]; simp [getMany]

theorem getMany_eq_foldl (reply : Reply) (idx : List Int) (m : OM) :
    getMany reply idx m =
      idx.foldl (fun (acc : List Int × OM) n => (acc.1 ++ [(get reply acc.2 n).1], (get reply acc.2 n).2)) ([], m) := by
  rw [getMany_foldl_aux]; simp

theorem setMany_eq_foldl (reply : Reply) (idx vals : List Int) (m : OM) :
    setMany reply idx vals m = (idx.zip vals).foldl (fun m p => set reply m p.1 p.2) m := by
  induction idx generalizing vals m with
  | nil => simp [setMany]
  | cons n ns ih =>
    cases vals with
    | nil => simp [setMany]
    | cons v vs => simp [setMany, ih]

theorem getMany_length (reply : Reply) (idx : List Int) (m : OM) : (getMany reply idx m).1.length = idx.length := by
  induction idx generalizing m with
  | nil => rfl
  | cons n ns ih => simp [getMany, ih]

theorem clampBound_range (L lower upper x : Int) (h1 : lower ≤ 0) (h2 : lower ≤ upper) (h3 : L - 1 ≤ upper) :
    lower ≤ clampBound L lower upper x ∧ clampBound L lower upper x ≤ upper := by
  unfold clampBound
  split_ifs <;> omega

theorem sliceTriple_bounds (L : Int) (hL : 0 ≤ L) (s e st : Option Int) (t : Int × Int × Int)
    (h : sliceTriple L s e st = some t) :
    t.2.2 ≠ 0 ∧ (0 < t.2.2 → 0 ≤ t.1 ∧ t.2.1 ≤ L) ∧ (t.2.2 < 0 → t.1 ≤ L - 1 ∧ -1 ≤ t.2.1) := by
  unfold sliceTriple at h
  simp only at h
  by_cases h0 : st.getD 1 = 0
  · simp [h0] at h
  · simp only [h0, if_false] at h
    by_cases hneg : st.getD 1 < 0
    · simp only [hneg, if_true, Option.some.injEq] at h
      subst h
      dsimp only
      refine ⟨h0, fun hp => by omega, fun _ => ⟨?_, ?_⟩⟩
      · cases s with
        | none => exact Int.le_refl _
        | some x => exact (clampBound_range L (-1) (L - 1) x (by omega) (by omega) (by omega)).2
      · cases e with
        | none => exact Int.le_refl _
        | some x => exact (clampBound_range L (-1) (L - 1) x (by omega) (by omega) (by omega)).1
    · simp only [hneg, if_false, Option.some.injEq] at h
      subst h
      dsimp only
      refine ⟨h0, fun _ => ⟨?_, ?_⟩, fun hn => by omega⟩
      · cases s with
        | none => exact Int.le_refl _
        | some x => exact (clampBound_range L 0 L x (by omega) hL (by omega)).1
      · cases e with
        | none => exact Int.le_refl _
        | some x => exact (clampBound_range L 0 L x (by omega) hL (by omega)).2

theorem step_le_of_lt_rangeLen {d c : Int} {k : Nat} (hc : 0 < c) (hd : 0 < d)
    (hk : k < ((d - 1) / c + 1).toNat) : 0 ≤ (k : Int) * c ∧ (k : Int) * c ≤ d - 1 := by
  have hq : 0 ≤ (d - 1) / c := Int.ediv_nonneg (by omega) (by omega)
  have hk' : (k : Int) ≤ (d - 1) / c := by omega
  have h1 : (d - 1) / c * c ≤ d - 1 := Int.ediv_mul_le _ (by omega)
  have h2 : (k : Int) * c ≤ (d - 1) / c * c := Int.mul_le_mul_of_nonneg_right hk' (by omega)
  exact ⟨Int.mul_nonneg (by omega) (by omega), by omega⟩

theorem mem_pyRange (a b c i : Int) (h : i ∈ pyRange a b c) :
    (0 < c → a ≤ i ∧ i < b) ∧ (c < 0 → b < i ∧ i ≤ a) := by
  unfold pyRange at h
  simp only [List.mem_map, List.mem_range] at h
  obtain ⟨k, hk, rfl⟩ := h
  unfold rangeLen at hk
  constructor
  · intro hc
    simp only [gt_iff_lt, hc, if_true] at hk
    split_ifs at hk with hab
    · have := step_le_of_lt_rangeLen hc (by omega) hk
      constructor <;> omega
    · omega
  · intro hc
    have hc' : ¬ (0 < c) := by omega
    simp only [gt_iff_lt, hc', if_false] at hk
    split_ifs at hk with hab
    · have := step_le_of_lt_rangeLen (by omega) (by omega) hk
      have h4 : (k : Int) * (-c) = -((k : Int) * c) := Int.mul_neg _ _
      constructor <;> omega
    · omega

theorem sliceIndices_inRange (L : Int) (hL : 0 ≤ L) (s e st : Option Int) (idx : List Int)
    (h : sliceIndices L s e st = some idx) : ∀ i ∈ idx, 0 ≤ i ∧ i < L := by
  unfold sliceIndices at h
  cases ht : sliceTriple L s e st with
  | none => rw [ht] at h; simp at h
  | some t =>
    rw [ht] at h
    simp only [Option.map_some, Option.some.injEq] at h
    subst h
    intro i hi
    obtain ⟨h0, hp, hn⟩ := sliceTriple_bounds L hL s e st t ht
    have hm := mem_pyRange _ _ _ _ hi
    rcases Int.lt_or_gt_of_ne h0 with hc | hc
    · have := hm.2 hc; have := hn hc; omega
    · have := hm.1 hc; have := hp hc; omega

theorem sliceIndices_none_iff (L : Int) (s e st : Option Int) :
    sliceIndices L s e st = none ↔ st = some 0 := by
  unfold sliceIndices sliceTriple
  cases st with
  | none => simp
  | some x =>
    by_cases hx : x = 0
    · simp [hx]
    · simp [hx]

theorem sliceIndices_contig (L s e : Int) (h0 : 0 ≤ s) (h1 : s ≤ e) (h2 : e ≤ L) :
    sliceIndices L (some s) (some e) none = some ((List.range (e - s).toNat).map fun (i : Nat) => s + (i : Int)) := by
  unfold sliceIndices sliceTriple clampBound pyRange rangeLen
  have hs : ¬ (s < 0) := by omega
  have he : ¬ (e < 0) := by omega
  have hs2 : ¬ (s > L) := by omega
  have he2 : ¬ (e > L) := by omega
  simp only [Option.getD_none, one_ne_zero, if_false, hs, he, hs2, he2, Option.map_some,
    gt_iff_lt, zero_lt_one, if_true, Int.ediv_one, mul_one, Option.some.injEq,
    show ¬ ((1 : Int) < 0) by omega]
  by_cases hse : s < e
  · simp only [hse, if_true]
    have : (e - s - 1 + 1).toNat = (e - s).toNat := by congr 1; omega
    rw [this]
  · have : e - s = 0 := by omega
    simp [hse, this]

end Py65.Model.ObsMem
