/-
The three device records of `Model.Asm` satisfy `DevOK`: their GENERATED tables (live
`disassemble` class attributes), widths and formats are the documented ones.  Evaluation by the
kernel (`decide +kernel`); a change of a device table, width or format makes this file fail, and with
it every theorem of C07 / C08 / C09.
-/
import Py65.Proofs.AsmText

namespace Py65.Proofs.Asm
open Py65.Model Py65.Model.PyStr Py65.Model.Asm
open Py65.Spec (Mode Mn Variant decode)
open Py65.Spec.Asm (opcodeOf mnText shapeOf Shape.modes)

def isMnemB : Str → Bool
  | [a, b, c] => isAz a && isAz b && isAz c
  | [a, b, c, e] => isAz a && isAz b && isAz c && isOct e
  | _ => false

theorem isMnemB_sound {M : Str} (h : isMnemB M = true) : IsMnem M := by
  rcases M with _ | ⟨a, _ | ⟨b, _ | ⟨c, _ | ⟨e, _ | ⟨f, r⟩⟩⟩⟩⟩ <;> simp [isMnemB] at h
  · exact ⟨a, b, c, [], rfl, h.1.1, h.1.2, h.2, Or.inl rfl⟩
  · exact ⟨a, b, c, [e], rfl, h.1.1.1, h.1.1.2, h.1.2, Or.inr ⟨e, rfl, h.2⟩⟩

/-- zero-page twin of an absolute mode -/
def zpTwin : Mode → Option Mode
  | .abs => some .zpg
  | .abx => some .zpx
  | .aby => some .zpy
  | _ => none

/-- the modes that `encode` tries before `mo` for an operand of the shape of `mo` -/
def before : Mode → List Mode
  | .abs => [.zpg] | .rel => [.zpg, .abs] | .abx => [.zpx] | .aby => [.zpy]
  | .ind => [.zpi] | .iax => [.inx] | _ => []

theorem modes_shapeOf (mo : Mode) : ∃ rest, (shapeOf mo).modes = before mo ++ mo :: rest := by
  cases mo <;> exact ⟨_, rfl⟩

/-- The facts about one row of the documented table that the round trip needs: the row is the first
with its mnemonic and mode, the mnemonic is one the `Statement` pattern takes, in upper case, and of
the modes tried before its own the variant declares for the mnemonic only a zero-page twin. -/
def rowFacts (v : Variant) (n : Nat) : Bool :=
  match decode v (n : Int) with
  | none => true
  | some (mn, mo) =>
    decide (opcodeOf v (mnText mn) mo = some n) &&
    isMnemB (mnText mn) && decide (upperS (mnText mn) = mnText mn) &&
    (before mo).all fun p => zpTwin mo == some p || opcodeOf v (mnText mn) p == none

/- One evaluation per variant, so that the kernel decodes the 256 opcodes once for the tables and the
row facts together. -/
theorem nmos_facts : dev6502.table = specRows .nmos ∧ dev65org16.table = specRows .nmos ∧
    (List.range 256).all (rowFacts .nmos) = true := by decide +kernel
theorem cmos_facts : dev65c02.table = specRows .cmos ∧ (List.range 256).all (rowFacts .cmos) = true := by
  decide +kernel

theorem ok6502 : DevOK dev6502 .nmos 8 :=
  ⟨nmos_facts.1, rfl, rfl, fun _ => rfl, fun _ => rfl, Or.inl rfl⟩
theorem ok65c02 : DevOK dev65c02 .cmos 8 :=
  ⟨cmos_facts.1, rfl, rfl, fun _ => rfl, fun _ => rfl, Or.inl rfl⟩
theorem ok65org16 : DevOK dev65org16 .nmos 16 :=
  ⟨nmos_facts.2.1, rfl, rfl, fun _ => rfl, fun _ => rfl, Or.inr rfl⟩

theorem row_facts (v : Variant) {n : Nat} (hn : n < 256) {mn : Mn} {mo : Mode}
    (hdec : decode v (n : Int) = some (mn, mo)) :
    opcodeOf v (mnText mn) mo = some n ∧ isMnemB (mnText mn) = true ∧ upperS (mnText mn) = mnText mn ∧
      ∀ p ∈ before mo, zpTwin mo = some p ∨ opcodeOf v (mnText mn) p = none := by
  have h : (List.range 256).all (rowFacts v) = true := by
    cases v
    · exact nmos_facts.2.2
    · exact cmos_facts.2
  have hf := List.all_eq_true.mp h n (List.mem_range.mpr hn)
  simpa only [rowFacts, hdec, Bool.and_eq_true, decide_eq_true_eq, List.all_eq_true, Bool.or_eq_true,
    beq_iff_eq, and_assoc] using hf

/-- The three devices with their variant and byte width. -/
inductive IsDevice : Dev → Py65.Spec.Variant → Nat → Prop
  | d6502 : IsDevice dev6502 .nmos 8
  | d65c02 : IsDevice dev65c02 .cmos 8
  | d65org16 : IsDevice dev65org16 .nmos 16

theorem IsDevice.ok {d : Dev} {v : Py65.Spec.Variant} {W : Nat} (h : IsDevice d v W) : DevOK d v W := by
  cases h
  · exact ok6502
  · exact ok65c02
  · exact ok65org16

/-- the documented opcode lookup on the device's own table (which the kernel searches faster than
it decodes the documented one) -/
theorem DevOK.opcodeOf_table {d : Dev} {v : Variant} {W : Nat} (h : DevOK d v W) {m : Str} (hm : m ≠ qqq)
    (mo : Mode) : opcodeOf v m mo = indexOf d.table (m, modeStr mo) := by
  rw [h.table, indexOf_specRows v m mo hm]

end Py65.Proofs.Asm
