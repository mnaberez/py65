/-
Specification-level pairing theorems (C06): whatever ran in between, as long as it left the
stack pointer and the pushed cells as the entry sequence made them, RTI / RTS undo IRQ / NMI /
BRK / JSR for EVERY stack pointer, including the wrap-around cases.
-/
import Py65.Proofs.CpuBase

namespace Py65.Proofs
open Py65.Spec

/-- Abstract well-formedness (what `abs` of a well-formed model state satisfies). -/
structure AWF (W : Nat) (a : AState) : Prop where
  sp : 0 ≤ a.sp ∧ a.sp < BM W
  pc : 0 ≤ a.pc ∧ a.pc < AM W
  p : 0 ≤ a.p ∧ a.p < BM W
  pn : normP a.p = a.p

/-- The three cells an interrupt entry pushes, and the two a JSR pushes. -/
def frame3 (W : Nat) (sp : Int) : List Int :=
  [BM W + sp, BM W + (sp - 1) % BM W, BM W + ((sp - 1) % BM W - 1) % BM W]
def frame2 (W : Nat) (sp : Int) : List Int := [BM W + sp, BM W + (sp - 1) % BM W]

/-- `s'` has the stack pointer of `s1` and agrees with it on the listed cells. -/
def SameFrame (cells : List Int) (s1 s' : AState) : Prop :=
  s'.sp = s1.sp ∧ ∀ k ∈ cells, s'.mem k = s1.mem k

/-- Three pushes from `sp` use three different cells, and three pulls walk back through them:
for every `sp`, the wrap-around ones included. -/
theorem frame_cells (W : Nat) (hW : W = 8 ∨ W = 16) (sp : Int) (h : 0 ≤ sp ∧ sp < BM W) :
    ((((sp - 1) % BM W - 1) % BM W - 1) % BM W + 1) % BM W = ((sp - 1) % BM W - 1) % BM W ∧
    (((sp - 1) % BM W - 1) % BM W + 1) % BM W = (sp - 1) % BM W ∧
    ((sp - 1) % BM W + 1) % BM W = sp ∧
    BM W + sp ≠ BM W + (sp - 1) % BM W ∧ BM W + sp ≠ BM W + ((sp - 1) % BM W - 1) % BM W ∧
    BM W + (sp - 1) % BM W ≠ BM W + ((sp - 1) % BM W - 1) % BM W := by
  rcases hW with rfl | rfl <;> (constfold at h ⊢; omega)

theorem normP_clearB (p : Int) : normP (setFlag p bitB false) = normP p := by
  simp only [normP, bitB, bitU, flagalg]

theorem rti_after_interrupt (W : Nat) (hW : W = 8 ∨ W = 16) (v : Variant) (vec : Int) (s s' : AState)
    (hs : AWF W s) (hf : SameFrame (frame3 W s.sp) (interrupt W vec s) s') :
    let r := exec W v .RTI .imp s'
    r.pc = s.pc ∧ r.sp = s.sp ∧ r.p = s.p := by
  obtain ⟨hsp, hmem⟩ := hf
  obtain ⟨u3, u2, u1, n1, n2, n3⟩ := frame_cells W hW s.sp hs.sp
  have m1 := hmem (BM W + s.sp) (by simp [frame3])
  have m2 := hmem (BM W + (s.sp - 1) % BM W) (by simp [frame3])
  have m3 := hmem (BM W + ((s.sp - 1) % BM W - 1) % BM W) (by simp [frame3])
  simp only [exec, pull, interrupt, push, write, n1, n2, n3, if_true, if_false] at hsp m1 m2 m3 ⊢
  rw [hsp, u3, u2, u1, m1, m2, m3, normP_clearB, hs.pn]
  exact ⟨Int.emod_add_ediv_mul _ _, rfl, rfl⟩

/-- JSR / RTS: execution resumes right after the three-byte JSR, with the caller's stack pointer. -/
theorem rts_after_jsr (W : Nat) (hW : W = 8 ∨ W = 16) (v : Variant) (s s' : AState)
    (hs : AWF W s) (hf : SameFrame (frame2 W s.sp) (exec W v .JSR .abs s) s') :
    let r := exec W v .RTS .imp s'
    r.pc = (s.pc + 2) % AM W ∧ r.sp = s.sp := by
  obtain ⟨hsp, hmem⟩ := hf
  obtain ⟨_, u2, u1, n1, _, _⟩ := frame_cells W hW s.sp hs.sp
  have m1 := hmem (BM W + s.sp) (by simp [frame2])
  have m2 := hmem (BM W + (s.sp - 1) % BM W) (by simp [frame2])
  simp only [exec, pull, push, write, n1, if_true, if_false] at hsp m1 m2 ⊢
  rw [hsp, u2, u1, m1, m2, Int.emod_add_ediv_mul]
  exact ⟨by rw [Int.emod_add_emod, Int.add_assoc]; rfl, rfl⟩

/-- BRK / RTI: execution resumes two bytes after the BRK opcode with the flags of the interrupted
code (on the 65C02 D is cleared only inside the handler: the pushed status still has it). -/
theorem rti_after_brk (W : Nat) (hW : W = 8 ∨ W = 16) (v : Variant) (s s' : AState)
    (hs : AWF W s) (hf : SameFrame (frame3 W s.sp) (exec W v .BRK .imp s) s') :
    let r := exec W v .RTI .imp s'
    r.pc = (s.pc + 1) % AM W ∧ r.sp = s.sp ∧ r.p = s.p := by
  obtain ⟨hsp, hmem⟩ := hf
  obtain ⟨u3, u2, u1, n1, n2, n3⟩ := frame_cells W hW s.sp hs.sp
  have m1 := hmem (BM W + s.sp) (by simp [frame3])
  have m2 := hmem (BM W + (s.sp - 1) % BM W) (by simp [frame3])
  have m3 := hmem (BM W + ((s.sp - 1) % BM W - 1) % BM W) (by simp [frame3])
  simp only [exec, pull, push, write, n1, n2, n3, if_true, if_false] at hsp m1 m2 m3 ⊢
  rw [hsp, u3, u2, u1, m1, m2, m3, hs.pn, Int.emod_add_ediv_mul]
  exact ⟨rfl, rfl, rfl⟩

end Py65.Proofs
