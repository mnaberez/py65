/-
String-level lemmas for C07 / C08: `normalize_and_split` on statement text.
-/
import Py65.Proofs.AsmLemmas

namespace Py65.Proofs.Asm
open Py65.Model Py65.Model.PyStr Py65.Model.AddrParser Py65.Model.Asm Py65.Proofs.Num

/-- One pass: blank runs inside the text become one blank, trailing blanks vanish.  `pend`: a blank
run is pending after a word.  (Leading blanks must have been dropped.) -/
def nrmAux : Bool → Str → Str
  | _, [] => []
  | pend, c :: cs =>
    if isReSpace c then nrmAux true cs
    else if pend then ' ' :: c :: nrmAux false cs else c :: nrmAux false cs

def Blank (w : Str) : Prop := ∀ c ∈ w, isReSpace c = true
def NoBlank (w : Str) : Prop := ∀ c ∈ w, isReSpace c = false

theorem blank_nil : Blank [] := fun _ hc => nomatch hc
theorem blank_sp : Blank [' '] := by intro c hc; simp at hc; subst hc; decide

theorem joinSp_cons (a : Str) (rest : List Str) :
    joinSp (a :: rest) = a ++ (if rest = [] then [] else ' ' :: joinSp rest) := by
  cases rest with
  | nil => simp [joinSp]
  | cons b r => simp [joinSp]

theorem nrmAux_true (cs : Str) :
    nrmAux true cs = if cs.dropWhile isReSpace = [] then [] else ' ' :: nrmAux false (cs.dropWhile isReSpace) := by
  induction cs with
  | nil => simp [nrmAux]
  | cons c cs ih =>
    by_cases hc : isReSpace c = true
    · simp only [nrmAux, hc, if_true, List.dropWhile_cons, ih]
    · have hc' : isReSpace c = false := by simpa using hc
      simp [nrmAux, hc']

theorem pySplitAux_nil_iff (cs : Str) : pySplitAux cs [] = [] ↔ cs.dropWhile isReSpace = [] := by
  induction cs with
  | nil => simp [pySplitAux]
  | cons c cs ih =>
    by_cases hc : isReSpace c = true
    · simp only [pySplitAux, hc, if_true, List.dropWhile_cons, ih]
    · have hc' : isReSpace c = false := by simpa using hc
      simp only [pySplitAux, hc', List.dropWhile_cons]
      simp only [Bool.false_eq_true, if_false, reduceCtorEq, iff_false]
      -- the word being read is non-empty, so the result is non-empty
      have : ∀ (s cur : Str), cur ≠ [] → pySplitAux s cur ≠ [] := by
        intro s
        induction s with
        | nil => intro cur h; simp [pySplitAux, h]
        | cons x s ihs =>
          intro cur h
          by_cases hx : isReSpace x = true
          · simp [pySplitAux, hx, h]
          · have hx' : isReSpace x = false := by simpa using hx
            simp only [pySplitAux, hx', Bool.false_eq_true, if_false]
            exact ihs _ (by simp)
      exact this cs [c] (by simp)

theorem joinSp_pySplitAux (s cur : Str) :
    joinSp (pySplitAux s cur) =
      if cur = [] then nrmAux false (s.dropWhile isReSpace) else cur.reverse ++ nrmAux false s := by
  induction s generalizing cur with
  | nil =>
    by_cases h : cur = []
    · simp [pySplitAux, h, joinSp, nrmAux]
    · simp [pySplitAux, h, joinSp, nrmAux]
  | cons c cs ih =>
    by_cases hc : isReSpace c = true
    · by_cases h : cur = []
      · simp only [pySplitAux, hc, if_true, h, ih, List.dropWhile_cons]
      · simp only [pySplitAux, hc, if_true, h, if_false, joinSp_cons, ih, nrmAux, nrmAux_true,
          pySplitAux_nil_iff]
    · have hc' : isReSpace c = false := by simpa using hc
      simp only [pySplitAux, hc', Bool.false_eq_true, if_false, ih, List.dropWhile_cons, nrmAux]
      by_cases h : cur = []
      · simp [h]
      · simp [h]

/-- `' '.join(s.split())` -/
theorem normWs_eq (s : Str) : normWs s = nrmAux false (s.dropWhile isReSpace) := by
  unfold normWs pySplit
  rw [joinSp_pySplitAux]
  simp

theorem nrmAux_nil (p : Bool) : nrmAux p [] = [] := by cases p <;> rfl

theorem nrmAux_blank (p : Bool) (b u : Str) (hb : Blank b) :
    nrmAux p (b ++ u) = nrmAux (p || !b.isEmpty) u := by
  induction b generalizing p with
  | nil => simp
  | cons c b ih =>
    have hc : isReSpace c = true := hb c (by simp)
    have := ih true (fun x hx => hb x (by simp [hx]))
    simp only [List.cons_append, nrmAux, hc, if_true, this]
    simp

theorem nrmAux_word (p : Bool) (x u : Str) (hx : NoBlank x) (hne : x ≠ []) :
    nrmAux p (x ++ u) = (if p then [' '] else []) ++ x ++ nrmAux false u := by
  induction x generalizing p with
  | nil => exact absurd rfl hne
  | cons c x ih =>
    have hc : isReSpace c = false := hx c (by simp)
    by_cases hxe : x = []
    · subst hxe
      cases p <;> simp [nrmAux, hc]
    · have := ih false (fun y hy => hx y (by simp [hy])) hxe
      cases p <;> simp [nrmAux, hc, this]

theorem dropWhile_blank_word (b x u : Str) (hb : Blank b) (hx : NoBlank x) (hne : x ≠ []) :
    (b ++ (x ++ u)).dropWhile isReSpace = x ++ u := by
  have := (span_stop (p := isReSpace) (l := b) (r := x ++ u) hb (by
    intro c hc
    cases x with
    | nil => exact absurd rfl hne
    | cons y x =>
      simp only [List.cons_append, List.head?_cons, Option.some.injEq] at hc
      exact hc ▸ hx y (by simp))).2
  exact this

theorem removeWs_nrmAux (p : Bool) (u : Str) : removeWs (nrmAux p u) = removeWs u := by
  induction u generalizing p with
  | nil => simp [nrmAux_nil]
  | cons c u ih =>
    by_cases hc : isReSpace c = true
    · simp [nrmAux, hc, removeWs]
      simpa [removeWs] using ih true
    · have hc' : isReSpace c = false := by simpa using hc
      have hsp : isReSpace ' ' = true := by decide
      cases p <;> simp [nrmAux, hc', removeWs, hsp] <;> simpa [removeWs] using ih false

theorem removeWs_append (a b : Str) : removeWs (a ++ b) = removeWs a ++ removeWs b := by
  simp [removeWs]

theorem removeWs_blank (b : Str) (hb : Blank b) : removeWs b = [] := by
  simp only [removeWs, List.filter_eq_nil_iff]
  intro c hc
  simp [hb c hc]

theorem removeWs_noBlank (x : Str) (hx : NoBlank x) : removeWs x = x := by
  simp only [removeWs, List.filter_eq_self]
  intro c hc
  simp [hx c hc]

theorem isAfterChar_blank {c : Char} (h : isReSpace c = true) : isAfterChar c = true := by
  simp [isAfterChar, h]

theorem removeWs_cons_blank {c : Char} (u : Str) (h : isReSpace c = true) : removeWs (c :: u) = removeWs u := by
  simp [removeWs, h]

theorem removeWs_cons_word {c : Char} (u : Str) (h : isReSpace c = false) :
    removeWs (c :: u) = c :: removeWs u := by
  simp [removeWs, h]

theorem all_after_removeWs (u : Str) : (removeWs u).all isAfterChar = u.all isAfterChar := by
  induction u with
  | nil => rfl
  | cons c u ih =>
    by_cases hc : isReSpace c = true
    · rw [removeWs_cons_blank u hc, ih, List.all_cons, isAfterChar_blank hc, Bool.true_and]
    · have hc' : isReSpace c = false := by simpa using hc
      rw [removeWs_cons_word u hc', List.all_cons, List.all_cons, ih]

/-- membership in the group-3 language does not depend on blanks -/
theorem inAfter_removeWs (u : Str) : inAfter (removeWs u) = inAfter u := by
  induction u with
  | nil => rfl
  | cons c u ih =>
    by_cases hc : isReSpace c = true
    · have ha := isAfterChar_blank hc
      have e1 : removeWs (c :: u) = removeWs u := by simp [removeWs, hc]
      have e2 : inAfter (c :: u) = inAfter u := by simp [inAfter, ha]
      rw [e1, e2, ih]
    · have hc' : isReSpace c = false := by simpa using hc
      have e1 : removeWs (c :: u) = c :: removeWs u := by simp [removeWs, hc']
      rw [e1]
      by_cases ha : isAfterChar c = true
      · have e2 : inAfter (c :: u) = inAfter u := by simp [inAfter, ha]
        have e3 : inAfter (c :: removeWs u) = inAfter (removeWs u) := by
          simp [inAfter, ha]
        rw [e2, e3, ih]
      · have ha' : isAfterChar c = false := by simpa using ha
        simp only [inAfter, List.dropWhile_cons, ha', Bool.false_eq_true, if_false, all_after_removeWs]

theorem inAfter_nrmAux (p : Bool) (u : Str) : inAfter (nrmAux p u) = inAfter u := by
  rw [← inAfter_removeWs, removeWs_nrmAux, inAfter_removeWs]

theorem nrmAux_head (u : Str) (c : Char) (h : (nrmAux false u).head? = some c) :
    c = ' ' ∨ u.head? = some c := by
  cases u with
  | nil => simp [nrmAux] at h
  | cons x u =>
    by_cases hx : isReSpace x = true
    · left
      simp only [nrmAux, hx, if_true] at h
      rw [nrmAux_true] at h
      split_ifs at h
      · simp at h
      · simpa using h.symm
    · have hx' : isReSpace x = false := by simpa using hx
      right
      simpa [nrmAux, hx'] using h

/-- three `[A-z]` characters and an optional digit `0 … 7`: what the Statement pattern takes as
the mnemonic -/
def IsMnem (M : Str) : Prop :=
  ∃ c1 c2 c3 dg, M = c1 :: c2 :: c3 :: dg ∧ isAz c1 = true ∧ isAz c2 = true ∧ isAz c3 = true ∧
    (dg = [] ∨ ∃ c4, dg = [c4] ∧ isOct c4 = true)

def Plain (c : Char) : Prop := isReSpace c = false ∧ c ≠ '(' ∧ c ≠ ')' ∧ c ≠ ','

/-- white space and the delimiters lie below the digits -/
theorem plain_of_ge {c : Char} (h : 48 ≤ c.toNat) : Plain c := by
  refine ⟨?_, ?_, ?_, ?_⟩
  · simp only [isReSpace, isCSpace, Bool.or_eq_false_iff, Bool.and_eq_false_iff, decide_eq_false_iff_not]
    omega
  · exact ne_of_toNat_ne (by show c.toNat ≠ 40; omega)
  · exact ne_of_toNat_ne (by show c.toNat ≠ 41; omega)
  · exact ne_of_toNat_ne (by show c.toNat ≠ 44; omega)

theorem isAz_plain {c : Char} (h : isAz c = true) : Plain c := by
  simp only [isAz, Bool.and_eq_true, decide_eq_true_eq] at h
  exact plain_of_ge (by omega)

theorem isOct_plain {c : Char} (h : isOct c = true) : Plain c := by
  simp only [isOct, Bool.and_eq_true, decide_eq_true_eq] at h
  exact plain_of_ge (by omega)

theorem IsMnem.plain {M : Str} (h : IsMnem M) : ∀ c ∈ M, Plain c := by
  obtain ⟨c1, c2, c3, dg, rfl, h1, h2, h3, hdg⟩ := h
  intro c hc
  simp only [List.mem_cons] at hc
  rcases hc with rfl | rfl | rfl | hc
  · exact isAz_plain h1
  · exact isAz_plain h2
  · exact isAz_plain h3
  · rcases hdg with rfl | ⟨c4, rfl, h4⟩
    · cases hc
    · rw [List.mem_singleton.mp hc]
      exact isOct_plain h4

theorem IsMnem.noBlank {M : Str} (h : IsMnem M) : NoBlank M ∧ ' ' ∉ M ∧ M ≠ [] := by
  refine ⟨fun c hc => (h.plain c hc).1, fun hm => absurd (h.plain _ hm).1 (by decide), ?_⟩
  obtain ⟨_, _, _, _, rfl, _⟩ := h
  simp

theorem IsMnem.length {M : Str} (h : IsMnem M) : M.length = 3 ∨ M.length = 4 := by
  obtain ⟨c1, c2, c3, dg, rfl, _, _, _, hdg⟩ := h
  rcases hdg with rfl | ⟨c4, rfl, _⟩
  · left; rfl
  · right; rfl

theorem target_not_space {c : Char} (h : isTargetChar c = true) : isReSpace c = false := by
  simp only [isTargetChar, Bool.not_eq_true', Bool.or_eq_false_iff] at h
  exact h.1.2

theorem blank_not_target {c : Char} (h : isReSpace c = true) : isTargetChar c = false := by
  simp [isTargetChar, h]

/-- The scanner after the mnemonic `mnm`, on the rest `tl` of the text: the blank run `\s+`, then
`\(?\s*` with a parenthesis that is there (falling back to none when that attempt fails), then groups
2 and 3. -/
def matchTail (mnm tl : Str) : Option (Str × Str × Str) :=
  if tl.takeWhile isReSpace = [] then none
  else match tl.dropWhile isReSpace with
    | p :: r3 =>
      if p = '(' then
        match tryTarget (mnm ++ tl.takeWhile isReSpace ++ '(' :: r3.takeWhile isReSpace)
            (r3.dropWhile isReSpace) with
        | some m => some m
        | none => tryTarget (mnm ++ tl.takeWhile isReSpace) (tl.dropWhile isReSpace)
      else tryTarget (mnm ++ tl.takeWhile isReSpace) (tl.dropWhile isReSpace)
    | [] => none

theorem matchStatement_mnem {M : Str} (hM : IsMnem M) (tl : Str)
    (hd : M.length = 3 → ∀ c, tl.head? = some c → isOct c = false) :
    matchStatement (M ++ tl) = matchTail M tl := by
  obtain ⟨c1, c2, c3, dg, rfl, h1, h2, h3, hdg⟩ := hM
  rcases hdg with rfl | ⟨c4, rfl, h4⟩
  · cases tl with
    | nil => simp [matchStatement, matchTail, h1, h2, h3]
    | cons c r =>
      have hc := hd rfl c rfl
      simp only [matchStatement, List.cons_append, List.nil_append, h1, h2, h3, Bool.and_self, if_true, hc,
        Bool.false_eq_true, if_false]
      rfl
  · simp only [matchStatement, List.cons_append, List.nil_append, h1, h2, h3, h4, Bool.and_self, if_true]
    rfl

theorem matchStatement_some {s : Str} {r : Str × Str × Str} (h : matchStatement s = some r) :
    ∃ M tl, IsMnem M ∧ s = M ++ tl ∧ matchTail M tl = some r := by
  rcases s with _ | ⟨c1, _ | ⟨c2, _ | ⟨c3, r0⟩⟩⟩
  iterate 3 simp [matchStatement] at h
  by_cases haz : (isAz c1 && isAz c2 && isAz c3) = true
  · have haz' := haz
    simp only [Bool.and_eq_true] at haz'
    have mk : ∀ dg, (dg = [] ∨ ∃ c4, dg = [c4] ∧ isOct c4 = true) → IsMnem (c1 :: c2 :: c3 :: dg) :=
      fun dg hdg => ⟨c1, c2, c3, dg, rfl, haz'.1.1, haz'.1.2, haz'.2, hdg⟩
    rcases r0 with _ | ⟨c4, r⟩
    · simp [matchStatement] at h
    · by_cases ho : isOct c4 = true
      · simp only [matchStatement, ho, if_true, haz] at h
        exact ⟨[c1, c2, c3, c4], r, mk _ (Or.inr ⟨c4, rfl, ho⟩), rfl, h⟩
      · simp only [matchStatement, ho, Bool.false_eq_true, if_false, haz, if_true] at h
        exact ⟨[c1, c2, c3], c4 :: r, mk _ (Or.inl rfl), rfl, h⟩
  · simp [matchStatement, haz] at h

theorem matchStatement_bare (M : Str) (hM : IsMnem M) : matchStatement M = none := by
  have := matchStatement_mnem hM [] (fun _ c hc => by cases hc)
  rwa [List.append_nil] at this

theorem takeWhile_sp_word (T u : Str) (hT : T ≠ []) (hTc : ∀ c ∈ T, isTargetChar c = true) :
    (T ++ u).takeWhile isReSpace = [] ∧ (T ++ u).dropWhile isReSpace = T ++ u := by
  cases T with
  | nil => exact absurd rfl hT
  | cons t T' =>
    have := target_not_space (hTc t (by simp))
    simp [this]

theorem tryTarget_ok (before T aft : Str) (hT : T ≠ []) (hTc : ∀ c ∈ T, isTargetChar c = true)
    (haft1 : ∀ c, aft.head? = some c → isTargetChar c = false) (haft2 : inAfter aft = true) :
    tryTarget before (T ++ aft) = some (before, T, aft) := by
  have hs := span_stop (p := isTargetChar) (l := T) (r := aft) hTc haft1
  unfold tryTarget
  simp only [hs.1, hs.2, haft2, and_true, ne_eq, hT, not_false_eq_true, if_true]

theorem matchStatement_norm (M L' T aft : Str) (hM : IsMnem M)
    (hL : L' = [] ∨ L' = ['('] ∨ L' = ['(', ' '])
    (hT : T ≠ []) (hTc : ∀ c ∈ T, isTargetChar c = true) (hTh : L' = [] → T.head? ≠ some '(')
    (haft1 : ∀ c, aft.head? = some c → isTargetChar c = false) (haft2 : inAfter aft = true) :
    matchStatement (M ++ ' ' :: (L' ++ (T ++ aft))) = some (M ++ ' ' :: L', T, aft) := by
  rw [matchStatement_mnem hM _ (fun _ c hc => by cases hc; decide)]
  have hsp : isReSpace ' ' = true := by decide
  have hlp : isReSpace '(' = false := by decide
  obtain ⟨tw, dw⟩ := takeWhile_sp_word T aft hT hTc
  have hok := fun before => tryTarget_ok before T aft hT hTc haft1 haft2
  rcases hL with rfl | rfl | rfl
  · obtain ⟨t0, T', rfl⟩ := List.exists_cons_of_ne_nil hT
    have hne : t0 ≠ '(' := fun e => hTh rfl (by rw [e]; rfl)
    have ht0 : isReSpace t0 = false := target_not_space (hTc t0 (by simp))
    simp only [matchTail, List.nil_append, List.cons_append, List.takeWhile_cons, List.dropWhile_cons, hsp, ht0,
      if_true, Bool.false_eq_true, if_false, reduceCtorEq, hne]
    exact hok _
  · simp only [matchTail, List.nil_append, List.cons_append, List.takeWhile_cons, List.dropWhile_cons, hsp, hlp,
      if_true, Bool.false_eq_true, if_false, reduceCtorEq, tw, dw, hok, List.append_assoc]
  · simp only [matchTail, List.nil_append, List.cons_append, List.takeWhile_cons, List.dropWhile_cons, hsp, hlp,
      if_true, Bool.false_eq_true, if_false, reduceCtorEq, tw, dw, hok, List.append_assoc]

theorem dropWhile_head {p : Char → Bool} (l : Str) (c : Char) (h : (l.dropWhile p).head? = some c) :
    p c = false := by
  induction l with
  | nil => simp at h
  | cons x l ih =>
    by_cases hx : p x = true
    · rw [List.dropWhile_cons_of_pos hx] at h; exact ih h
    · rw [List.dropWhile_cons_of_neg hx] at h
      simp only [List.head?_cons, Option.some.injEq] at h
      subst h
      simpa using hx

theorem blank_takeWhile (l : Str) : Blank (l.takeWhile isReSpace) := fun _ hc => mem_takeWhile_true hc

theorem tryTarget_inv {b0 rest b t a : Str} (h : tryTarget b0 rest = some (b, t, a)) :
    b = b0 ∧ rest = t ++ a ∧ t ≠ [] ∧ (∀ c ∈ t, isTargetChar c = true) ∧
      (∀ c, a.head? = some c → isTargetChar c = false) ∧ inAfter a = true := by
  unfold tryTarget at h
  simp only at h
  split_ifs at h with hc
  simp only [Option.some.injEq, Prod.mk.injEq] at h
  obtain ⟨rfl, rfl, rfl⟩ := h
  exact ⟨rfl, (List.takeWhile_append_dropWhile (p := isTargetChar) (l := rest)).symm, hc.1,
    fun c hc' => mem_takeWhile_true hc', fun c hc' => dropWhile_head rest c hc', hc.2⟩

structure Scanned (s b t a : Str) : Prop where
  split : ∃ M ws1 L, IsMnem M ∧ Blank ws1 ∧ ws1 ≠ [] ∧ (L = [] ∨ ∃ ws2, L = '(' :: ws2 ∧ Blank ws2) ∧
    b = M ++ (ws1 ++ L)
  whole : s = b ++ (t ++ a)
  tne : t ≠ []
  tchars : ∀ c ∈ t, isTargetChar c = true
  ahead : ∀ c, a.head? = some c → isTargetChar c = false
  alang : inAfter a = true

theorem matchTail_inv {M tl b t a : Str} (hM : IsMnem M) (h : matchTail M tl = some (b, t, a)) :
    Scanned (M ++ tl) b t a := by
  unfold matchTail at h
  split_ifs at h with hws
  have htl : tl.takeWhile isReSpace ++ tl.dropWhile isReSpace = tl := List.takeWhile_append_dropWhile
  have hbl := blank_takeWhile tl
  -- the attempt without a parenthesis
  have plain : tryTarget (M ++ tl.takeWhile isReSpace) (tl.dropWhile isReSpace) = some (b, t, a) →
      Scanned (M ++ tl) b t a := by
    intro h
    obtain ⟨rfl, e2, e3, e4, e5, e6⟩ := tryTarget_inv h
    refine ⟨⟨M, tl.takeWhile isReSpace, [], hM, hbl, hws, Or.inl rfl, by rw [List.append_nil]⟩, ?_, e3, e4, e5, e6⟩
    rw [← e2, List.append_assoc, htl]
  cases hr2 : tl.dropWhile isReSpace with
  | nil => rw [hr2] at h; cases h
  | cons p r3 =>
    rw [hr2] at h
    simp only at h
    split_ifs at h with hp
    · cases ht : tryTarget (M ++ tl.takeWhile isReSpace ++ '(' :: r3.takeWhile isReSpace)
          (r3.dropWhile isReSpace) with
      | some m =>
        rw [ht] at h
        cases h
        obtain ⟨rfl, e2, e3, e4, e5, e6⟩ := tryTarget_inv ht
        refine ⟨⟨M, tl.takeWhile isReSpace, '(' :: r3.takeWhile isReSpace, hM, hbl, hws,
          Or.inr ⟨_, rfl, blank_takeWhile r3⟩, by rw [List.append_assoc]⟩, ?_, e3, e4, e5, e6⟩
        rw [← e2, List.append_assoc, List.append_assoc, List.cons_append, List.takeWhile_append_dropWhile,
          ← hp, ← hr2, htl]
      | none =>
        rw [ht, ← hr2] at h
        exact plain h
    · rw [← hr2] at h
      exact plain h

theorem matchStatement_inv (s b t a : Str) (h : matchStatement s = some (b, t, a)) : Scanned s b t a := by
  obtain ⟨M, tl, hM, rfl, hm⟩ := matchStatement_some h
  exact matchTail_inv hM hm

/-- `s.split(" ", 1)`: the text before the first space, and the text after it if there is one -/
theorem splitSp1_spec (n : Str) :
    ' ' ∉ (splitSp1 n).1 ∧
      n = (splitSp1 n).1 ++ (match (splitSp1 n).2 with | none => [] | some r => ' ' :: r) := by
  induction n with
  | nil => simp [splitSp1]
  | cons c n ih =>
    by_cases hc : c = ' '
    · simp [splitSp1, hc]
    · rcases hsp : splitSp1 n with ⟨a, b⟩
      rw [hsp] at ih
      simp only [splitSp1, hc, if_false, hsp, List.mem_cons, not_or, List.cons_append]
      exact ⟨⟨fun e => hc e.symm, ih.1⟩, by rw [← ih.2]⟩

/-- `s.strip()` only removes white space at the two ends -/
theorem strip_decomp (x : Str) : ∃ b1 b2, Blank b1 ∧ Blank b2 ∧ x = b1 ++ (strip x ++ b2) := by
  refine ⟨x.takeWhile isReSpace, ((x.dropWhile isReSpace).reverse.takeWhile isReSpace).reverse,
    blank_takeWhile x, ?_, ?_⟩
  · intro c hc
    rw [List.mem_reverse] at hc
    exact mem_takeWhile_true hc
  · unfold strip
    rw [← List.reverse_append, List.takeWhile_append_dropWhile, List.reverse_reverse,
      List.takeWhile_append_dropWhile]

theorem splitSp1_word (M rest : Str) (hM : ' ' ∉ M) : splitSp1 (M ++ ' ' :: rest) = (M, some rest) := by
  induction M with
  | nil => simp [splitSp1]
  | cons c M ih =>
    have hc : c ≠ ' ' := fun e => hM (by simp [e])
    have := ih (fun hm => hM (by simp [hm]))
    simp [splitSp1, hc, this]

theorem splitSp1_none (M : Str) (hM : ' ' ∉ M) : splitSp1 M = (M, none) := by
  induction M with
  | nil => rfl
  | cons c M ih =>
    have hc : c ≠ ' ' := fun e => hM (by simp [e])
    have := ih (fun hm => hM (by simp [hm]))
    simp [splitSp1, hc, this]

theorem strip_noBlank (x : Str) (hx : NoBlank x) : strip x = x := by
  unfold strip
  have h1 : x.dropWhile isReSpace = x := by
    cases x with
    | nil => rfl
    | cons c x => simp [hx c (by simp)]
  rw [h1]
  have hr : NoBlank x.reverse := fun c hc => hx c (by simpa using hc)
  have h2 : x.reverse.dropWhile isReSpace = x.reverse := by
    cases hxr : x.reverse with
    | nil => rfl
    | cons c y => simp [hr c (by rw [hxr]; simp)]
  rw [h2, List.reverse_reverse]

theorem noBlank_removeWs (u : Str) : NoBlank (removeWs u) := by
  intro c hc
  simpa [removeWs] using (List.mem_filter.mp hc).2

def nresOf (r : TRes) (k : Str → NRes) : NRes :=
  match r with
  | .ok t => k t
  | .syntax => .syntax
  | .overflow => .overflow
  | .key => .key
  | .other w => .other w

/-- `normalize_and_split` on a structured statement: blanks `w0`, mnemonic `M`, blanks `w1` (at least
one), lead `L` (nothing or a parenthesis), blanks `b1`, the operand word `T`, the rest `AFT` (text of
the group-3 language that does not continue the word), blanks `wEnd`. -/
theorem normalize_structured (d : Dev) (P : Parser) (w0 M w1 L b1 T AFT wEnd : Str)
    (hw0 : Blank w0) (hw1 : Blank w1) (hw1ne : w1 ≠ []) (hb1 : Blank b1) (hwEnd : Blank wEnd)
    (hM : IsMnem M) (hL : L = [] ∨ L = ['('])
    (hT : T ≠ []) (hTc : ∀ c ∈ T, isTargetChar c = true) (hTh : L = [] → T.head? ≠ some '(')
    (hA1 : ∀ c, AFT.head? = some c → isTargetChar c = false) (hA2 : inAfter AFT = true)
    (hnb : ∀ t, retarget d P T = .ok t → NoBlank t) :
    normalizeAndSplit d P (w0 ++ (M ++ (w1 ++ (L ++ (b1 ++ (T ++ (AFT ++ wEnd))))))) =
      nresOf (retarget d P T) fun t => .ok (upperS M) (upperS (L ++ (t ++ removeWs AFT))) := by
  obtain ⟨hMnb, hMsp, hMne⟩ := hM.noBlank
  have hTnb : NoBlank T := fun c hc => target_not_space (hTc c hc)
  -- normalisation
  set R := AFT ++ wEnd with hR
  set aft := nrmAux false R with haft
  set L' : Str := L ++ (if L = [] then [] else if b1 = [] then [] else [' ']) with hL'
  have hnorm : normWs (w0 ++ (M ++ (w1 ++ (L ++ (b1 ++ (T ++ R)))))) = M ++ ' ' :: (L' ++ (T ++ aft)) := by
    rw [normWs_eq, dropWhile_blank_word w0 M _ hw0 hMnb hMne, nrmAux_word false M _ hMnb hMne,
      nrmAux_blank false w1 _ hw1]
    have e1 : (false || !w1.isEmpty) = true := by
      cases w1 with
      | nil => exact absurd rfl hw1ne
      | cons _ _ => rfl
    rw [e1]
    rcases hL with rfl | rfl
    · rw [List.nil_append, nrmAux_blank true b1 _ hb1, Bool.true_or, nrmAux_word true T _ hTnb hT]
      simp [hL', haft]
    · have hlp : NoBlank ['('] := by intro c hc; simp at hc; subst hc; decide
      rw [nrmAux_word true ['('] _ hlp (by simp), nrmAux_blank false b1 _ hb1, Bool.false_or]
      by_cases hbe : b1 = []
      · subst hbe
        simp only [List.isEmpty_nil, Bool.not_true]
        rw [nrmAux_word false T _ hTnb hT]
        simp [hL', haft]
      · have : (!b1.isEmpty) = true := by
          cases b1 with
          | nil => exact absurd rfl hbe
          | cons _ _ => rfl
        rw [this, nrmAux_word true T _ hTnb hT]
        simp [hL', hbe, haft]
  have hLcases : L' = [] ∨ L' = ['('] ∨ L' = ['(', ' '] := by
    rcases hL with rfl | rfl
    · left; simp [hL']
    · by_cases hbe : b1 = []
      · right; left; simp [hL', hbe]
      · right; right; simp [hL', hbe]
  have hLnil : L' = [] → L = [] := by
    intro h
    rcases hL with rfl | rfl
    · rfl
    · simp [hL'] at h
  -- the rest after normalisation
  have haft1 : ∀ c, aft.head? = some c → isTargetChar c = false := by
    intro c hc
    rcases nrmAux_head R c hc with rfl | h
    · decide
    · cases hAe : AFT with
      | nil =>
        rw [hR, hAe, List.nil_append] at h
        exact blank_not_target (hwEnd c (List.mem_of_mem_head? h))
      | cons a A' =>
        rw [hR, hAe] at h
        simp only [List.cons_append, List.head?_cons, Option.some.injEq] at h
        exact hA1 c (by rw [hAe, ← h]; rfl)
  have hrem : removeWs aft = removeWs AFT := by
    rw [haft, removeWs_nrmAux, hR, removeWs_append, removeWs_blank wEnd hwEnd, List.append_nil]
  have haft2 : inAfter aft = true := by
    rw [← inAfter_removeWs, hrem, inAfter_removeWs, hA2]
  have hmatch := matchStatement_norm M L' T aft hM hLcases hT hTc (fun h => hTh (hLnil h)) haft1 haft2
  unfold normalizeAndSplit
  simp only [hnorm, hmatch]
  cases hrt : retarget d P T
  case ok t =>
    have htnb := hnb t hrt
    have hsplit := splitSp1_word M L' hMsp
    have hL'rem : removeWs L' = L := by
      rcases hL with rfl | rfl
      · simp [hL', removeWs]
      · by_cases hbe : b1 = []
        · simp [hL', hbe, removeWs]; decide
        · simp [hL', hbe, removeWs]; decide
    have hop : removeWs (L' ++ t ++ aft) = L ++ (t ++ removeWs AFT) := by
      rw [removeWs_append, removeWs_append, hL'rem, removeWs_noBlank t htnb, hrem, List.append_assoc]
    have hopnb : NoBlank (L ++ (t ++ removeWs AFT)) := by
      rw [← hop]; exact noBlank_removeWs _
    simp only [hsplit, hop, nresOf, strip_noBlank M hMnb, strip_noBlank _ hopnb]
  all_goals simp [nresOf]

section text
variable {d : Dev} {v : Py65.Spec.Variant} {W : Nat}
open Py65.Spec.Asm (Shape)

/-- `assemble` on a structured statement (see `normalize_structured`): the back end on the mnemonic
and on lead, rewritten operand word and rest without their blanks, all in upper case. -/
theorem assembleL_structured (d : Dev) (P : Parser) (w0 M w1 L b1 T AFT wEnd : Str) (pc : Int)
    (hw0 : Blank w0) (hw1 : Blank w1) (hw1ne : w1 ≠ []) (hb1 : Blank b1) (hwEnd : Blank wEnd)
    (hM : IsMnem M) (hL : L = [] ∨ L = ['('])
    (hT : T ≠ []) (hTc : ∀ c ∈ T, isTargetChar c = true) (hTh : L = [] → T.head? ≠ some '(')
    (hA1 : ∀ c, AFT.head? = some c → isTargetChar c = false) (hA2 : inAfter AFT = true)
    (hnb : ∀ t, retarget d P T = .ok t → NoBlank t) :
    assembleL d P (w0 ++ (M ++ (w1 ++ (L ++ (b1 ++ (T ++ (AFT ++ wEnd))))))) pc =
      ofTRes (retarget d P T) fun t => backend d (upperS M) (upperS (L ++ (t ++ removeWs AFT))) pc := by
  rw [assembleL, normalize_structured d P w0 M w1 L b1 T AFT wEnd hw0 hw1 hw1ne hb1 hwEnd hM hL hT hTc hTh hA1
    hA2 hnb]
  cases retarget d P T <;> rfl

theorem assembleL_word (d : Dev) (P : Parser) (w0 M w1 T wEnd : Str) (pc : Int)
    (hw0 : Blank w0) (hw1 : Blank w1) (hw1ne : w1 ≠ []) (hwEnd : Blank wEnd) (hM : IsMnem M)
    (hT : T ≠ []) (hTc : ∀ c ∈ T, isTargetChar c = true) (hTh : T.head? ≠ some '(')
    (hnb : ∀ t, retarget d P T = .ok t → NoBlank t) :
    assembleL d P (w0 ++ (M ++ (w1 ++ (T ++ wEnd)))) pc =
      ofTRes (retarget d P T) fun t => backend d (upperS M) (upperS t) pc := by
  have := assembleL_structured d P w0 M w1 [] [] T [] wEnd pc hw0 hw1 hw1ne blank_nil hwEnd hM (Or.inl rfl) hT hTc
    (fun _ => hTh) (by simp) rfl hnb
  simpa only [List.nil_append, List.append_nil, removeWs, List.filter_nil] using this

theorem digitChar_target : ∀ k, k < 16 → isTargetChar (digitChar k) = true := by decide

theorem mem_fmtHexL (k n : Nat) : ∀ c ∈ fmtHexL k n, IsDigCh 16 c := by
  unfold fmtHexL rjustL
  intro c hc
  rcases List.mem_append.mp hc with hc | hc
  · exact ⟨0, by decide, (List.mem_replicate.mp hc).2⟩
  · exact toDigits_digCh (by decide) n c hc

theorem fmtHexL_target (k n : Nat) : ∀ c ∈ fmtHexL k n, isTargetChar c = true := by
  intro c hc
  obtain ⟨k', hk', rfl⟩ := mem_fmtHexL k n c hc
  exact digitChar_target k' hk'

theorem target_cons {c : Char} {s : Str} (hc : isTargetChar c = true) (hs : ∀ x ∈ s, isTargetChar x = true) :
    ∀ x ∈ c :: s, isTargetChar x = true := by
  intro x hx
  rcases List.mem_cons.mp hx with rfl | hx
  · exact hc
  · exact hs x hx

theorem immText_target (h : DevOK d v W) (x : Int) (t : Str) (ht : immText d x = .ok t) :
    ∀ c ∈ t, isTargetChar c = true := by
  unfold immText at ht
  split_ifs at ht
  rw [h.bfmt] at ht
  cases ht
  exact target_cons (by decide) (target_cons (by decide) (fmtHexL_target _ _))

theorem addrText_target (h : DevOK d v W) (x : Int) (t : Str) (ht : addrText d x = .ok t) :
    ∀ c ∈ t, isTargetChar c = true := by
  unfold addrText at ht
  split_ifs at ht
  rw [h.afmt] at ht
  cases ht
  exact target_cons (by decide) (fmtHexL_target _ _)

theorem noBlank_of_target {t : Str} (h : ∀ c ∈ t, isTargetChar c = true) : NoBlank t :=
  fun c hc => target_not_space (h c hc)

theorem ofRes_ok {r : Res} {k : Int → TRes} {t' : Str} (h : TRes.ofRes r k = .ok t') :
    ∃ n, r = .ok n ∧ k n = .ok t' := by
  cases r with
  | ok n => exact ⟨n, rfl, h⟩
  | key => cases h
  | overflow => cases h
  | other => cases h

theorem maxaddr_eq (P : Parser) (hPw : P.width = 2 * W) : P.maxaddr = 2 ^ (2 * W) - 1 := by
  unfold Parser.maxaddr; rw [hPw]

/-- an operand word that is a number, a label or label±offset: not `#…`, not the accumulator -/
structure AddrWord (T : Str) : Prop where
  ne : T ≠ []
  target : ∀ c ∈ T, isTargetChar c = true
  notImm : T.head? ≠ some '#'
  notParen : T.head? ≠ some '('
  notA : T ≠ ['a'] ∧ T ≠ ['A']

theorem retarget_addr (P : Parser) {T : Str} (hT : AddrWord T) :
    retarget d P T = TRes.ofRes (numberL P T) (addrText d) := by
  unfold retarget
  obtain ⟨t0, T', rfl⟩ := List.exists_cons_of_ne_nil hT.ne
  have h0 : t0 ≠ '#' := by intro e; exact hT.notImm (by simp [e])
  split
  · rename_i rest heq
    cases heq
    exact absurd rfl h0
  · simp [hT.notA.1, hT.notA.2]

/-- `asm_text` (address shapes): a statement written as blanks, mnemonic (any case), blanks, the
shape's tokens with arbitrary blanks between and around them, with an operand word `T` that
`AddressParser.number` values at `x`, assembles exactly as the back end does on the canonical text
of `(MNEMONIC, shape, x)`; a word without value is the parser's `KeyError` / `OverflowError`. -/
theorem asm_text_addr (h : DevOK d v W) (P : Parser) (hPw : P.width = 2 * W) (hwf : P.WF) (sh : Shape)
    (hsh : Shape.isAddr sh = true) (w0 M w1 b1 T AFT wEnd : Str) (pc : Int)
    (hw0 : Blank w0) (hw1 : Blank w1) (hw1ne : w1 ≠ []) (hb1 : Blank b1) (hwEnd : Blank wEnd)
    (hM : IsMnem M) (hT : AddrWord T)
    (hA1 : ∀ c, AFT.head? = some c → isTargetChar c = false) (hA2 : inAfter AFT = true)
    (hA3 : upperS (removeWs AFT) = afterOf sh) :
    assembleL d P (w0 ++ (M ++ (w1 ++ (leadOf sh ++ (b1 ++ (T ++ (AFT ++ wEnd))))))) pc =
      match numberL P T with
      | .ok x => assembleVal d (upperS M) sh x pc
      | .key => .key
      | .overflow => .overflow
      | .other => .other "number" := by
  have hL : leadOf sh = [] ∨ leadOf sh = ['('] := by cases sh <;> simp [leadOf]
  have hnb : ∀ t, retarget d P T = .ok t → NoBlank t := by
    intro t ht
    rw [retarget_addr P hT] at ht
    obtain ⟨x, _, hx⟩ := ofRes_ok ht
    exact noBlank_of_target (addrText_target h x t hx)
  rw [assembleL_structured d P w0 M w1 (leadOf sh) b1 T AFT wEnd pc hw0 hw1 hw1ne hb1 hwEnd hM hL hT.ne
    hT.target (fun _ => hT.notParen) hA1 hA2 hnb, retarget_addr P hT]
  cases hn : numberL P T with
  | key => rfl
  | overflow => rfl
  | other => rfl
  | ok x =>
    have hb := numberL_bounded hwf hn
    rw [maxaddr_eq P hPw] at hb
    simp only [TRes.ofRes, assembleVal_addr d _ hsh, h.aw]
    rw [if_neg (by omega)]
    cases addrText d x <;> simp only [ofTRes, upperS_append, hA3, afterOf_upper, List.append_assoc]

/-- `asm_text` (immediate, number or label): `#` followed by a word that is not a character
literal. -/
theorem asm_text_imm (h : DevOK d v W) (P : Parser) (w0 M w1 w wEnd : Str) (pc : Int)
    (hw0 : Blank w0) (hw1 : Blank w1) (hw1ne : w1 ≠ []) (hwEnd : Blank wEnd)
    (hM : IsMnem M) (hw : w ≠ []) (hwc : ∀ c ∈ w, isTargetChar c = true)
    (hq : w.head? ≠ some '\'' ∧ w.head? ≠ some '"') :
    assembleL d P (w0 ++ (M ++ (w1 ++ ('#' :: w ++ wEnd)))) pc =
      match numberL P w with
      | .ok x => assembleVal d (upperS M) .imm x pc
      | .key => .key
      | .overflow => .overflow
      | .other => .other "number" := by
  obtain ⟨q, w', rfl⟩ := List.exists_cons_of_ne_nil hw
  have hq1 : q ≠ '\'' := by intro e; exact hq.1 (by simp [e])
  have hq2 : q ≠ '"' := by intro e; exact hq.2 (by simp [e])
  have hret : retarget d P ('#' :: q :: w') = TRes.ofRes (numberL P (q :: w')) (immText d) := by
    simp [retarget, hq1, hq2]
  have hnb : ∀ t, retarget d P ('#' :: q :: w') = .ok t → NoBlank t := by
    intro t ht
    rw [hret] at ht
    obtain ⟨x, _, hx⟩ := ofRes_ok ht
    exact noBlank_of_target (immText_target h x t hx)
  rw [assembleL_word d P w0 M w1 ('#' :: q :: w') wEnd pc hw0 hw1 hw1ne hwEnd hM (by simp)
    (target_cons (by decide) hwc) (by simp) hnb, hret]
  cases numberL P (q :: w') <;> rfl

/-- `asm_text` (immediate, character literal `'c'`, `"c"`, or without the closing quote). -/
theorem asm_text_char (h : DevOK d v W) (P : Parser) (w0 M w1 wEnd : Str) (q ch : Char) (close : Str) (pc : Int)
    (hw0 : Blank w0) (hw1 : Blank w1) (hw1ne : w1 ≠ []) (hwEnd : Blank wEnd)
    (hM : IsMnem M) (hq : q = '\'' ∨ q = '"') (hch : isTargetChar ch = true)
    (hclose : close = [] ∨ close = [q]) :
    assembleL d P (w0 ++ (M ++ (w1 ++ ('#' :: q :: ch :: close ++ wEnd)))) pc =
      assembleVal d (upperS M) .imm (ch.toNat : Int) pc := by
  have hqt : isTargetChar q = true := by rcases hq with rfl | rfl <;> decide
  have hret : retarget d P ('#' :: q :: ch :: close) = immText d (ch.toNat : Int) := by
    rcases hclose with rfl | rfl <;> simp [retarget, hq]
  have hTc : ∀ c ∈ '#' :: q :: ch :: close, isTargetChar c = true := by
    refine target_cons (by decide) (target_cons hqt (target_cons hch ?_))
    rcases hclose with rfl | rfl
    · intro c hc; cases hc
    · exact target_cons hqt (fun c hc => by cases hc)
  have hnb : ∀ t, retarget d P ('#' :: q :: ch :: close) = .ok t → NoBlank t := by
    intro t ht
    rw [hret] at ht
    exact noBlank_of_target (immText_target h _ t ht)
  rw [assembleL_word d P w0 M w1 ('#' :: q :: ch :: close) wEnd pc hw0 hw1 hw1ne hwEnd hM (by simp) hTc
    (by simp) hnb, hret]
  rfl

/-- `asm_text` (accumulator): `ASL A`, `asl a`. -/
theorem asm_text_acc (P : Parser) (w0 M w1 wEnd : Str) (a : Char) (pc : Int)
    (hw0 : Blank w0) (hw1 : Blank w1) (hw1ne : w1 ≠ []) (hwEnd : Blank wEnd)
    (hM : IsMnem M) (ha : a = 'A' ∨ a = 'a') :
    assembleL d P (w0 ++ (M ++ (w1 ++ (a :: wEnd)))) pc = assembleVal d (upperS M) .acc 0 pc := by
  have hret : retarget d P [a] = .ok [a] := by
    rcases ha with rfl | rfl <;> simp [retarget]
  have hTc : ∀ c ∈ [a], isTargetChar c = true :=
    target_cons (by rcases ha with rfl | rfl <;> decide) (fun c hc => by cases hc)
  have hnb : ∀ t, retarget d P [a] = .ok t → NoBlank t := by
    intro t ht
    rw [hret] at ht
    cases ht
    exact noBlank_of_target hTc
  have := assembleL_word d P w0 M w1 [a] wEnd pc hw0 hw1 hw1ne hwEnd hM (by simp) hTc
    (by rcases ha with rfl | rfl <;> simp) hnb
  rw [List.singleton_append] at this
  rw [this, hret]
  have : upperS [a] = ['A'] := by rcases ha with rfl | rfl <;> decide
  simp only [ofTRes, assembleVal, this]

/-- `asm_text` (no operand): `NOP`, ` nop `. -/
theorem asm_text_none (P : Parser) (w0 M wEnd : Str) (pc : Int)
    (hw0 : Blank w0) (hwEnd : Blank wEnd) (hM : IsMnem M) :
    assembleL d P (w0 ++ (M ++ wEnd)) pc = assembleVal d (upperS M) .none 0 pc := by
  obtain ⟨hMnb, hMsp, hMne⟩ := hM.noBlank
  have hnorm : normWs (w0 ++ (M ++ wEnd)) = M := by
    rw [normWs_eq, dropWhile_blank_word w0 M _ hw0 hMnb hMne, nrmAux_word false M _ hMnb hMne]
    have := nrmAux_blank false wEnd [] hwEnd
    rw [List.append_nil] at this
    rw [this, nrmAux_nil]
    simp
  unfold assembleL normalizeAndSplit
  simp only [hnorm, matchStatement_bare M hM, splitSp1_none M hMsp, strip_noBlank M hMnb, assembleVal]

theorem upper_cases (c : Char) : upper c = c ∨ (97 ≤ c.toNat ∧ c.toNat ≤ 122 ∧ (upper c).toNat = c.toNat - 32) := by
  unfold upper
  split_ifs with h
  · right
    refine ⟨h.1, h.2, ?_⟩
    have key : ∀ k < 123, 97 ≤ k → (Char.ofNat (k - 32)).toNat = k - 32 := by decide
    exact key c.toNat (by omega) h.1
  · left; rfl

theorem upper_eq_const {c k : Char} (h : upper c = k) : c = k ∨ c = lower k := by
  rcases upper_cases c with e | ⟨h1, h2, h3⟩
  · left; rw [← e]; exact h
  · right
    rw [h] at h3
    rw [lower, if_pos (by omega), h3, Nat.sub_add_cancel (by omega), Char.ofNat_toNat]

theorem upper_eq_punct {c p : Char} (hp : p.toNat < 65) (h : upper c = p) : c = p := by
  rcases upper_eq_const h with e | e
  · exact e
  · rw [e, lower, if_neg (by omega)]

theorem upperS_eq_nil {r : Str} (h : upperS r = []) : r = [] := by
  cases r with
  | nil => rfl
  | cons _ _ => simp [upperS] at h

theorem upperS_eq_cons {r : Str} {c : Char} {b : Str} (h : upperS r = c :: b) :
    ∃ c' r', r = c' :: r' ∧ upper c' = c ∧ upperS r' = b := by
  cases r with
  | nil => simp [upperS] at h
  | cons c' r' =>
    simp only [upperS, List.map_cons, List.cons.injEq] at h
    exact ⟨c', r', rfl, h.1, h.2⟩

/-- every text that `.upper()` maps to `t`: each character as it is or in lower case -/
def spellings : Str → List Str
  | [] => [[]]
  | k :: t => (spellings t).flatMap fun r => [k :: r, lower k :: r]

theorem mem_spellings {cs t : Str} (h : upperS cs = t) : cs ∈ spellings t := by
  induction t generalizing cs with
  | nil => rw [upperS_eq_nil h]; exact List.mem_singleton.mpr rfl
  | cons k t ih =>
    obtain ⟨c, r, rfl, hc, hr⟩ := upperS_eq_cons h
    simp only [spellings, List.mem_flatMap, List.mem_cons, List.cons.injEq, List.mem_nil_iff, or_false]
    refine ⟨r, ih hr, ?_⟩
    rcases upper_eq_const hc with e | e
    · exact Or.inl ⟨e, rfl⟩
    · exact Or.inr ⟨e, rfl⟩

def okAfter (cs : Str) : Bool :=
  cs.all (fun c => !isReSpace c) && inAfter cs &&
    (match cs.head? with
     | some c => !isTargetChar c
     | none => true)

/-- whatever the case of the register letter: no blank, in the group-3 language, does not continue
the operand word (by evaluation of the spellings) -/
theorem afterOf_facts (sh : Shape) (cs : Str) (hcs : upperS cs = afterOf sh) :
    NoBlank cs ∧ inAfter cs = true ∧ (∀ c, cs.head? = some c → isTargetChar c = false) := by
  have hall : ∀ sh : Shape, (spellings (afterOf sh)).all okAfter = true := by
    intro sh; cases sh <;> decide
  have h := List.all_eq_true.mp (hall sh) cs (mem_spellings hcs)
  simp only [okAfter, Bool.and_eq_true, List.all_eq_true, Bool.not_eq_true'] at h
  obtain ⟨⟨h1, h2⟩, h3⟩ := h
  refine ⟨h1, h2, ?_⟩
  intro c hc
  rw [hc] at h3
  simpa using h3

/-- The characters after the operand word, each preceded by a run of blanks. -/
def decorate : List Str → Str → Str
  | g :: gs, c :: cs => g ++ c :: decorate gs cs
  | _, _ => []

theorem removeWs_decorate (gs : List Str) (cs : Str) (hg : ∀ g ∈ gs, Blank g) (hl : gs.length = cs.length) :
    removeWs (decorate gs cs) = removeWs cs := by
  induction gs generalizing cs with
  | nil =>
    cases cs with
    | nil => rfl
    | cons _ _ => cases hl
  | cons g gs ih =>
    cases cs with
    | nil => cases hl
    | cons c cs =>
      have hgb : Blank g := hg g (by simp)
      have := ih cs (fun x hx => hg x (by simp [hx])) (by simpa using hl)
      simp only [decorate, removeWs_append, removeWs_blank g hgb, List.nil_append]
      simp only [removeWs, List.filter_cons] at this ⊢
      rw [this]

theorem decorate_head (gs : List Str) (cs : Str) (hg : ∀ g ∈ gs, Blank g) (c : Char)
    (h : (decorate gs cs).head? = some c) : isReSpace c = true ∨ cs.head? = some c := by
  cases gs with
  | nil => simp [decorate] at h
  | cons g gs =>
    cases cs with
    | nil => simp [decorate] at h
    | cons x cs =>
      simp only [decorate] at h
      cases g with
      | nil => right; simpa using h
      | cons y g =>
        left
        simp only [List.cons_append, List.head?_cons, Option.some.injEq] at h
        rw [← h]; exact hg (y :: g) (by simp) y (by simp)

/-- The text after the operand word, decorated with arbitrary blanks, meets the three conditions
of `asm_text_addr`. -/
theorem suffix_ok (sh : Shape) (gs : List Str) (cs : Str) (hg : ∀ g ∈ gs, Blank g)
    (hl : gs.length = cs.length) (hcs : upperS cs = afterOf sh) :
    (∀ c, (decorate gs cs).head? = some c → isTargetChar c = false) ∧
    inAfter (decorate gs cs) = true ∧ upperS (removeWs (decorate gs cs)) = afterOf sh := by
  obtain ⟨hnb, hin, hhd⟩ := afterOf_facts sh cs hcs
  have hrem : removeWs (decorate gs cs) = cs := by
    rw [removeWs_decorate gs cs hg hl, removeWs_noBlank cs hnb]
  refine ⟨?_, ?_, ?_⟩
  · intro c hc
    rcases decorate_head gs cs hg c hc with h | h
    · exact blank_not_target h
    · exact hhd c h
  · rw [← inAfter_removeWs, hrem, hin]
  · rw [hrem, hcs]

theorem nrmAux_blank_is_space (p : Bool) (u : Str) : ∀ c ∈ nrmAux p u, isReSpace c = true → c = ' ' := by
  induction u generalizing p with
  | nil => intro c hc; simp [nrmAux_nil] at hc
  | cons x u ih =>
    intro c hc hs
    by_cases hx : isReSpace x = true
    · simp only [nrmAux, hx, if_true] at hc
      exact ih true c hc hs
    · have hx' : isReSpace x = false := by simpa using hx
      cases p
      · simp only [nrmAux, hx', Bool.false_eq_true, if_false, List.mem_cons] at hc
        rcases hc with rfl | hc
        · rw [hx'] at hs; cases hs
        · exact ih false c hc hs
      · simp only [nrmAux, hx', Bool.false_eq_true, if_false, if_true, List.mem_cons] at hc
        rcases hc with rfl | rfl | hc
        · rfl
        · rw [hx'] at hs; cases hs
        · exact ih false c hc hs

theorem splitSp1_some (b : Str) (h : ' ' ∈ b) : ∃ x y, splitSp1 b = (x, some y) := by
  rcases hsp : splitSp1 b with ⟨x, _ | y⟩
  · have hb := splitSp1_spec b
    rw [hsp, List.append_nil] at hb
    exact absurd (hb.2 ▸ h) hb.1
  · exact ⟨x, y, rfl⟩

theorem immText_ne_other (h : DevOK d v W) (x : Int) (w : String) : immText d x ≠ .other w := by
  unfold immText
  split_ifs
  · simp
  · rw [h.bfmt]; simp

theorem addrText_ne_other (h : DevOK d v W) (x : Int) (hx : 0 ≤ x) (w : String) : addrText d x ≠ .other w := by
  unfold addrText
  rw [if_neg (by omega), h.afmt]
  simp

theorem retarget_ne_other (h : DevOK d v W) (P : Parser) (hwf : P.WF) (T : Str) (w : String) :
    retarget d P T ≠ .other w := by
  have key : ∀ (s : Str) (k : Int → TRes), (∀ x, 0 ≤ x → k x ≠ .other w) → TRes.ofRes (numberL P s) k ≠ .other w := by
    intro s k hk
    cases hn : numberL P s with
    | ok x => simp only [TRes.ofRes]; exact hk x (numberL_bounded hwf hn).1
    | key => simp [TRes.ofRes]
    | overflow => simp [TRes.ofRes]
    | other => exact absurd hn (numberL_ne_other P s)
  unfold retarget
  split
  · rename_i rest
    split
    · simp
    · rename_i q rest2
      split_ifs
      · split
        · simp
        · split_ifs
          · exact immText_ne_other h _ w
          · simp
      · exact key _ _ (fun x _ => immText_ne_other h x w)
  · split_ifs
    · simp
    · exact key _ _ (fun x hx => addrText_ne_other h x hx w)

/-- `asm_total`: for EVERY statement text, label table (in-range values) and address the model ends
in bytes or in one of the three documented refusals -- never in any other exception. -/
theorem assembleL_ne_other (h : DevOK d v W) (P : Parser) (hwf : P.WF) (s : Str) (pc : Int) (w : String) :
    assembleL d P s pc ≠ .other w := by
  unfold assembleL
  cases hn : normalizeAndSplit d P s with
  | ok oc od => exact backend_ne_other h oc od pc w
  | «syntax» => simp
  | overflow => simp
  | key => simp
  | other w' =>
    exfalso
    unfold normalizeAndSplit at hn
    simp only at hn
    cases hm : matchStatement (normWs s) with
    | none =>
      rw [hm] at hn
      simp only at hn
      rcases hsp : splitSp1 (normWs s) with ⟨a, _ | b⟩ <;> rw [hsp] at hn <;> simp at hn
    | some m =>
      obtain ⟨b, t, a⟩ := m
      rw [hm] at hn
      simp only at hn
      cases hr : retarget d P t with
      | ok t' =>
        -- group 1 holds a blank of the normalised text, which is a space: `split(" ", 1)` unpacks
        rw [hr] at hn
        simp only at hn
        obtain ⟨⟨M, ws1, L, _, hws, hne, _, rfl⟩, hwhole, _⟩ := matchStatement_inv _ b t a hm
        obtain ⟨c, ws', rfl⟩ := List.exists_cons_of_ne_nil hne
        have hin : c ∈ normWs s := by rw [hwhole]; simp
        rw [normWs_eq] at hin
        have hc : c = ' ' := nrmAux_blank_is_space _ _ c hin (hws c (by simp))
        subst hc
        obtain ⟨x, y, hxy⟩ := splitSp1_some (M ++ (' ' :: ws' ++ L)) (by simp)
        rw [hxy] at hn
        simp at hn
      | «syntax» => rw [hr] at hn; simp at hn
      | overflow => rw [hr] at hn; simp at hn
      | key => rw [hr] at hn; simp at hn
      | other w'' => exact retarget_ne_other h P hwf t w'' hr

end text

end Py65.Proofs.Asm
