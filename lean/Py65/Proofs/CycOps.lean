/-
Aspect *cyc*, the operation helpers: none of them touches `cycles` or `excycles` (only the
addressing-mode helpers and the branch helper bump `excycles`), so a handler's extra cycles are those
of its mode helper.  One lemma per helper, proved by unfolding.
-/
import Py65.Proofs.Cycles
namespace Py65.Proofs
open Py65 Py65.Gen Py65.Spec Py

/-- what an operation helper must leave alone for the cycle aspect -/
def KeepsCyc (f : St → St) (x : St → Int × St) : Prop :=
  ∀ s, (f s).cycles = (x s).2.cycles ∧ (f s).excycles = (x s).2.excycles

set_option hygiene false in
macro "op_cyc" "[" ls:Lean.Parser.Tactic.simpLemma,* "]" : tactic =>
  `(tactic| (
    intro s
    dsimp +instances only [$ls,*, Mpu6502.FlagsNZ, Mpu6502.ByteAt, Mpu6502.WordAt, Mpu6502.WrapAt,
      Mpu6502.stPush, Mpu6502.stPushWord, Mpu6502.stPop, Mpu6502.stPopWord, Mpu6502.opSET, Mpu6502.opCLR,
      memGet, memSet]
    try simp +instances only [apply_ite Prod.snd, apply_ite Prod.fst, apply_ite St.cycles, apply_ite St.excycles,
      ite_self, and_self]))

theorem RegOnly.keeps {h : St → St} (hr : RegOnly h) : KeepsCyc h (fun s => (0, s)) := fun s => (hr s).2

section
variable (c : Cfg) (x : St → Int × St)

theorem opORA_cyc : KeepsCyc (Mpu6502.opORA c x) x := by op_cyc [Mpu6502.opORA]
theorem opAND_cyc : KeepsCyc (Mpu6502.opAND c x) x := by op_cyc [Mpu6502.opAND]
theorem opEOR_cyc : KeepsCyc (Mpu6502.opEOR c x) x := by op_cyc [Mpu6502.opEOR]
theorem opADC_cyc : KeepsCyc (Mpu6502.opADC c x) x := by op_cyc [Mpu6502.opADC]
theorem opSBC_cyc : KeepsCyc (Mpu6502.opSBC c x) x := by op_cyc [Mpu6502.opSBC]
theorem opLDA_cyc : KeepsCyc (Mpu6502.opLDA c x) x := by op_cyc [Mpu6502.opLDA]
theorem opLDX_cyc : KeepsCyc (Mpu6502.opLDX c x) x := by op_cyc [Mpu6502.opLDX]
theorem opLDY_cyc : KeepsCyc (Mpu6502.opLDY c x) x := by op_cyc [Mpu6502.opLDY]
theorem opBIT_cyc : KeepsCyc (Mpu6502.opBIT c x) x := by op_cyc [Mpu6502.opBIT]
theorem opSTA_cyc : KeepsCyc (Mpu6502.opSTA c x) x := by op_cyc [Mpu6502.opSTA]
theorem opSTX_cyc : KeepsCyc (Mpu6502.opSTX c x) x := by op_cyc [Mpu6502.opSTX]
theorem opSTY_cyc : KeepsCyc (Mpu6502.opSTY c x) x := by op_cyc [Mpu6502.opSTY]
theorem opSTZ_cyc : KeepsCyc (Mpu65c02.opSTZ c x) x := by op_cyc [Mpu65c02.opSTZ]
theorem opASL_mem_cyc : KeepsCyc (Mpu6502.opASL_mem c x) x := by op_cyc [Mpu6502.opASL_mem]
theorem opLSR_mem_cyc : KeepsCyc (Mpu6502.opLSR_mem c x) x := by op_cyc [Mpu6502.opLSR_mem]
theorem opROL_mem_cyc : KeepsCyc (Mpu6502.opROL_mem c x) x := by op_cyc [Mpu6502.opROL_mem]
theorem opROR_mem_cyc : KeepsCyc (Mpu6502.opROR_mem c x) x := by op_cyc [Mpu6502.opROR_mem]
theorem opINCR_mem_cyc : KeepsCyc (Mpu6502.opINCR_mem c x) x := by op_cyc [Mpu6502.opINCR_mem]
theorem opDECR_mem_cyc : KeepsCyc (Mpu6502.opDECR_mem c x) x := by op_cyc [Mpu6502.opDECR_mem]
theorem opTSB_cyc : KeepsCyc (Mpu65c02.opTSB c x) x := by op_cyc [Mpu65c02.opTSB]
theorem opTRB_cyc : KeepsCyc (Mpu65c02.opTRB c x) x := by op_cyc [Mpu65c02.opTRB]
theorem opCMPR_cyc (r : St → Int) : KeepsCyc (fun s => Mpu6502.opCMPR c x (r s) s) x := by op_cyc [Mpu6502.opCMPR]
theorem opRMB_cyc (m : Int) : KeepsCyc (Mpu65c02.opRMB c x m) x := by op_cyc [Mpu65c02.opRMB]
theorem opSMB_cyc (m : Int) : KeepsCyc (Mpu65c02.opSMB c x m) x := by op_cyc [Mpu65c02.opSMB]


theorem opASL_acc_cyc : KeepsCyc (Mpu6502.opASL_acc c) (fun s => (0, s)) := (opASL_acc_reg c).keeps
theorem opLSR_acc_cyc : KeepsCyc (Mpu6502.opLSR_acc c) (fun s => (0, s)) := (opLSR_acc_reg c).keeps
theorem opROL_acc_cyc : KeepsCyc (Mpu6502.opROL_acc c) (fun s => (0, s)) := (opROL_acc_reg c).keeps
theorem opROR_acc_cyc : KeepsCyc (Mpu6502.opROR_acc c) (fun s => (0, s)) := (opROR_acc_reg c).keeps
theorem opINCR_acc_cyc : KeepsCyc (Mpu6502.opINCR_acc c) (fun s => (0, s)) := (opINCR_acc_reg c).keeps
theorem opDECR_acc_cyc : KeepsCyc (Mpu6502.opDECR_acc c) (fun s => (0, s)) := (opDECR_acc_reg c).keeps

end

theorem opROL_acc_excycles (c : Cfg) (s : St) : (Mpu6502.opROL_acc c s).excycles = s.excycles :=
  (opROL_acc_cyc c s).2

theorem opROR_acc_excycles (c : Cfg) (s : St) : (Mpu6502.opROR_acc c s).excycles = s.excycles :=
  (opROR_acc_cyc c s).2

theorem opSTZ_excycles (c : Cfg) (x : St → Int × St) (s : St) :
    (Mpu65c02.opSTZ c x s).excycles = (x s).2.excycles :=
  (opSTZ_cyc c x s).2

theorem opRMB_excycles (c : Cfg) (x : St → Int × St) (m : Int) (s : St) :
    (Mpu65c02.opRMB c x m s).excycles = (x s).2.excycles :=
  (opRMB_cyc c x m s).2

theorem opSMB_excycles (c : Cfg) (x : St → Int × St) (m : Int) (s : St) :
    (Mpu65c02.opSMB c x m s).excycles = (x s).2.excycles :=
  (opSMB_cyc c x m s).2

end Py65.Proofs
