/-
The GENERATED disassembler model (`Py65/Gen/DisasmGen.lean`, translated by `harness/py2lean_dis.py`
from `py65/disassembler.py`, `py65/utils/conversions.py: itoa`, `AddressParser.label_for` on every
run) equals the hand-written models the property theorems C08 / C09 / C19 are proved about.  These
equalities are the proof obligations a change of the Python source breaks.
-/
import Py65.Gen.DisasmGen
import Py65.Gen.Devices
import Py65.Model.Disasm
import Py65.Proofs.AsmLemmas
import Py65.Proofs.FmtLemmas
import Mathlib.Tactic.SplitIfs

namespace Py65.Proofs.DisasmGenEq
open Py65.Model Py65.Model.PyStr Py65.Model.AddrParser Py65.Model.Asm Py65.Model.Disasm Py65.Model.GenRt
open Py65.Gen.DisasmGen

theorem loop_opt_eq (address : Int) (l : List (Str × Int)) :
    label_for.loop_1 address l = (l.find? (fun kv => kv.2 == address)).map (fun kv => some kv.1) := by
  induction l with
  | nil => rfl
  | cons kv rest ih => by_cases h : kv.2 = address <;> simp [label_for.loop_1, h, ih]

theorem loop_str_eq (address : Int) (l : List (Str × Int)) :
    label_for_str.loop_1 address l = (l.find? (fun kv => kv.2 == address)).map (fun kv => kv.1) := by
  induction l with
  | nil => rfl
  | cons kv rest ih => by_cases h : kv.2 = address <;> simp [label_for_str.loop_1, h, ih]

/-- `label_for(address, default)`: the first label bound to `address` (insertion order), else the
default. -/
theorem label_for_eq (P : Parser) (address : Int) (dflt : Option Str) :
    label_for P address dflt = (match labelFor P address with | some l => some l | none => dflt) := by
  unfold label_for labelFor
  rw [loop_opt_eq]
  cases P.labels.find? (fun kv => kv.2 == address) <;> rfl

/-- `label_for(address)` (default `None`) is the hand model's `labelFor`. -/
theorem label_for_none_eq (P : Parser) (address : Int) : label_for P address = labelFor P address := by
  rw [label_for_eq]; cases labelFor P address <;> rfl

theorem label_for_str_eq (P : Parser) (address : Int) (dflt : Str) :
    label_for_str P address dflt = (labelFor P address).getD dflt := by
  unfold label_for_str labelFor
  rw [loop_str_eq]
  cases P.labels.find? (fun kv => kv.2 == address) <;> rfl

theorem itoa_eq_bin (n : Nat) : itoa (n : Int) 2 = .ok (fmtBinL n) := by
  have hn : ¬ (n : Int) < 0 := by omega
  simp [itoa, _itoa_fmts, dictGet, strFormat1, intDigits, fmtBinL, hn]

theorem itoa_eq_dec (n : Nat) : itoa (n : Int) 10 = .ok (fmtDecL n) := by
  have hn : ¬ (n : Int) < 0 := by omega
  simp [itoa, _itoa_fmts, dictGet, strFormat1, intDigits, fmtDecL, hn]

theorem itoa_eq_default (n : Nat) : itoa (n : Int) = .ok (fmtDecL n) := itoa_eq_dec n

theorem itoa_eq_hex (n : Nat) : itoa (n : Int) 16 = .ok (fmtHexL 0 n) := by
  have hn : ¬ (n : Int) < 0 := by omega
  simp [itoa, _itoa_fmts, dictGet, strFormat1, intDigits, fmtHexL, rjustL, hn]

/-- every other base is refused with `ValueError("Unsupported base: <base>")` -/
theorem itoa_unsupported (num base : Int) (h2 : base ≠ 2) (h10 : base ≠ 10) (h16 : base ≠ 16) :
    itoa num base = .error (.ValueError ("Unsupported base: ".toList ++ pyReprInt base)) := by
  have e2 : ¬ (2 : Int) = base := fun h => h2 h.symm
  have e10 : ¬ (10 : Int) = base := fun h => h10 h.symm
  have e16 : ¬ (16 : Int) = base := fun h => h16 h.symm
  simp [itoa, _itoa_fmts, dictGet, e2, e10, e16]

/-- The `mpu` object of a hand-model device record over a memory spanning the address space. -/
def mpuOf (d : Dev) (mem : Int → Int) : Mpu :=
  { ADDR_WIDTH := d.addrWidth, BYTE_WIDTH := d.byteWidth, ADDR_FORMAT := d.addrFmt, BYTE_FORMAT := d.byteFmt,
    addrMask := d.addrMask, byteMask := d.byteMask, ByteAt := byteAt d mem, WordAt := wordAt d mem,
    disassemble := d.table, memory := fun a => mem (Py.land a d.addrMask) }

/-- `Disassembler(mpu, address_parser)` -/
def disOf (d : Dev) (P : Parser) (mem : Int → Int) : Disassembler :=
  Disassembler.__init__ (mpuOf d mem) (some P)

/-- `__init__` copies the widths, formats and masks of the mpu and keeps the mpu and the parser. -/
theorem init_eq (d : Dev) (P : Parser) (mem : Int → Int) :
    disOf d P mem =
      { _mpu := mpuOf d mem, _address_parser := P, addrWidth := d.addrWidth, byteWidth := d.byteWidth,
        addrFmt := d.addrFmt, byteFmt := d.byteFmt, addrMask := d.addrMask, byteMask := d.byteMask } := rfl

/-- without a parser argument: `AddressParser()` = 16 bits, radix 16, no labels -/
theorem init_default_parser (d : Dev) (mem : Int → Int) :
    Disassembler.__init__ (mpuOf d mem) = disOf d ⟨16, 16, []⟩ mem := rfl

/-- Result of the generated `instruction_at` as the hand model's result type (exception messages
are forgotten; a negative length cannot be a `DRes.ok`). -/
def ofExcept : PyM (Int × Str) → DRes
  | .ok (n, t) => if 0 ≤ n then .ok n.toNat t else .other "length"
  | .error .IndexError => .index
  | .error (.NotImplementedError _) => .notImplemented
  | .error (.ValueError _) => .other "ValueError"
  | .error (.Unmodelled w) => .other w

theorem ofExcept_ok {r : PyM (Int × Str)} {n : Nat} {t : Str} (h : ofExcept r = .ok n t) :
    r = .ok ((n : Int), t) := by
  rcases r with e | ⟨m, t'⟩
  · cases e <;> simp [ofExcept] at h
  · simp only [ofExcept] at h
    split_ifs at h with hm
    obtain ⟨rfl, rfl⟩ := DRes.ok.inj h
    rw [Int.toNat_of_nonneg hm]

/-- The device formats are of the modelled shape `"%0<w>x"` (true of the three devices: `DevOK`). -/
structure FmtOK (d : Dev) : Prop where
  addr : ∀ k, (pctFmt d.addrFmt k).isSome
  byte : ∀ k, (pctFmt d.byteFmt k).isSome

theorem listGet_nonneg {α : Type} (l : List α) (i : Int) (h : 0 ≤ i) :
    listGet l i = (match l[i.toNat]? with | some v => .ok v | none => .error .IndexError) := by
  have : ¬ i < 0 := by omega
  cases h' : l[i.toNat]? <;> simp [listGet, this, h']

theorem bind_ok {ε α β : Type} (a : α) (f : α → Except ε β) : Except.bind (.ok a) f = f a := rfl
theorem bind_error {ε α β : Type} (e : ε) (f : α → Except ε β) : Except.bind (.error e : Except ε α) f = .error e := rfl

/-- the operand text of the generated function (`label_for(address, '$' + fmt % address)`) is the hand
model's `labelOr` -/
theorem labelOr_eq {P : Parser} {fmt : Str} {a : Int} {t : Str} (h : pctFmt fmt a.toNat = some t) :
    labelOr P fmt a = some (label_for_str P a ('$' :: t)) := by
  rw [label_for_str_eq, labelOr, h]
  cases labelFor P a <;> rfl

theorem bind_ite {ε α β : Type} (c : Prop) [Decidable c] (a b : Except ε α) (k : α → Except ε β) :
    Except.bind (if c then a else b) k = if c then Except.bind a k else Except.bind b k := by
  split <;> rfl

theorem ofExcept_ite (c : Prop) [Decidable c] (a b : PyM (Int × Str)) :
    ofExcept (if c then a else b) = if c then ofExcept a else ofExcept b := by
  split <;> rfl

/-- `instruction_at`: the generated function is the hand model, for every device record whose
formats are of the modelled shape, every parser, memory and address (opcode cell not negative). -/
theorem instruction_at_eq (d : Dev) (hf : FmtOK d) (P : Parser) (mem : Int → Int) (pc : Int)
    (h0 : 0 ≤ byteAt d mem pc) :
    ofExcept ((disOf d P mem).instruction_at pc) = instructionAt d P mem pc := by
  obtain ⟨fa, hfa⟩ : ∃ fa : Nat → Str, ∀ k, pctFmt d.addrFmt k = some (fa k) :=
    ⟨fun k => (pctFmt d.addrFmt k).get (hf.addr k), fun k => (Option.some_get _).symm⟩
  obtain ⟨fb, hfb⟩ : ∃ fb : Nat → Str, ∀ k, pctFmt d.byteFmt k = some (fb k) :=
    ⟨fun k => (pctFmt d.byteFmt k).get (hf.byte k), fun k => (Option.some_get _).symm⟩
  rw [init_eq]
  unfold Disassembler.instruction_at instructionAt
  simp only [mpuOf]
  rw [listGet_nonneg _ _ h0]
  have hn : ¬ byteAt d mem pc < 0 := by omega
  by_cases hlen : byteAt d mem pc ≥ (d.table.length : Int)
  · have hnone : d.table[(byteAt d mem pc).toNat]? = none := by
      apply List.getElem?_eq_none; omega
    simp only [hnone, hlen, or_true, if_true, bind_error, ofExcept]
  · simp only [hn, hlen, or_self, if_false]
    cases hrow : d.table[(byteAt d mem pc).toNat]? with
    | none => simp only [bind_error, ofExcept]
    | some row =>
      obtain ⟨disasm, addressing⟩ := row
      show ofExcept (Except.bind (Except.ok (disasm, addressing)) _) = _
      rw [bind_ok]
      dsimp only
      -- Both sides test the same fifteen names in the same order; which names they are plays no role
      -- (left as literals, `simp` would decode each of them again at every test it passes).  With the
      -- rest of the generated function pushed into its chain, the chains agree branch by branch.
      generalize "acc".toList = k₁, "abs".toList = k₂, "abx".toList = k₃, "aby".toList = k₄, "imm".toList = k₅,
        "imp".toList = k₆, "ind".toList = k₇, "iny".toList = k₈, "inx".toList = k₉, "iax".toList = k₁₀,
        "rel".toList = k₁₁, "zpi".toList = k₁₂, "zpg".toList = k₁₃, "zpx".toList = k₁₄, "zpy".toList = k₁₅
      simp only [bind_ite, ofExcept_ite]
      simp [pctInt, bind_ok, bind_error, ofExcept, labelOr_eq (hfa _), labelOr_eq (hfb _), sp, relTarget, hfa, hfb]

/-! ### the `mpu` object is the generated device

`mpuOf d mem` reads memory through `Model.Disasm.byteAt / wordAt`.  For the three devices this is the
GENERATED `ByteAt` / `WordAt` (`Py65/Gen/Mpu6502.lean`; the 65C02 and the 65Org16 inherit them) run with
the live configuration on a memory object that spans the address space and reduces every address
with its mask (`ObservableMemory` under the monitor), and the widths, masks, formats and the
`disassemble` table are the live class / instance attributes of `Py65/Gen/Tables.lean`, `Devices.lean`. -/

/-- a machine state whose memory object is `mem` behind the address mask -/
def stOf (c : Py65.Cfg) (mem : Int → Int) : Py65.St :=
  { (default : Py65.St) with mem := fun a => mem (Py.land a c.addrMask) }

/-- the attributes and methods of a generated device that the disassembler uses -/
def mpuOfGen (c : Py65.Cfg) (byteFmt addrFmt : String) (tbl : List (String × String)) (mem : Int → Int) : Mpu :=
  { ADDR_WIDTH := c.ADDR_WIDTH, BYTE_WIDTH := c.BYTE_WIDTH, ADDR_FORMAT := addrFmt.toList,
    BYTE_FORMAT := byteFmt.toList, addrMask := c.addrMask, byteMask := c.byteMask,
    ByteAt := fun a => (Py65.Gen.Mpu6502.ByteAt c a (stOf c mem)).1,
    WordAt := fun a => (Py65.Gen.Mpu6502.WordAt c a (stOf c mem)).1,
    disassemble := tbl.map strPair, memory := (stOf c mem).mem }

theorem mpuOf_dev6502 (mem : Int → Int) :
    mpuOf dev6502 mem = mpuOfGen Py65.Gen.dev6502.cfg Py65.Gen.dev6502.BYTE_FORMAT Py65.Gen.dev6502.ADDR_FORMAT
      Py65.Gen.dev6502.disassembleL mem := rfl

theorem mpuOf_dev65c02 (mem : Int → Int) :
    mpuOf dev65c02 mem = mpuOfGen Py65.Gen.dev65c02.cfg Py65.Gen.dev65c02.BYTE_FORMAT Py65.Gen.dev65c02.ADDR_FORMAT
      Py65.Gen.dev65c02.disassembleL mem := rfl

theorem mpuOf_dev65org16 (mem : Int → Int) :
    mpuOf dev65org16 mem = mpuOfGen Py65.Gen.dev65org16.cfg Py65.Gen.dev65org16.BYTE_FORMAT
      Py65.Gen.dev65org16.ADDR_FORMAT Py65.Gen.dev65org16.disassembleL mem := rfl

/-- the three devices (`DevOK`, established on the generated tables) have modelled formats -/
theorem FmtOK.of_devOK {d : Dev} {v : Py65.Spec.Variant} {W : Nat} (h : Py65.Proofs.Asm.DevOK d v W) : FmtOK d :=
  ⟨fun k => by rw [h.afmt k]; rfl, fun k => by rw [h.bfmt k]; rfl⟩

theorem model_ok_nonneg {d : Dev} {P : Parser} {mem : Int → Int} {pc : Int} {n : Nat} {t : Str}
    (h : instructionAt d P mem pc = .ok n t) : 0 ≤ byteAt d mem pc := by
  by_contra hneg
  have hl : byteAt d mem pc < 0 := by omega
  unfold instructionAt at h
  simp only [hl, true_or, if_true] at h
  cases h

/-- whatever the hand model returns successfully, the generated `instruction_at` returns -/
theorem gen_of_model {d : Dev} (hf : FmtOK d) {P : Parser} {mem : Int → Int} {pc : Int} {n : Nat} {t : Str}
    (h : instructionAt d P mem pc = .ok n t) :
    (disOf d P mem).instruction_at pc = .ok ((n : Int), t) :=
  ofExcept_ok (by rw [instruction_at_eq d hf P mem pc (model_ok_nonneg h), h])

/-- the same for a decoded instruction: the generated tuple carries its documented length as an `int` -/
theorem gen_of_model_len {d : Dev} (hf : FmtOK d) {P : Parser} {mem : Int → Int} {pc : Int} {mo : Py65.Spec.Mode}
    {t : Str} (h : instructionAt d P mem pc = .ok mo.len.toNat t) :
    (disOf d P mem).instruction_at pc = .ok (mo.len, t) := by
  have hl : ((mo.len.toNat : Nat) : Int) = mo.len := by cases mo <;> rfl
  exact hl ▸ gen_of_model hf h

/-- conversely, whatever the generated `instruction_at` returns, the hand model returns -/
theorem model_of_gen {d : Dev} (hf : FmtOK d) {P : Parser} {mem : Int → Int} {pc : Int} {n : Nat} {t : Str}
    (h0 : 0 ≤ byteAt d mem pc) (h : (disOf d P mem).instruction_at pc = .ok ((n : Int), t)) :
    instructionAt d P mem pc = .ok n t := by
  rw [← instruction_at_eq d hf P mem pc h0, h]
  simp [ofExcept]

/-! ### `Monitor._format_disassembly`

The display model `Model.Fmt.formatDisassembly` (C19 `disasm_shows_bytes`) works on `Fmt.Dev` records
(digit counts instead of format strings) and a memory `Nat → Nat`. -/

/-- `"%0<k>x"` -/
def hexFmt (k : Nat) : Str := '%' :: '0' :: (toDigits 10 k ++ ['x'])

/-- The mpu object of a display-model device record: the attributes `_format_disassembly` reads
(`ADDR_WIDTH`, `BYTE_WIDTH`, the two formats, `memory`); the others are not read. -/
def mpuOfFmt (d : Fmt.Dev) (mem : Nat → Nat) : Mpu :=
  { ADDR_WIDTH := d.addrWidth, BYTE_WIDTH := d.byteWidth, ADDR_FORMAT := hexFmt d.addrDigits,
    BYTE_FORMAT := hexFmt d.byteDigits, memory := fun a => ((mem a.toNat : Nat) : Int),
    addrMask := 0, byteMask := 0, ByteAt := fun _ => 0, WordAt := fun _ => 0, disassemble := [] }

/-- the `Monitor` after `_reset`, as far as `_format_disassembly` reads it -/
def monOf (d : Fmt.Dev) (mem : Nat → Nat) : Monitor := Monitor._reset_view (mpuOfFmt d mem)

/-- the display-model records carry the widths and formats of the generated device tables -/
theorem fmt_devices_are_generated :
    (Fmt.dev6502.byteWidth = Py65.Gen.dev6502.BYTE_WIDTH ∧ Fmt.dev6502.addrWidth = Py65.Gen.dev6502.ADDR_WIDTH ∧
      hexFmt Fmt.dev6502.byteDigits = Py65.Gen.dev6502.BYTE_FORMAT.toList ∧
      hexFmt Fmt.dev6502.addrDigits = Py65.Gen.dev6502.ADDR_FORMAT.toList) ∧
    (Fmt.dev65c02.byteWidth = Py65.Gen.dev65c02.BYTE_WIDTH ∧ Fmt.dev65c02.addrWidth = Py65.Gen.dev65c02.ADDR_WIDTH ∧
      hexFmt Fmt.dev65c02.byteDigits = Py65.Gen.dev65c02.BYTE_FORMAT.toList ∧
      hexFmt Fmt.dev65c02.addrDigits = Py65.Gen.dev65c02.ADDR_FORMAT.toList) ∧
    (Fmt.dev65org16.byteWidth = Py65.Gen.dev65org16.BYTE_WIDTH ∧
      Fmt.dev65org16.addrWidth = Py65.Gen.dev65org16.ADDR_WIDTH ∧
      hexFmt Fmt.dev65org16.byteDigits = Py65.Gen.dev65org16.BYTE_FORMAT.toList ∧
      hexFmt Fmt.dev65org16.addrDigits = Py65.Gen.dev65org16.ADDR_FORMAT.toList) := by decide +kernel

theorem pctFmt_hexFmt {d : Fmt.Dev} (hd : d ∈ Fmt.devices) (n : Nat) :
    pctFmt (hexFmt d.byteDigits) n = some (fmtHexL d.byteDigits n) ∧
    pctFmt (hexFmt d.addrDigits) n = some (fmtHexL d.addrDigits n) := by
  simp only [Fmt.devices, List.mem_cons, List.mem_nil_iff, or_false] at hd
  rcases hd with rfl | rfl | rfl <;>
    simp [pctFmt, hexFmt, toDigits, digitChar, decVal, isDigit, Fmt.dev6502, Fmt.dev65c02, Fmt.dev65org16]

/-- the `while bytes_remaining:` loop is `Fmt.dumpLoop` -/
theorem dump_loop_eq {d : Fmt.Dev} (hd : d ∈ Fmt.devices) (mem : Nat → Nat) (n : Nat) :
    ∀ (cur : Nat) (dump : Str), ∃ c : Int,
      Monitor._format_disassembly.loop_1 (monOf d mem) ((2 : Int) ^ d.addrWidth - 1) n (cur : Int) dump =
        .ok (c, dump ++ Fmt.dumpLoop d mem cur n) := by
  induction n with
  | zero => intro cur dump; exact ⟨cur, by simp [Monitor._format_disassembly.loop_1, Fmt.dumpLoop]⟩
  | succ n ih =>
    intro cur dump
    have hpow : ((2 : Int) ^ d.addrWidth - 1) = ((2 ^ d.addrWidth - 1 : Nat) : Int) := by
      have : 1 ≤ 2 ^ d.addrWidth := Nat.one_le_two_pow
      push_cast [Nat.cast_sub this]; rfl
    have hcur : (if (cur : Int) > (2 : Int) ^ d.addrWidth - 1 then (0 : Int) else (cur : Int)) =
        ((if cur > 2 ^ d.addrWidth - 1 then 0 else cur : Nat) : Int) := by
      rw [hpow]
      by_cases h : cur > 2 ^ d.addrWidth - 1
      · have h' : (cur : Int) > ((2 ^ d.addrWidth - 1 : Nat) : Int) := by exact_mod_cast h
        rw [if_pos h', if_pos h]; rfl
      · have h' : ¬ (cur : Int) > ((2 ^ d.addrWidth - 1 : Nat) : Int) := by exact_mod_cast h
        rw [if_neg h', if_neg h]
    obtain ⟨c, hc⟩ := ih ((if cur > 2 ^ d.addrWidth - 1 then 0 else cur) + 1)
      (dump ++ (fmtHexL d.byteDigits (mem (if cur > 2 ^ d.addrWidth - 1 then 0 else cur)) ++ " ".toList))
    refine ⟨c, ?_⟩
    unfold Monitor._format_disassembly.loop_1
    simp only [hcur, monOf, Monitor._reset_view, mpuOfFmt, pctInt, Int.toNat_natCast, (pctFmt_hexFmt hd _).1, bind_ok]
    simp only [monOf, Monitor._reset_view, mpuOfFmt] at hc
    rw [show (((if cur > 2 ^ d.addrWidth - 1 then 0 else cur : Nat) : Int) + 1) =
        (((if cur > 2 ^ d.addrWidth - 1 then 0 else cur) + 1 : Nat) : Int) by push_cast; rfl]
    rw [hc]
    simp [Fmt.dumpLoop]

theorem fieldfmt_eq {d : Fmt.Dev} (hd : d ∈ Fmt.devices) (dump : Str) :
    pctStr ("%-".toList ++ pyStrInt (1 + fracToInt (fracAddInt 1 (fracOfDiv (d.byteWidth : Int) 4)) * 3) ++ "s".toList)
      dump = .ok (Fmt.ljustL dump (Fmt.fieldWidth d)) := by
  simp only [Fmt.devices, List.mem_cons, List.mem_nil_iff, or_false] at hd
  rcases hd with rfl | rfl | rfl <;>
    simp [pctStr, pyStrInt, intDigits, toDigits, digitChar, fracToInt, fracAddInt, fracOfDiv, decVal, isDigit,
      Fmt.ljustL, Fmt.fieldWidth, Fmt.dev6502, Fmt.dev65c02, Fmt.dev65org16]

/-- `_format_disassembly`: the generated function is the display model, for every device, memory,
address, length and instruction text. -/
theorem format_disassembly_eq {d : Fmt.Dev} (hd : d ∈ Fmt.devices) (mem : Nat → Nat) (address length : Nat)
    (disasm : Str) :
    Monitor._format_disassembly (monOf d mem) (address : Int) (length : Int) disasm =
      .ok (Fmt.formatDisassembly d mem address length disasm) := by
  obtain ⟨c, hc⟩ := dump_loop_eq hd mem length address []
  have hneg : ¬ (length : Int) < 0 := by omega
  unfold Monitor._format_disassembly
  simp only [hneg, if_false, Int.toNat_natCast]
  have e1 : (monOf d mem)._mpu.ADDR_WIDTH = d.addrWidth := rfl
  have e2 : (monOf d mem).byteWidth = d.byteWidth := rfl
  have e3 : (monOf d mem).addrFmt = hexFmt d.addrDigits := rfl
  rw [e1, e2, e3]
  have hl : ("".toList : Str) = [] := rfl
  rw [hl, hc]
  simp only [bind_ok, pctInt, Int.toNat_natCast, (pctFmt_hexFmt hd _).2, fieldfmt_eq hd, Fmt.formatDisassembly,
    List.nil_append]
  simp

end Py65.Proofs.DisasmGenEq
