/-
Tie by regeneration, C17: the GENERATED run control and breakpoint commands
(`Py65/Gen/MonRunGen.lean`, translated from `Monitor._run / do_step / do_goto / do_return /
do_add_breakpoint / do_delete_breakpoint / do_show_breakpoints` of py65/monitor.py by
`harness/py2lean_mon.py` on every run) equal the hand-written model `Py65.Model.MonRun`, for ALL
arguments, device states, breakpoint lists and fuels, and for ANY device step function `step`
(in particular the generated `Py65.Gen.devXXXX.step`).

The two `while True:` loops of `_run` have no bound in Python; the generated loop functions take a
`fuel` with exactly the accounting of the model's `runLoop` (one unit per `mpu.step()`), so the
equalities need no hypothesis: out of fuel on one side iff on the other.
These are the proof obligations a change of those methods breaks.
-/
import Py65.Gen.MonRunGen
import Py65.Proofs.MonRunLemmas
import Py65.Proofs.PyDataLemmas

namespace Py65.Proofs.MonRunGenEq
open Py65 Py65.Model Py65.Model.PyStr Py65.Model.AddrParser Py65.Model.MonMem Py65.Model.MonRun
open Py65.Model.MonGenRt Py65.Gen

/-- "Breakpoint %d reached." if the run reported a breakpoint. -/
def hitLines : Option Nat → List Str
  | some n => ["Breakpoint ".toList ++ pyFmtD (n : Int) ++ " reached.".toList]
  | none => []

/-- The model's `Option RunRes` as the end of `_run`: out of fuel, or normal completion with the
device where the run left it and the breakpoint report printed (the number of steps is not
something the Python code computes). -/
def runFlow (σ : RunSt) : Option RunRes → Flow RunSt Unit
  | none => .nofuel
  | some r => .ok () { mpu := r.st, breakpoints := σ.breakpoints, out := σ.out ++ hitLines r.hit }

def bpText : BpOut → Option Str
  | .added n a => some ("Breakpoint ".toList ++ pyFmtD (n : Int) ++ " added at $".toList ++ pyFmtUX 4 a)
  | .present a => some ("Breakpoint already present at $".toList ++ pyFmtUX 4 a)
  | .removed n => some ("Breakpoint ".toList ++ pyFmtD (n : Int) ++ " removed".toList)
  | .already n => some ("Breakpoint ".toList ++ pyFmtD (n : Int) ++ " already removed".toList)
  | .typeError => none
  | .indexError => none

def bpExc : BpOut → Exc
  | .indexError => .IndexError
  | _ => .TypeError

/-- The model's outcome of a breakpoint command as the end of the generated method: the new list
and one more output line, or the exception with the list as the model leaves it. -/
def bpFlow (σ : RunSt) (r : BpOut × List (Option Int)) : Flow RunSt Unit :=
  match bpText r.1 with
  | some t => .ok () { mpu := σ.mpu, breakpoints := r.2, out := σ.out ++ [t] }
  | none => .raise (bpExc r.1) { mpu := σ.mpu, breakpoints := r.2, out := σ.out }

def numberExc : Res → Exc
  | .key => .KeyError
  | .overflow => .OverflowError
  | _ => .Other

theorem parseNumber_eq (P : Parser) (s : Str) :
    parseNumber P s = match numberL P s with
      | .ok v => .ok v
      | r => .error (numberExc r) := by
  unfold parseNumber
  cases numberL P s <;> rfl

def helpGoto : List Str := ["goto <address>".toList, "Change the PC to address and continue execution.".toList]
def helpAddBp : List Str :=
  ["add_breakpoint <address|label>".toList, "Add a breakpoint on execution at the given address or label".toList]
def helpDelBp : List Str :=
  ["delete_breakpoint <number>".toList, "Delete the breakpoint on execution marked by the given number".toList]

theorem while1_eq (step : St → St) (dis : Str → St → List Str) (d : Dev) (P : Parser) (codes : List Int) :
    ∀ (fuel : Nat) (σ : RunSt),
      MonRunGen._run_while1 step dis d P codes fuel σ =
        match runLoop step (stopPlain codes) fuel σ.mpu with
        | none => .nofuel
        | some r => .ok () { mpu := r.2, breakpoints := σ.breakpoints, out := σ.out } := by
  intro fuel
  induction fuel with
  | zero => intro σ; rfl
  | succ f ih =>
    intro σ
    unfold MonRunGen._run_while1 runLoop
    by_cases hs : stopPlain codes (step σ.mpu) = true
    · have hs' : pyIn ((step σ.mpu).mem (step σ.mpu).pc) codes = true := hs
      simp only [hs, hs', if_true]
    · have hs' : ¬ (pyIn ((step σ.mpu).mem (step σ.mpu).pc) codes = true) := hs
      simp only [hs, hs', if_false, Bool.false_eq_true]
      rw [ih]
      cases runLoop step (stopPlain codes) f (step σ.mpu) <;> rfl

theorem pyIndex_of_contains (bps : List (Option Int)) (pc : Int) (h : bps.contains (some pc) = true) :
    pyIndex bps (some pc) = some ((indexOf bps pc : Nat) : Int) := by
  simp only [pyIndex, h, if_true, indexOf]

theorem while2_eq (step : St → St) (dis : Str → St → List Str) (d : Dev) (P : Parser) (codes : List Int)
    (bps : List (Option Int)) :
    ∀ (fuel : Nat) (σ : RunSt), σ.breakpoints = bps →
      MonRunGen._run_while2 step dis d P codes bps fuel σ =
        match runLoop step (stopBp codes bps) fuel σ.mpu with
        | none => .nofuel
        | some r => .ok () { mpu := r.2, breakpoints := σ.breakpoints,
                             out := σ.out ++ hitLines (hitReport codes bps r.2) } := by
  intro fuel
  induction fuel with
  | zero => intro σ _; rfl
  | succ f ih =>
    intro σ hσ
    unfold MonRunGen._run_while2 runLoop
    by_cases hs : atStopcode codes (step σ.mpu) = true
    · have hs' : pyIn ((step σ.mpu).mem (step σ.mpu).pc) codes = true := hs
      simp only [stopBp, hs, hs', if_true, Bool.true_or, hitReport, hitLines, List.append_nil]
    · have hs' : ¬ (pyIn ((step σ.mpu).mem (step σ.mpu).pc) codes = true) := hs
      have hsf : atStopcode codes (step σ.mpu) = false := by simpa using hs
      by_cases hb : atBreakpoint bps (step σ.mpu) = true
      · have hb' : pyIn (some (step σ.mpu).pc) bps = true := hb
        have hidx := pyIndex_of_contains bps (step σ.mpu).pc hb
        simp only [stopBp, hsf, hs', hb, hb', if_true, if_false, Bool.false_or, hσ, hidx, hitReport, hitLines,
          Bool.false_eq_true]
      · have hb' : ¬ (pyIn (some (step σ.mpu).pc) bps = true) := hb
        have hbf : atBreakpoint bps (step σ.mpu) = false := by simpa using hb
        simp only [stopBp, hsf, hs', hbf, hb', if_false, Bool.false_or, Bool.false_eq_true]
        rw [ih { mpu := step σ.mpu, breakpoints := σ.breakpoints, out := σ.out } hσ]
        cases h : runLoop step (stopBp codes bps) f (step σ.mpu) <;> simp

/-- `GenEq` for `_run`: for every step function, stop-code list, fuel and monitor state the
generated `_run` ends exactly as the model's `run` on the state's breakpoint list and device. -/
theorem run_eq (step : St → St) (dis : Str → St → List Str) (d : Dev) (P : Parser) (fuel : Nat)
    (codes : List Int) (σ : RunSt) :
    MonRunGen._run step dis d P fuel codes σ = runFlow σ (run step codes σ.breakpoints fuel σ.mpu) := by
  unfold MonRunGen._run run
  by_cases he : σ.breakpoints = []
  · have he' : σ.breakpoints.isEmpty = true := by rw [he]; rfl
    simp only [pySet, he, if_true, List.isEmpty_nil, while1_eq]
    cases runLoop step (stopPlain codes) fuel σ.mpu <;> simp [runFlow, hitLines, he]
  · have he' : ¬ (σ.breakpoints.isEmpty = true) := by
      intro h; exact he (List.isEmpty_iff.1 h)
    simp only [pySet, he, he', if_false, while2_eq step dis d P codes σ.breakpoints fuel σ rfl]
    cases runLoop step (stopBp codes σ.breakpoints) fuel σ.mpu <;> simp [runFlow]

/-- `GenEq` for `do_return`: `_run` with the stop codes RTS, RTI. -/
theorem do_return_eq (step : St → St) (dis : Str → St → List Str) (d : Dev) (P : Parser) (fuel : Nat)
    (args : Str) (σ : RunSt) :
    MonRunGen.do_return step dis d P fuel args σ = runFlow σ (ret step σ.breakpoints fuel σ.mpu) := by
  simp only [MonRunGen.do_return, ret, run_eq]
  cases run step [0x60, 0x40] σ.breakpoints fuel σ.mpu <;> rfl

/-- `GenEq` for `do_goto`: the usage text for an empty argument; the parser's exception (state
untouched) for an argument that is not a number; otherwise the model's `goto`: PC := the number,
then `_run` with the stop code BRK. -/
theorem do_goto_eq (step : St → St) (dis : Str → St → List Str) (d : Dev) (P : Parser) (fuel : Nat)
    (args : Str) (σ : RunSt) :
    MonRunGen.do_goto step dis d P fuel args σ =
      if args = [] then .ok () { mpu := σ.mpu, breakpoints := σ.breakpoints, out := σ.out ++ helpGoto }
      else match numberL P args with
        | .ok a => runFlow σ (goto step σ.breakpoints fuel a σ.mpu)
        | r => .raise (numberExc r) σ := by
  unfold MonRunGen.do_goto
  have hnil : "".toList = ([] : Str) := rfl
  rw [hnil]
  by_cases h : args = []
  · simp only [h, if_true, MonRunGen.help_goto, helpGoto, List.append_assoc, List.cons_append, List.nil_append]
  · simp only [h, if_false, parseNumber_eq]
    cases hn : numberL P args with
    | ok a =>
      simp only [run_eq, goto]
      cases run step [0x00] σ.breakpoints fuel { σ.mpu with pc := a } <;> rfl
    | key | overflow | other => rfl

/-- `GenEq` for `do_step`: exactly one `mpu.step()` (the model's `stepCmd`), then the lines
`do_disassemble('$' + addrFmt % pc)` prints for the NEW pc (an uninterpreted `dis`: it only reads). -/
theorem do_step_eq (step : St → St) (dis : Str → St → List Str) (d : Dev) (P : Parser) (args : Str) (σ : RunSt) :
    MonRunGen.do_step step dis d P args σ =
      .ok () { mpu := (stepCmd step σ.mpu).st, breakpoints := σ.breakpoints,
               out := σ.out ++ dis ("$".toList ++ fmtHexInt d.addrFmtW (stepCmd step σ.mpu).st.pc)
                        (stepCmd step σ.mpu).st } := rfl

/-- `GenEq` for `do_add_breakpoint`, for ALL argument strings: `shlex.split` raising (open quote) is
the `ValueError`; anything but exactly one token is the syntax error plus usage text; a token the
address parser refuses is that exception (list untouched); otherwise the model's `addBp`. -/
theorem do_add_breakpoint_eq (step : St → St) (dis : Str → St → List Str) (d : Dev) (P : Parser)
    (args : Str) (σ : RunSt) :
    MonRunGen.do_add_breakpoint step dis d P args σ =
      match MonCmd.shlexSplit args with
      | none => .raise .ValueError σ
      | some [tok] =>
        (match numberL P tok with
         | .ok a => bpFlow σ (addBp σ.breakpoints a)
         | r => .raise (numberExc r) σ)
      | some _ => .ok () { mpu := σ.mpu, breakpoints := σ.breakpoints,
                           out := σ.out ++ ("Syntax error: ".toList ++ args) :: helpAddBp } := by
  unfold MonRunGen.do_add_breakpoint
  cases hs : MonCmd.shlexSplit args with
  | none => rfl
  | some split =>
    match split with
    | [] | _ :: _ :: _ =>
      refine (if_pos (by simp only [List.length_cons, List.length_nil]; omega)).trans ?_
      simp only [MonRunGen.help_add_breakpoint, helpAddBp, List.append_assoc, List.cons_append, List.nil_append]
    | [tok] =>
      have hl : ((([tok] : List Str).length : Nat) : Int) = 1 := rfl
      simp only [ne_eq, hl, not_true_eq_false, if_false, pyGetItem_zero, parseNumber_eq]
      cases hn : numberL P tok with
      | ok a =>
        simp only [addBp, pyIn]
        by_cases hc : σ.breakpoints.contains (some a) = true
        · simp only [hc, if_true, bpFlow, bpText]
        · have hl2 : ((σ.breakpoints ++ [some a]).length : Int) - 1 = (σ.breakpoints.length : Int) := by
            simp
          simp only [hc, if_false, Bool.false_eq_true, bpFlow, bpText, hl2]
      | key | overflow | other => rfl

/-- `GenEq` for `do_delete_breakpoint`, for ALL argument strings: as above for the token count; a
token `int()` refuses prints "Illegal number" (the `except ValueError`); otherwise the model's
`delBp` -- including its two failing outcomes, the `TypeError` of the two-argument `_output` call
for a number `< 0` or `> len`, and the `IndexError` of `self._breakpoints[len]`. -/
theorem do_delete_breakpoint_eq (step : St → St) (dis : Str → St → List Str) (d : Dev) (P : Parser)
    (args : Str) (σ : RunSt) :
    MonRunGen.do_delete_breakpoint step dis d P args σ =
      match MonCmd.shlexSplit args with
      | none => .raise .ValueError σ
      | some [tok] =>
        (match pyIntL tok 10 with
         | none => .ok () { mpu := σ.mpu, breakpoints := σ.breakpoints,
                            out := σ.out ++ ["Illegal number: ".toList ++ args] }
         | some k => bpFlow σ (delBp σ.breakpoints k))
      | some _ => .ok () { mpu := σ.mpu, breakpoints := σ.breakpoints,
                           out := σ.out ++ ("Syntax error: ".toList ++ args) :: helpDelBp } := by
  unfold MonRunGen.do_delete_breakpoint
  cases hs : MonCmd.shlexSplit args with
  | none => rfl
  | some split =>
    match split with
    | [] | _ :: _ :: _ =>
      refine (if_pos (by simp only [List.length_cons, List.length_nil]; omega)).trans ?_
      simp only [MonRunGen.help_delete_breakpoint, helpDelBp, List.append_assoc, List.cons_append, List.nil_append]
    | [tok] =>
      have hl : ((([tok] : List Str).length : Nat) : Int) = 1 := rfl
      simp only [ne_eq, hl, not_true_eq_false, if_false, pyGetItem_zero]
      cases hn : pyIntL tok 10 with
      | none => rfl
      | some k =>
        simp only [delBp]
        by_cases hbad : k < 0 ∨ k > (σ.breakpoints.length : Int)
        · simp only [hbad, if_true, bpFlow, bpText, bpExc]
        · have h0 : 0 ≤ k := by omega
          have hk : ((k.toNat : Nat) : Int) = k := Int.toNat_of_nonneg h0
          simp only [hbad, if_false, pyGetItem_nonneg _ _ h0]
          cases hget : σ.breakpoints[k.toNat]? with
          | none => simp only [bpFlow, bpText, bpExc]
          | some slot =>
            have hlt : k.toNat < σ.breakpoints.length := (List.getElem?_eq_some_iff.1 hget).1
            have hset : pyListSet σ.breakpoints k (none : Option Int) = some (σ.breakpoints.set k.toNat none) := by
              have h1 : ¬ (k < 0) := by omega
              have h2 : 0 ≤ k ∧ k < (σ.breakpoints.length : Int) := ⟨h0, by omega⟩
              simp only [pyListSet, pyNormIndex, h1, if_false, h2, and_self, if_true]
            cases slot with
            | none => simp only [not_true_eq_false, if_false, bpFlow, bpText, hk]
            | some v =>
              simp only [reduceCtorEq, not_false_eq_true, if_true, hset, bpFlow, bpText, hk]

def showLine (P : Parser) (p : Nat × Int) : Str :=
  "Breakpoint ".toList ++ pyFmtD (p.1 : Int) ++ ": $".toList ++ pyFmtUX 4 p.2 ++
    (match labelFor P p.2 with
     | some l => " ".toList ++ l
     | none => [])

theorem show_for1_eq (step : St → St) (dis : Str → St → List Str) (d : Dev) (P : Parser) :
    ∀ (l : List (Option Int)) (n : Nat) (σ : RunSt),
      MonRunGen.do_show_breakpoints_for1 step dis d P (n : Int) l σ =
        .ok () { mpu := σ.mpu, breakpoints := σ.breakpoints,
                 out := σ.out ++ ((l.zipIdx n).filterMap fun p => p.1.map fun a => (p.2, a)).map (showLine P) } := by
  intro l
  induction l with
  | nil => intro n σ; simp [MonRunGen.do_show_breakpoints_for1]
  | cons x rest ih =>
    intro n σ
    have hn : (n : Int) + 1 = ((n + 1 : Nat) : Int) := by push_cast; rfl
    unfold MonRunGen.do_show_breakpoints_for1
    cases x with
    | none =>
      simp only [hn, ih, List.zipIdx_cons, List.filterMap_cons, Option.map_none]
    | some a =>
      have e : ∀ (x : Str) (r : List Str), (σ.out ++ [x]) ++ r = σ.out ++ x :: r := by intro x r; simp
      cases hl : labelFor P a with
      | none =>
        have hx : showLine P (n, a) =
            "Breakpoint ".toList ++ pyFmtD (n : Int) ++ ": $".toList ++ pyFmtUX 4 a := by
          unfold showLine
          rw [hl]
          exact List.append_nil _
        simp only [hn, ih, hl, List.zipIdx_cons, List.filterMap_cons, Option.map_some, List.map_cons, hx, e]
      | some lab =>
        have hx : showLine P (n, a) =
            "Breakpoint ".toList ++ pyFmtD (n : Int) ++ ": $".toList ++ pyFmtUX 4 a ++ (" ".toList ++ lab) := by
          unfold showLine
          rw [hl]
        simp only [hn, ih, hl, List.zipIdx_cons, List.filterMap_cons, Option.map_some, List.map_cons, hx, e]

/-- `GenEq` for `do_show_breakpoints`: one line per slot the model's `showBps` lists (the slots
that are not `None`, with their numbers), in order, each with the first label bound to the address. -/
theorem do_show_breakpoints_eq (step : St → St) (dis : Str → St → List Str) (d : Dev) (P : Parser)
    (args : Str) (σ : RunSt) :
    MonRunGen.do_show_breakpoints step dis d P args σ =
      .ok () { mpu := σ.mpu, breakpoints := σ.breakpoints,
               out := σ.out ++ (showBps σ.breakpoints).map (showLine P) } := by
  unfold MonRunGen.do_show_breakpoints
  have h := show_for1_eq step dis d P σ.breakpoints 0 σ
  change MonRunGen.do_show_breakpoints_for1 step dis d P 0 σ.breakpoints σ = _ at h
  rw [h]
  rfl

/-- The state `Monitor.onecmd` goes on with after a command: the command's final state, or -- the
catch-all of `onecmd` absorbs any exception -- the state at the moment of the raise. -/
def stateAfter (σ : RunSt) : Flow RunSt Unit → RunSt
  | .ok _ s => s
  | .raise _ s => s
  | .nofuel => σ

inductive BpLine where
  | add (args : Str)
  | del (args : Str)

def genBpHistory (step : St → St) (dis : Str → St → List Str) (d : Dev) (P : Parser) :
    RunSt → List BpLine → RunSt
  | σ, [] => σ
  | σ, .add args :: rest =>
    genBpHistory step dis d P (stateAfter σ (MonRunGen.do_add_breakpoint step dis d P args σ)) rest
  | σ, .del args :: rest =>
    genBpHistory step dis d P (stateAfter σ (MonRunGen.do_delete_breakpoint step dis d P args σ)) rest

def Spells (P : Parser) : BpLine → BpCmd → Prop
  | .add args, .add a => ∃ tok, MonCmd.shlexSplit args = some [tok] ∧ numberL P tok = .ok a
  | .del args, .del k => ∃ tok, MonCmd.shlexSplit args = some [tok] ∧ pyIntL tok 10 = some k
  | _, _ => False

theorem stateAfter_bpFlow (σ : RunSt) (r : BpOut × List (Option Int)) :
    stateAfter σ (bpFlow σ r) =
      { mpu := σ.mpu, breakpoints := r.2, out := σ.out ++ (bpText r.1).toList } := by
  unfold bpFlow
  cases bpText r.1 <;> simp [stateAfter]

/-- A history of lines that spell the commands `h` does, through the generated methods, what the
model's `runBps` does: same final list, one output line per command that did not raise, the
device untouched. -/
theorem genBpHistory_eq (step : St → St) (dis : Str → St → List Str) (d : Dev) (P : Parser) :
    ∀ (lines : List BpLine) (h : List BpCmd) (σ : RunSt), List.Forall₂ (Spells P) lines h →
      genBpHistory step dis d P σ lines =
        { mpu := σ.mpu, breakpoints := (runBps σ.breakpoints h).2,
          out := σ.out ++ (runBps σ.breakpoints h).1.flatMap fun o => (bpText o).toList } := by
  intro lines
  induction lines with
  | nil =>
    intro h σ hf
    cases hf
    simp [genBpHistory, runBps]
  | cons ln rest ih =>
    intro h σ hf
    cases hf with
    | cons hsp hrest =>
      rename_i c cs
      cases ln with
      | add args =>
        cases c with
        | del k => exact absurd hsp (by simp [Spells])
        | add a =>
          obtain ⟨tok, h1, h2⟩ := hsp
          have hcmd : MonRunGen.do_add_breakpoint step dis d P args σ = bpFlow σ (addBp σ.breakpoints a) := by
            rw [do_add_breakpoint_eq, h1]
            simp only [h2]
          simp only [genBpHistory, hcmd, stateAfter_bpFlow, ih cs _ hrest, runBps, applyBp, List.flatMap_cons,
            List.append_assoc]
      | del args =>
        cases c with
        | add a => exact absurd hsp (by simp [Spells])
        | del k =>
          obtain ⟨tok, h1, h2⟩ := hsp
          have hcmd : MonRunGen.do_delete_breakpoint step dis d P args σ = bpFlow σ (delBp σ.breakpoints k) := by
            rw [do_delete_breakpoint_eq, h1]
            simp only [h2]
          simp only [genBpHistory, hcmd, stateAfter_bpFlow, ih cs _ hrest, runBps, applyBp, List.flatMap_cons,
            List.append_assoc]

end Py65.Proofs.MonRunGenEq
