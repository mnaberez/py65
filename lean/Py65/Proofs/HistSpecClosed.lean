/-
Closure of the programming model `Spec.Cpu` (width-generic, W = 8 or 16): one `Spec.exec`,
`Spec.step`, `Spec.irq`, `Spec.nmi`, `Spec.reset` of a state whose registers and cells are inside the
byte and whose PC is inside the address space again gives such a state.  Proved once per Spec
operation; the generated devices inherit it through C01/C02/C03 (`abs (step s) = Spec.step (abs s)`).
-/
import Py65.Proofs.CpuBase

set_option linter.unusedSimpArgs false

namespace Py65.Proofs
open Py65 Py65.Spec Py

def InB (W : Nat) (v : Int) : Prop := 0 ≤ v ∧ v < BM W
def InA (W : Nat) (v : Int) : Prop := 0 ≤ v ∧ v < AM W

/-- Closed abstract state: everything the property C05 bounds. -/
structure AClosed (W : Nat) (s : AState) : Prop where
  a : InB W s.a
  x : InB W s.x
  y : InB W s.y
  sp : InB W s.sp
  p : InB W s.p
  pc : InA W s.pc
  mem : ∀ k, InB W (s.mem k)

theorem aclosed_iff {W : Nat} (a x y sp p pc : Int) (mem : Int → Int) (w : Bool) :
    AClosed W ⟨a, x, y, sp, p, pc, mem, w⟩ ↔
      InB W a ∧ InB W x ∧ InB W y ∧ InB W sp ∧ InB W p ∧ InA W pc ∧ ∀ k, InB W (mem k) :=
  ⟨fun h => ⟨h.a, h.x, h.y, h.sp, h.p, h.pc, h.mem⟩,
   fun ⟨h1, h2, h3, h4, h5, h6, h7⟩ => ⟨h1, h2, h3, h4, h5, h6, h7⟩⟩

section lemmas
variable {W : Nat}

theorem inB_zero (hW : W = 8 ∨ W = 16) : InB W 0 := by
  rcases hW with rfl | rfl <;> simp [InB, BM]

theorem inB_mod (hW : W = 8 ∨ W = 16) (v : Int) : InB W (v % BM W) := by
  rcases hW with rfl | rfl <;> (simp only [InB, BM]; omega)

theorem inA_mod (hW : W = 8 ∨ W = 16) (v : Int) : InA W (v % AM W) := by
  rcases hW with rfl | rfl <;> (simp only [InA, AM]; omega)

theorem inA_word (hW : W = 8 ∨ W = 16) {lo hi : Int} (h1 : InB W lo) (h2 : InB W hi) :
    InA W (lo + hi * BM W) := by
  rcases hW with rfl | rfl <;> (simp only [InA, InB, AM, BM] at *; omega)

theorem inB_of_inA_div (hW : W = 8 ∨ W = 16) {v : Int} (h : InA W v) : InB W (v / BM W) := by
  rcases hW with rfl | rfl <;> (simp only [InA, InB, AM, BM] at *; omega)

theorem inB_ite {c : Prop} [Decidable c] {a b : Int} (ha : InB W a) (hb : InB W b) :
    InB W (if c then a else b) := by split <;> assumption

theorem inA_ite {c : Prop} [Decidable c] {a b : Int} (ha : InA W a) (hb : InA W b) :
    InA W (if c then a else b) := by split <;> assumption

theorem inB_land_left {x : Int} (y : Int) (hx : InB W x) : InB W (land x y) := by
  refine ⟨?_, Int.lt_of_le_of_lt (land_le_left x y hx.1) hx.2⟩
  rw [land_comm]; exact land_nonneg y x hx.1

theorem inB_land_right (x : Int) {y : Int} (hy : InB W y) : InB W (land x y) :=
  ⟨land_nonneg x y hy.1, Int.lt_of_le_of_lt (land_le_right x y hy.1) hy.2⟩

theorem inB_lor {x y : Int} (hx : InB W x) (hy : InB W y) : InB W (lor x y) :=
  lor_range x y W hx.1 hx.2 hy.1 hy.2

theorem inB_lxor {x y : Int} (hx : InB W x) (hy : InB W y) : InB W (lxor x y) :=
  lxor_range x y W hx.1 hx.2 hy.1 hy.2

/-- Clearing one bit of an in-range value (RMB, any bit number). -/
theorem inB_clearBit {v : Int} (b : Nat) (hv : InB W v) : InB W (v - (v / 2 ^ b % 2) * 2 ^ b) := by
  obtain ⟨h0, h1⟩ := hv
  have hp : (0 : Int) < 2 ^ b := Int.pow_pos (by decide)
  have hq : 0 ≤ v / 2 ^ b := Int.ediv_nonneg h0 (Int.le_of_lt hp)
  have hm : v / 2 ^ b % 2 ≤ v / 2 ^ b := by omega
  have hm0 : 0 ≤ v / 2 ^ b % 2 := Int.emod_nonneg _ (by omega)
  have h2 : v / 2 ^ b * 2 ^ b ≤ v := Int.ediv_mul_le v (Int.ne_of_gt hp)
  have h3 : v / 2 ^ b % 2 * 2 ^ b ≤ v / 2 ^ b * 2 ^ b := Int.mul_le_mul_of_nonneg_right hm (Int.le_of_lt hp)
  have h4 : 0 ≤ v / 2 ^ b % 2 * 2 ^ b := Int.mul_nonneg hm0 (Int.le_of_lt hp)
  constructor <;> omega

/-- Setting a bit below the width of an in-range value (SMB; the flag bits). -/
theorem inB_setBit {v : Int} {b : Nat} (hb : b < W) (hv : InB W v) :
    InB W (v - (v / 2 ^ b % 2) * 2 ^ b + 2 ^ b) := by
  obtain ⟨h0, h1⟩ := hv
  have hp : (0 : Int) < 2 ^ b := Int.pow_pos (by decide)
  -- `v = q * 2^b + r` with `q < 2 * m`, where `2^W = (2 * m) * 2^b`
  have hW : (2 : Int) ^ W = 2 * 2 ^ (W - b - 1) * 2 ^ b := by
    rw [← Int.pow_succ', ← Int.pow_add]; congr 1; omega
  have hq0 : 0 ≤ v / 2 ^ b := Int.ediv_nonneg h0 (Int.le_of_lt hp)
  have hq : v / 2 ^ b < 2 * 2 ^ (W - b - 1) := Int.ediv_lt_of_lt_mul hp (hW ▸ h1)
  have hr := Int.emod_lt_of_pos v hp
  have hr0 := Int.emod_nonneg v (Int.ne_of_gt hp)
  have hv := Int.ediv_mul_add_emod v (2 ^ b)
  -- clearing the bit makes `q` even, so `q + 1` is still below `2 * m`
  have hq2 : v / 2 ^ b - v / 2 ^ b % 2 + 1 ≤ 2 * 2 ^ (W - b - 1) - 1 := by omega
  have hm := Int.mul_le_mul_of_nonneg_right hq2 (Int.le_of_lt hp)
  have hm0 : 0 ≤ (v / 2 ^ b - v / 2 ^ b % 2) * 2 ^ b := Int.mul_nonneg (by omega) (Int.le_of_lt hp)
  simp only [Int.add_mul, Int.sub_mul, Int.one_mul] at hm hm0
  simp only [InB, BM, hW]
  constructor <;> omega

theorem inB_setFlag {p : Int} {k : Nat} (hk : k < W) (b : Bool) (hp : InB W p) :
    InB W (setFlag p k b) := by
  cases b
  · simpa [setFlag] using inB_clearBit k hp
  · exact inB_setBit hk hp

theorem bitC_lt (hW : W = 8 ∨ W = 16) : bitC < W := by rcases hW with rfl | rfl <;> decide
theorem bitZ_lt (hW : W = 8 ∨ W = 16) : bitZ < W := by rcases hW with rfl | rfl <;> decide
theorem bitI_lt (hW : W = 8 ∨ W = 16) : bitI < W := by rcases hW with rfl | rfl <;> decide
theorem bitD_lt (hW : W = 8 ∨ W = 16) : bitD < W := by rcases hW with rfl | rfl <;> decide
theorem bitB_lt (hW : W = 8 ∨ W = 16) : bitB < W := by rcases hW with rfl | rfl <;> decide
theorem bitU_lt (hW : W = 8 ∨ W = 16) : bitU < W := by rcases hW with rfl | rfl <;> decide
theorem bitV_lt (hW : W = 8 ∨ W = 16) : bitV W < W := by rcases hW with rfl | rfl <;> decide
theorem bitN_lt (hW : W = 8 ∨ W = 16) : bitN W < W := by rcases hW with rfl | rfl <;> decide

theorem inB_normP (hW : W = 8 ∨ W = 16) {p : Int} (hp : InB W p) : InB W (normP p) :=
  inB_setFlag (bitU_lt hW) _ (inB_setFlag (bitB_lt hW) _ hp)

theorem inB_setNZ (hW : W = 8 ∨ W = 16) {p : Int} (v : Int) (hp : InB W p) : InB W (setNZ W p v) :=
  inB_setFlag (bitZ_lt hW) _ (inB_setFlag (bitN_lt hW) _ hp)

theorem inB_setCV (hW : W = 8 ∨ W = 16) {p : Int} (c v : Bool) (hp : InB W p) : InB W (setCV W p c v) :=
  inB_setFlag (bitV_lt hW) _ (inB_setFlag (bitC_lt hW) _ hp)

theorem inB_cmpFlags (hW : W = 8 ∨ W = 16) {p : Int} (r m : Int) (hp : InB W p) :
    InB W (cmpFlags W p r m) :=
  inB_setNZ hW _ (inB_setFlag (bitC_lt hW) _ hp)

theorem inB_half {v : Int} (hv : InB W v) : InB W (v / 2) := by
  simp only [InB] at *; omega

theorem inB_ror (hW : W = 8 ∨ W = 16) {v : Int} (cin : Bool) (hv : InB W v) :
    InB W (v / 2 + (if cin = true then 2 ^ (W - 1) else 0)) := by
  rcases hW with rfl | rfl <;> (simp only [InB, BM] at *; cases cin <;> simp <;> omega)

theorem inB_rmw (hW : W = 8 ∨ W = 16) (mn : Mn) {v : Int} (cin : Bool) (hv : InB W v) :
    InB W (rmw W mn v cin).1 := by
  cases mn <;> first
    | exact hv
    | exact inB_mod hW _
    | exact inB_half hv
    | exact inB_ror hW cin hv

theorem inB_sub_land {m a : Int} (hm : InB W m) (ha : InB W a) : InB W (m - land m a) := by
  have h1 := land_nonneg m a ha.1
  have h2 := land_le_left m a hm.1
  simp only [InB] at *; omega

end lemmas

/-- `Spec.exec` is closed (SMB: the bit number is one of 0..7, as in every row of the tables). -/
theorem exec_closed {W : Nat} (hW : W = 8 ∨ W = 16) (v : Variant) (mn : Mn) (mo : Mode) (s : AState)
    (hs : AClosed W s) (hsmb : ∀ b, mn = .SMB b → b < 8) : AClosed W (exec W v mn mo s) := by
  have ha := hs.a; have hx := hs.x; have hy := hs.y; have hsp := hs.sp; have hp := hs.p
  have hpc := hs.pc; have hm := hs.mem
  have hz := inB_zero hW
  have hsb : ∀ b, mn = .SMB b → ∀ u, InB W u → InB W (u - (u / 2 ^ b % 2) * 2 ^ b + 2 ^ b) :=
    fun b h u hu => inB_setBit (by have := hsmb b h; rcases hW with rfl | rfl <;> omega) hu
  -- `exec` is unfolded once per mnemonic; every field of the result is then either a field of `s` or
  -- built from in-range pieces by operations whose closure is proved above.
  cases mn <;>
    dsimp only [exec, push, pull, write, word, addBin, subBin, rmw, nextPc, branchTarget, opnd16, opnd1, opnd2] <;>
    (try split) <;> first
    | exact hs
    | simp (maxDischargeDepth := 8) only [aclosed_iff, ha, hx, hy, hsp, hp, hpc, hm, hz, hsb, inB_mod hW, inA_mod hW,
        inB_ite, inA_ite, inA_word hW, inB_of_inA_div hW, inB_land_right, inB_lor, inB_lxor, inB_setFlag, inB_normP hW,
        inB_setNZ hW, inB_setCV hW, inB_cmpFlags hW, inB_clearBit, inB_half, inB_ror hW, inB_sub_land,
        bitN_lt hW, bitV_lt hW, bitC_lt hW, bitZ_lt hW, bitI_lt hW, bitD_lt hW, and_self, implies_true]

theorem interrupt_closed {W : Nat} (hW : W = 8 ∨ W = 16) (vec : Int) (s : AState) (hs : AClosed W s) :
    AClosed W (interrupt W vec s) := by
  have ha := hs.a; have hx := hs.x; have hy := hs.y; have hsp := hs.sp; have hp := hs.p
  have hpc := hs.pc; have hm := hs.mem
  dsimp only [interrupt, push, write, word]
  simp (maxDischargeDepth := 8) only [aclosed_iff, ha, hx, hy, hsp, hp, hpc, hm, inB_mod hW, inA_mod hW, inB_ite,
    inA_word hW, inB_of_inA_div hW, inB_setFlag, bitI_lt hW, bitB_lt hW, and_self, implies_true]

theorem irq_closed {W : Nat} (hW : W = 8 ∨ W = 16) (s : AState) (hs : AClosed W s) :
    AClosed W (Spec.irq W s) := by
  unfold Spec.irq
  split
  · exact ⟨hs.a, hs.x, hs.y, hs.sp, hs.p, hs.pc, hs.mem⟩
  · exact interrupt_closed hW _ s hs

theorem nmi_closed {W : Nat} (hW : W = 8 ∨ W = 16) (s : AState) (hs : AClosed W s) :
    AClosed W (Spec.nmi W s) := interrupt_closed hW _ s hs

theorem reset_closed {W : Nat} (hW : W = 8 ∨ W = 16) (a : Option Int) (s : AState) (hs : AClosed W s)
    (ha : ∀ v, a = some v → InA W v) : AClosed W (Spec.reset W a s) := by
  have hm := hs.mem
  have hz := inB_zero hW
  refine ⟨hz, hz, hz, ?_, inB_normP hW hz, ?_, hm⟩
  · rcases hW with rfl | rfl <;> simp [Spec.reset, InB, BM]
  · cases a with
    | none => exact inA_word hW (hm _) (hm _)
    | some v => exact ha v rfl

/-- An undeclared opcode: only PC moves. -/
theorem skip_closed {W : Nat} (hW : W = 8 ∨ W = 16) (s : AState) (hs : AClosed W s) :
    AClosed W { s with pc := (s.pc + 2) % AM W } :=
  ⟨hs.a, hs.x, hs.y, hs.sp, hs.p, inA_mod hW _, hs.mem⟩

end Py65.Proofs
