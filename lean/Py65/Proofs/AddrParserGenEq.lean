/-
The model GENERATED from `py65/utils/addressing.py` (`Py65.Gen.AddrParserGen`, written by
`harness/py2lean_addr.py` on every run) equals the hand model `Py65.Model.AddrParser`, for ALL
arguments.  These are the proof obligations a change of the source breaks.

Representation:
  * a generated object `Self` (fields = the instance attributes `radix`, `_maxwidth`, `_maxaddr`,
    `labels`) corresponds to the hand model's `Parser` by `toParser`; the attribute `_maxaddr`,
    which the hand model does not store, is pinned by the invariant `MaxaddrInv`
    (`_maxaddr = 2 ^ _maxwidth - 1`), which `_set_maxwidth` -- the only writer -- establishes;
  * a generated result `M α = Except Exc α` corresponds to `Res` / `RRes` by `toRes` / `toRRes`:
    `KeyError ↦ key`, `OverflowError ↦ overflow`, anything else (`ValueError`, `RecursionError`)
    `↦ other` -- so `num_errors` (the model never yields `other`) says that the generated function
    raises nothing but `KeyError` / `OverflowError`.

Nothing outside this file imports the generated module (`Py65/Props/C15g.lean` reaches it through this file).
-/
import Py65.Gen.AddrParserGen
import Py65.Proofs.NumLemmas

namespace Py65.Proofs.AddrParserRep
open Py65.Model Py65.Model.PyStr Py65.Model.AddrParser Py65.Model.PyRt Py65.Proofs.Num
open Py65.Gen
open Py65.Gen.AddrParserGen (Self)

def toParser (self : Self) : Parser :=
  { width := self._maxwidth, radix := self.radix, labels := self.labels }

def ofParser (P : Parser) : Self :=
  { _maxaddr := (2 : Int) ^ P.width - 1, _maxwidth := P.width, labels := P.labels, radix := P.radix }

/-- `self._maxaddr` is what `_set_maxwidth` computed from `self._maxwidth`. -/
def MaxaddrInv (self : Self) : Prop := self._maxaddr = (2 : Int) ^ self._maxwidth - 1

/-- Outcome of a generated `number` / `_constrain` as the hand model's `Res`. -/
def toRes : M Int → Res
  | .ok n => .ok n
  | .error .keyError => .key
  | .error .overflowError => .overflow
  | .error _ => .other

/-- Outcome of a generated `range` as the hand model's `RRes`. -/
def toRRes : M (Int × Int) → RRes
  | .ok (a, b) => .ok a b
  | .error .keyError => .key
  | .error .overflowError => .overflow
  | .error _ => .other

/-- Outcome of the generated constructor as the hand model's `Option Parser`. -/
def toInit : M Self → Option Parser
  | .ok self => some (toParser self)
  | .error _ => none

/-- The label table of the generated object holds in-range values only (`Parser.WF`). -/
def WF (self : Self) : Prop := (toParser self).WF

def S16 : Self := ofParser P16
def S24 : Self := ofParser P24
def S32 : Self := ofParser P32

end Py65.Proofs.AddrParserRep

namespace Py65.Proofs.AddrParserGenEq
open Py65.Model Py65.Model.PyStr Py65.Model.AddrParser Py65.Model.PyRt Py65.Proofs.Num
open Py65.Gen
open Py65.Gen.AddrParserGen (Self)
open Py65.Proofs.AddrParserRep

theorem toParser_ofParser (P : Parser) : toParser (ofParser P) = P := rfl
theorem inv_ofParser (P : Parser) : MaxaddrInv (ofParser P) := rfl
theorem ofParser_toParser (self : Self) (h : MaxaddrInv self) : ofParser (toParser self) = self := by
  cases self; simp only [MaxaddrInv] at h; simp [ofParser, toParser, h]

theorem toRes_ok {x : M Int} {n : Int} : toRes x = .ok n ↔ x = .ok n := by
  rcases x with e | v
  · cases e <;> simp [toRes]
  · simp [toRes]
theorem toRes_key {x : M Int} : toRes x = .key ↔ x = .error .keyError := by
  rcases x with e | v
  · cases e <;> simp [toRes]
  · simp [toRes]
theorem toRes_overflow {x : M Int} : toRes x = .overflow ↔ x = .error .overflowError := by
  rcases x with e | v
  · cases e <;> simp [toRes]
  · simp [toRes]
/-- `toRes x ≠ other`: `x` returns or raises `KeyError` / `OverflowError`, nothing else. -/
theorem toRes_ne_other {x : M Int} :
    toRes x ≠ .other ↔ ∀ e, x = .error e → e = .keyError ∨ e = .overflowError := by
  rcases x with e | v
  · cases e <;> simp [toRes]
  · simp [toRes]
theorem toRRes_ok {x : M (Int × Int)} {a b : Int} : toRRes x = .ok a b ↔ x = .ok (a, b) := by
  rcases x with e | ⟨v, w⟩
  · cases e <;> simp [toRRes]
  · simp [toRRes]
theorem toRRes_ne_other {x : M (Int × Int)} :
    toRRes x ≠ .other ↔ ∀ e, x = .error e → e = .keyError ∨ e = .overflowError := by
  rcases x with e | ⟨v, w⟩
  · cases e <;> simp [toRRes]
  · simp [toRRes]

/-- `_set_maxwidth` stores the width and `pow(2, width) - 1`, nothing else. -/
theorem set_maxwidth_eq (self : Self) (w : Nat) :
    AddrParserGen._set_maxwidth self w = { self with _maxwidth := w, _maxaddr := (2 : Int) ^ w - 1 } := rfl

theorem set_maxwidth_toParser (self : Self) (w : Nat) :
    toParser (AddrParserGen._set_maxwidth self w) = { toParser self with width := w } := rfl

theorem set_maxwidth_inv (self : Self) (w : Nat) : MaxaddrInv (AddrParserGen._set_maxwidth self w) := rfl

theorem get_maxwidth_eq (self : Self) : AddrParserGen._get_maxwidth self = (toParser self).width := rfl

theorem constrain_eq (self : Self) (h : MaxaddrInv self) (a : Int) :
    toRes (AddrParserGen._constrain self a) = constrain (toParser self) a := by
  have hm : self._maxaddr = (toParser self).maxaddr := h
  unfold AddrParserGen._constrain constrain
  rw [hm]
  split <;> rfl

/-- The default arguments of the constructor. -/
theorem init_defaults :
    AddrParserGen.__init__.default_maxwidth = 16 ∧ AddrParserGen.__init__.default_radix = 16 ∧
    AddrParserGen.__init__.default_labels = [] := ⟨rfl, rfl, rfl⟩

private theorem foldl_none {α β : Type} (f : Option α → β → Option α) (hf : ∀ b, f none b = none) (l : List β) :
    l.foldl f none = none := by
  induction l with
  | nil => rfl
  | cons b l ih => rw [List.foldl_cons, hf, ih]

private theorem init_fold (w r : Nat) (ls : List (Str × Int)) :
    ∀ (self : Self), self._maxwidth = w → self.radix = r → MaxaddrInv self →
      let step := fun (self : Self) (item : Str × Int) =>
        (AddrParserGen._constrain self item.2 >>= fun t1 =>
          pure { self with labels := PyRt.dictSetItem self.labels item.1 t1 } : M Self)
      toInit (List.foldlM step self ls) =
        List.foldl (fun acc kv =>
          match acc with
          | none => none
          | some P =>
            match constrain { width := w, radix := r, labels := [] } kv.2 with
            | .ok v => some { P with labels := AddrParser.insert P.labels kv.1 v }
            | _ => none) (some (toParser self)) ls ∧
      (∀ s', List.foldlM step self ls = .ok s' → MaxaddrInv s') ∧
      (∀ e, List.foldlM step self ls = .error e → e = .overflowError) := by
  induction ls with
  | nil =>
    intro self _ _ hi
    exact ⟨rfl, fun s' hs => by cases hs; exact hi, fun e he => by cases he⟩
  | cons kv rest ih =>
    intro self hw hr hi
    intro step
    have hc := constrain_eq self hi kv.2
    have hcm : constrain { width := w, radix := r, labels := [] } kv.2 = constrain (toParser self) kv.2 := by
      simp [constrain, Parser.maxaddr, toParser, hw]
    rw [List.foldlM_cons, List.foldl_cons]
    simp only [hcm, ← hc]
    cases hk : AddrParserGen._constrain self kv.2 with
    | error e =>
      have he : e = .overflowError := by
        unfold AddrParserGen._constrain at hk
        split at hk <;> cases hk
        rfl
      subst he
      refine ⟨?_, ?_, ?_⟩
      · simp only [step, hk, toRes, bind, Except.bind, toInit]
        exact (foldl_none _ (fun _ => rfl) rest).symm
      · intro s' hs; simp only [step, hk, bind, Except.bind] at hs; cases hs
      · intro e he; simp only [step, hk, bind, Except.bind] at he; cases he; rfl
    | ok v =>
      have := ih { self with labels := PyRt.dictSetItem self.labels kv.1 v } hw hr hi
      simp only [step, hk, toRes, bind, Except.bind, pure, Except.pure] at this ⊢
      exact this

/-- `__init__` is the hand model's `Parser.init` (`none` = the constructor raised), establishes
the invariant, and raises nothing but `OverflowError`. -/
theorem init_eq (w r : Nat) (ls : List (Str × Int)) :
    toInit (AddrParserGen.__init__ w r ls) = Parser.init w r ls ∧
    (∀ self, AddrParserGen.__init__ w r ls = .ok self → MaxaddrInv self) ∧
    (∀ e, AddrParserGen.__init__ w r ls = .error e → e = .overflowError) := by
  have h := init_fold w r ls
    { (AddrParserGen._set_maxwidth { AddrParserGen.Self.blank with radix := r } w) with labels := [] }
    rfl rfl rfl
  have hb : ∀ (x : M Self), (x >>= fun self => pure self) = x := by
    intro x; cases x <;> rfl
  unfold AddrParserGen.__init__ Parser.init
  simp only [hb]
  exact h

theorem address_for_eq (self : Self) (label : Str) (dflt : Option Int) :
    AddrParserGen.address_for self label dflt =
      match addressFor (toParser self) label with
      | some a => some a
      | none => dflt := rfl

theorem address_for_defaults : AddrParserGen.address_for.default_default = none := rfl

theorem label_for_eq (self : Self) (address : Int) (dflt : Option Str) :
    AddrParserGen.label_for self address dflt =
      match labelFor (toParser self) address with
      | some l => some l
      | none => dflt := by
  unfold AddrParserGen.label_for labelFor
  simp only [toParser]
  generalize self.labels = L
  induction L with
  | nil => rfl
  | cons kv rest ih =>
    simp only [List.findSome?_cons, List.find?_cons]
    by_cases h : kv.2 = address
    · simp [h]
    · have h' : (kv.2 == address) = false := by simpa using h
      simp only [h, h', if_false]
      exact ih

theorem label_for_defaults : AddrParserGen.label_for.default_default = none := rfl

private theorem startsWith_single (s : Str) (c : Char) : startsWith s [c] = startsWithChar s c := by
  cases s with
  | nil => rfl
  | cons d r => simp [startsWith, startsWithChar]

/-- `try: return self._constrain(a)` / `except ValueError`: `_constrain` raises nothing the handler catches -/
private theorem try_constrain (self : Self) (h : MaxaddrInv self) (a : Int) :
    toRes (PyRt.tryExcept (AddrParserGen._constrain self a) Exc.valueError (PyRt.raise Exc.keyError)) =
      constrain (toParser self) a := by
  rw [← constrain_eq self h]
  unfold AddrParserGen._constrain
  split <;> rfl

private theorem tryInt (self : Self) (h : MaxaddrInv self) (s : Str) (b : Nat) :
    toRes (PyRt.tryExcept (PyRt.int s b >>= fun t => AddrParserGen._constrain self t) Exc.valueError
      (PyRt.raise Exc.keyError)) = ofInt (toParser self) (pyIntL s b) := by
  unfold PyRt.int
  cases pyIntL s b with
  | none => rfl
  | some v => exact try_constrain self h v

private theorem tryExcept_ne {α : Type} (x : M α) :
    PyRt.tryExcept x Exc.valueError (PyRt.raise Exc.keyError) ≠ .error Exc.valueError := by
  unfold PyRt.tryExcept
  split
  · intro hx; cases hx
  · split
    · intro hx; cases hx
    · rename_i hne; intro hx; cases hx; exact hne rfl

/-- No `ValueError` escapes from the generated `numberF` (the whole body is inside the `try`), so
the `except ValueError` of an outer call never sees one coming from the inner `self.number(offset)`. -/
theorem numberF_ne_valueError (self : Self) :
    ∀ (fuel : Nat) (s : Str), AddrParserGen.numberF fuel self s ≠ .error Exc.valueError := by
  intro fuel s
  cases fuel with
  | zero => intro hx; cases hx
  | succ k => unfold AddrParserGen.numberF; exact tryExcept_ne _

theorem numberF_eq (self : Self) (h : MaxaddrInv self) :
    ∀ (fuel : Nat) (s : Str),
      toRes (AddrParserGen.numberF fuel self s) = AddrParser.numberF (toParser self) fuel s := by
  intro fuel
  induction fuel with
  | zero => intro s; rfl
  | succ k ih =>
    intro s
    rw [numberF_succ]
    unfold AddrParserGen.numberF
    simp only [startsWith_single, PyRt.sliceFrom]
    by_cases h1 : startsWithChar s '$' = true
    · simp only [h1, if_true]; exact tryInt self h _ _
    simp only [h1]
    by_cases h2 : startsWithChar s '+' = true
    · simp only [h2, if_true]; exact tryInt self h _ _
    simp only [h2]
    by_cases h3 : startsWithChar s '%' = true
    · simp only [h3, if_true]; exact tryInt self h _ _
    simp only [h3]
    have hlab : (toParser self).labels = self.labels := rfl
    have hrad : (toParser self).radix = self.radix := rfl
    simp only [hlab, hrad]
    unfold PyRt.dictIn PyRt.dictGetItem
    cases hl : lookup self.labels s with
    | some a => rfl
    | none =>
      simp only [Option.isSome_none, Bool.false_eq_true, if_false]
      unfold PyRt.reMatchLabelOffset
      cases hm : matchOffset s with
      | none => exact tryInt self h _ _
      | some g =>
        obtain ⟨label, sign, offset⟩ := g
        simp only
        cases hb : lookup self.labels label with
        | none => rfl
        | some base =>
          have hi := ih offset
          simp only [Option.isSome_some, not_true_eq_false, if_false]
          rw [← hi]
          cases hn : AddrParserGen.numberF k self offset with
          | error e =>
            cases e with
            | valueError => exact absurd hn (numberF_ne_valueError self k offset)
            | _ => rfl
          | ok off =>
            have hs : (([sign] : Str) = ['+']) ↔ sign = '+' := by simp
            simp only [toRes, hs, bind, Except.bind]
            exact try_constrain self h _

/-- `number` (fuel `recursionLimit`) is the hand model's `numberL` (fuel 2): the recursion never
goes deeper than one level. -/
theorem number_eq (self : Self) (h : MaxaddrInv self) (s : Str) :
    toRes (AddrParserGen.number self s) = numberL (toParser self) s := by
  unfold AddrParserGen.number numberL
  rw [numberF_eq self h]
  exact numberF_fuel (toParser self) (PyRt.recursionLimit - 2) s

theorem range_eq (self : Self) (h : MaxaddrInv self) (s : Str) :
    toRRes (AddrParserGen.range self s) = rangeL (toParser self) s := by
  unfold AddrParserGen.range rangeL PyRt.reMatchRange
  cases hm : matchRange s with
  | some g =>
    obtain ⟨a, b⟩ := g
    simp only
    rw [← number_eq self h a]
    cases ha : AddrParserGen.number self a with
    | error e => cases e <;> rfl
    | ok x =>
      rw [← number_eq self h b]
      cases hb : AddrParserGen.number self b with
      | error e => cases e <;> rfl
      | ok y =>
        simp only [toRes, bind, Except.bind, pure, Except.pure, ordered]
        split <;> rfl
  | none =>
    simp only
    rw [← number_eq self h s]
    cases ha : AddrParserGen.number self s with
    | error e => cases e <;> rfl
    | ok x =>
      simp only [toRes, bind, Except.bind, pure, Except.pure, ordered]
      split <;> rfl

theorem toRes_inj {x y : M Int} (h : toRes x = toRes y) (hy : toRes y ≠ .other) : x = y := by
  rcases x with e | v <;> rcases y with e' | v'
  · cases e <;> cases e' <;> simp_all [toRes]
  · cases e <;> simp_all [toRes]
  · cases e' <;> simp_all [toRes]
  · simp_all [toRes]

theorem number_ok (self : Self) (h : MaxaddrInv self) {s : String} {n : Int}
    (hm : AddrParser.number (toParser self) s = .ok n) : AddrParserGen.number self s.toList = .ok n :=
  toRes_ok.mp ((number_eq self h s.toList).trans hm)

theorem number_key (self : Self) (h : MaxaddrInv self) {s : String}
    (hm : AddrParser.number (toParser self) s = .key) : AddrParserGen.number self s.toList = .error .keyError :=
  toRes_key.mp ((number_eq self h s.toList).trans hm)

theorem number_overflow (self : Self) (h : MaxaddrInv self) {s : String}
    (hm : AddrParser.number (toParser self) s = .overflow) :
    AddrParserGen.number self s.toList = .error .overflowError :=
  toRes_overflow.mp ((number_eq self h s.toList).trans hm)

theorem number_of_ok (self : Self) (h : MaxaddrInv self) {s : String} {n : Int}
    (hg : AddrParserGen.number self s.toList = .ok n) : AddrParser.number (toParser self) s = .ok n :=
  (number_eq self h s.toList).symm.trans (congrArg toRes hg)

theorem number_of_key (self : Self) (h : MaxaddrInv self) {s : String}
    (hg : AddrParserGen.number self s.toList = .error .keyError) : AddrParser.number (toParser self) s = .key :=
  (number_eq self h s.toList).symm.trans (congrArg toRes hg)

theorem number_of_overflow (self : Self) (h : MaxaddrInv self) {s : String}
    (hg : AddrParserGen.number self s.toList = .error .overflowError) :
    AddrParser.number (toParser self) s = .overflow :=
  (number_eq self h s.toList).symm.trans (congrArg toRes hg)

/-- A result of the hand model that is a `constrain` is the generated `_constrain`. -/
theorem number_constrain (self : Self) (h : MaxaddrInv self) {s : String} {a : Int}
    (hm : AddrParser.number (toParser self) s = constrain (toParser self) a) :
    AddrParserGen.number self s.toList = AddrParserGen._constrain self a := by
  apply toRes_inj
  · rw [number_eq self h, constrain_eq self h]; exact hm
  · rw [constrain_eq self h]; exact constrain_ne_other _ _

theorem range_some (self : Self) {s a b : Str} (hm : matchRange s = some (a, b)) :
    AddrParserGen.range self s =
      (AddrParserGen.number self a >>= fun x => AddrParserGen.number self b >>= fun y =>
        pure (min x y, max x y)) := by
  unfold AddrParserGen.range PyRt.reMatchRange
  rw [hm]
  simp only
  cases AddrParserGen.number self a with
  | error e => rfl
  | ok x =>
    cases AddrParserGen.number self b with
    | error e => rfl
    | ok y =>
      simp only [bind, Except.bind, pure, Except.pure]
      split
      · rw [Int.min_eq_right (by omega), Int.max_eq_left (by omega)]
      · rw [Int.min_eq_left (by omega), Int.max_eq_right (by omega)]

theorem range_none (self : Self) {s : Str} (hm : matchRange s = none) :
    AddrParserGen.range self s = (AddrParserGen.number self s >>= fun x => pure (x, x)) := by
  unfold AddrParserGen.range PyRt.reMatchRange
  rw [hm]
  simp only
  cases AddrParserGen.number self s with
  | error e => rfl
  | ok x => simp [bind, Except.bind, pure, Except.pure]

end Py65.Proofs.AddrParserGenEq
