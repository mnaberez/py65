/-
Log completeness of the generated device model: the memory function of a state changes only through
`memSet`, and every `memSet` is in the access log -- so after any call (`step()` at EVERY opcode byte, `irq()`,
`nmi()`, `reset()`, all three devices, no hypothesis on the state) the memory is the memory before with the
logged writes applied in order (`Coh`, `step_frame`).  This is the memory half of `Eff` (Proofs/HistLog.lean).
-/
import Py65.Proofs.HistLogSteps

namespace Py65.Proofs
open Py65 Py65.Gen Py65.Spec Py

/-- The state's memory is `b` with the logged writes applied. -/
def Coh (b : Int → Int) (s : St) : Prop := s.mem = wr s.log b

def HandlerCoh (h : St → St) : Prop := ∀ b s, Coh b s → Coh b (h s)

theorem HandlerEff.coh {c : Cfg} {h : St → St} (hh : HandlerEff c h) : HandlerCoh h := by
  intro b s hb
  obtain ⟨E, e, m, -⟩ := hh s
  unfold Coh at hb ⊢
  rw [m, e, wr_append, ← hb]

/-- `step()` of every device, EVERY opcode byte, ANY state (a waiting 65C02 / 65Org16 only counts a cycle). -/
theorem dev_step_coh (d : Hist.Dev) : HandlerCoh d.step := (Hist.apply_eff d .step).coh

/-- **Frame**: from a state with an empty log, the memory after `step()` is the memory before with the
writes of the step's log applied (newest first = in program order). -/
theorem step_frame (d : Hist.Dev) (s : St) (hl : s.log = []) : (d.step s).mem = wr (d.step s).log s.mem :=
  dev_step_coh d s.mem s (by unfold Coh; rw [hl]; rfl)

end Py65.Proofs
