/-
One operation of a generated device keeps the invariant of the history theorems: every register inside the
byte, PC inside the address space, every cell inside the byte (`WF`), and a 6502 / 65Org16 never waits.
The three device classes are treated as one (`Hist.Dev`): what the per-device theorems C01/C02/C03, C05
`undeclared_dev*` and C12 say is restated once over `d : Dev`.  `step()` is covered at EVERY opcode byte
0..255: declared (C01/C02/C03 + closure of the programming model, `Proofs/HistSpecClosed.lean`), ADC/SBC in
both arithmetic modes and JSR wherever the stack is (`Proofs/HistArithSteps.lean`), undeclared, and the
waiting 65C02.
-/
import Py65.Props.C01
import Py65.Props.C02
import Py65.Props.C03
import Py65.Props.C05
import Py65.Props.C12
import Py65.Proofs.HistArithSteps
import Py65.Proofs.Hist
import Py65.Proofs.Pairing

namespace Py65.Proofs.Hist
open Py65 Py65.Gen Py65.Spec Py65.Proofs Py
open Py65.Props.C05 (default_slots_6502 default_slots_65c02 undeclared_mem undeclared_list_dev6502
  undeclared_list_dev65c02 undeclared_list_dev65org16)

def smbOk : Mn → Bool
  | .SMB b => decide (b < 8)
  | _ => true

def notWai : Mn → Bool
  | .WAI => false
  | _ => true

theorem smb_rows : ∀ r ∈ cmosExtTable ++ nmosTable, smbOk r.2.1 = true := by decide +kernel
theorem nmos_no_wai : ∀ r ∈ nmosTable, notWai r.2.1 = true := by decide +kernel

theorem decode_mem {v : Variant} {op : Int} {mn : Mn} {mo : Mode} (hd : decode v op = some (mn, mo)) :
    (op, mn, mo) ∈ cmosExtTable ++ nmosTable :=
  (decode_row hd).elim (fun h => List.mem_append_left _ h.2) (List.mem_append_right _)

theorem decode_smb {v : Variant} {op : Int} {mn : Mn} {mo : Mode} (hd : decode v op = some (mn, mo))
    (b : Nat) (hb : mn = .SMB b) : b < 8 := by
  have := smb_rows _ (decode_mem hd)
  subst hb
  simpa [smbOk] using this

theorem nmos_not_wai {op : Int} {mn : Mn} {mo : Mode} (hd : decode .nmos op = some (mn, mo)) : mn ≠ .WAI := by
  have := nmos_no_wai _ (lookup_mem hd)
  rintro rfl
  simp [notWai] at this

theorem not_arith_hyps {mn : Mn} (ha : ¬ isArith mn = true) :
    (¬ (mn = .ADC ∨ mn = .SBC)) ∧ mn ≠ .JSR := by
  refine ⟨?_, ?_⟩
  · rintro (rfl | rfl) <;> exact ha rfl
  · rintro rfl; exact ha rfl

theorem spec_step_decl {W : Nat} {v : Variant} {a : AState} {mn : Mn} {mo : Mode} (hw : a.waiting = false)
    (hd : decode v (a.mem a.pc) = some (mn, mo)) :
    Spec.step W v a = exec W v mn mo { a with pc := (a.pc + 1) % AM W } := by
  simp only [Spec.step, hw, hd, Bool.false_eq_true, if_false]

theorem spec_step_closed {W : Nat} (hW : W = 8 ∨ W = 16) (v : Variant) (a : AState)
    (ha : AClosed W a) : AClosed W (Spec.step W v a) := by
  unfold Spec.step
  split
  · exact ha
  · split
    · rename_i mn mo hd
      exact exec_closed hW v mn mo _ ⟨ha.a, ha.x, ha.y, ha.sp, ha.p, inA_mod hW _, ha.mem⟩
        (fun b hb => decode_smb hd b hb)
    · exact skip_closed hW a ha

theorem exec_waiting (W : Nat) (v : Variant) (mn : Mn) (mo : Mode) (s : AState) (h : mn ≠ .WAI) :
    (exec W v mn mo s).waiting = s.waiting := by
  cases mn <;> dsimp only [exec, push, pull, write] <;> first
    | exact absurd rfl h
    | (split <;> rfl)

theorem spec_irq_waiting (W : Nat) (a : AState) : (Spec.irq W a).waiting = false := by
  unfold Spec.irq; split <;> rfl

/- Five range predicates meet in the history theorems.  The model's `WF c s` (CpuBase) bounds registers and
cells by `≤ c.byteMask` / `≤ c.addrMask`, the masks py65 applies; everything on the programming model's side is
written `< 2^W` (`InB`, `InA`).  `AClosed W a` is `WF` in that form on an abstract state (what `Spec.exec`
keeps), `AWF W a` (Pairing) its SP / PC / P part with `normP a.p = a.p` (all that pairing needs), `WFr c s`
(HistArith) is `WF` without PC (a handler leaves PC unmasked) and `Rng c s` (HistLog) is `WFr` without P but
with PC (what the accesses are computed from).  One bound is translated by `inB_iff` / `inA_iff`, a state by
`aclosed_abs`, `WF_of_aclosed_abs`, `AWF_abs` below, `WF.toWFr` and `WF.rng`. -/

namespace Dev

theorem inB_iff (d : Dev) (v : Int) : InB d.W v ↔ (0 ≤ v ∧ v ≤ d.cfg.byteMask) :=
  d.W_eq ▸ Proofs.inB_iff d.isDev v

theorem inA_iff (d : Dev) (v : Int) : InA d.W v ↔ (0 ≤ v ∧ v ≤ d.cfg.addrMask) :=
  d.W_eq ▸ Proofs.inA_iff d.isDev v

end Dev

/-- Forcing bits 4 and 5 only adds to a value, and does not make a negative value non-negative. -/
theorem inB_of_normP {W : Nat} {p : Int} (h : InB W (normP p)) : InB W p := by
  have : p ≤ normP p ∧ (0 ≤ normP p → 0 ≤ p) := by
    simp only [normP, setFlag, bitB, bitU, if_true]; omega
  exact ⟨this.2 h.1, Int.lt_of_le_of_lt this.1 h.2⟩

theorem aclosed_abs (d : Dev) {s : St} (hs : WF d.cfg s) : AClosed d.W (abs s) :=
  ⟨(d.inB_iff _).2 hs.a, (d.inB_iff _).2 hs.x, (d.inB_iff _).2 hs.y, (d.inB_iff _).2 hs.sp,
   inB_normP d.hW ((d.inB_iff _).2 hs.p), (d.inA_iff _).2 hs.pc, fun k => (d.inB_iff _).2 (hs.mem k)⟩

theorem WF_of_aclosed_abs (d : Dev) {s : St} (h : AClosed d.W (abs s)) : WF d.cfg s :=
  ⟨(d.inB_iff _).1 h.a, (d.inB_iff _).1 h.x, (d.inB_iff _).1 h.y, (d.inB_iff _).1 h.sp,
   (d.inB_iff _).1 (inB_of_normP h.p), (d.inA_iff _).1 h.pc, fun k => (d.inB_iff _).1 (h.mem k)⟩

theorem AWF_abs (d : Dev) {s : St} (hs : WF d.cfg s) : AWF d.W (abs s) :=
  have h := aclosed_abs d hs
  ⟨h.sp, h.pc, h.p, normP_idem _⟩

/-- The invariant of the history theorems: well-formed state; a 6502 / 65Org16 is not waiting
(those classes have no WAI; `waiting` is only ever set by the 65C02's WAI). -/
def Inv (d : Dev) (s : St) : Prop := WF d.cfg s ∧ (d ≠ .cmos → s.waiting = false)

/-- What the property's quantifiers demand of one call: a `reset(start)` is given an address; the
opcode cell a 65Org16 executes holds an opcode byte 0..255 (a larger cell raises IndexError in the
real `step()`; recorded in DESIGN 0.5, outside C05's quantifier).  Nothing for the 6502 and 65C02. -/
def OpOK (d : Dev) (o : Op) (s : St) : Prop :=
  match o with
  | .step => d = .org16 → s.mem s.pc < 256
  | .reset (some a) => 0 ≤ a ∧ a ≤ d.cfg.addrMask
  | _ => True

theorem Inv.cmos_of_waiting {d : Dev} {s : St} (hi : Inv d s) (hw : s.waiting = true) : d = .cmos :=
  Decidable.byContradiction fun h => Bool.noConfusion ((hi.2 h).symm.trans hw)

theorem opcode_byte {d : Dev} {s : St} (hs : WF d.cfg s) (hok : OpOK d .step s) :
    0 ≤ s.mem s.pc ∧ s.mem s.pc < 256 := by
  have h := hs.mem s.pc
  cases d with
  | org16 => exact ⟨h.1, hok rfl⟩
  | nmos => exact ⟨h.1, Int.lt_of_le_of_lt h.2 (by decide)⟩
  | cmos => exact ⟨h.1, Int.lt_of_le_of_lt h.2 (by decide)⟩

theorem step_eq (d : Dev) (s : St) (hw : s.waiting = false) :
    d.step s = Mpu6502.step d.cfg d.tbl s := by
  cases d with
  | nmos => rfl
  | cmos => exact Py65.Props.C02.step_not_waiting s hw
  | org16 => simp only [Dev.step, dev65org16.step, Mpu65org16.step, hw]; rfl

/-- C01 / C02 / C03: one `step()` of the generated device at a declared opcode is one step of the
programming model (ADC / SBC: binary mode; JSR: the pushes do not hit its own operand bytes). -/
theorem step_abs (d : Dev) (s : St) (hs : WF d.cfg s) (hw : s.waiting = false) (mn : Mn) (mo : Mode)
    (hd : decode d.variant (s.mem s.pc) = some (mn, mo))
    (hdec : (mn = .ADC ∨ mn = .SBC) → flag s.p bitD = false)
    (hjsr : mn = .JSR → NoSelfOverwriteJSR d.cfg (afterFetch d.cfg d.tbl s)) :
    abs (d.step s) = Spec.step d.W d.variant (abs s) := by
  cases d with
  | nmos => exact Py65.Props.C01.C01_full s hs hw mn mo hd hdec hjsr
  | cmos => exact Py65.Props.C02.C02_full s hs hw mn mo hd hdec hjsr
  | org16 => exact Py65.Props.C03.C03_full s hs hw mn mo hd hdec hjsr

/-- A non-waiting step at a declared opcode that is not ADC / SBC / JSR is the programming model's
`exec` (the side conditions of C01 / C02 / C03 concern only those three). -/
theorem step_spec (d : Dev) (s : St) (hs : WF d.cfg s) (hw : s.waiting = false) (mn : Mn) (mo : Mode)
    (hd : decode d.variant (s.mem s.pc) = some (mn, mo)) (hna : ¬ isArith mn = true) :
    abs (d.step s) = exec d.W d.variant mn mo { abs s with pc := (s.pc + 1) % AM d.W } :=
  have h := not_arith_hyps hna
  (step_abs d s hs hw mn mo hd (fun h' => absurd h' h.1) (fun h' => absurd h' h.2)).trans
    (spec_step_decl (a := abs s) hw hd)

/-- C05 `undeclared_dev*`: at an undeclared opcode byte only PC moves. -/
theorem step_undeclared (d : Dev) (s : St) (hs : WF d.cfg s) (hw : s.waiting = false)
    (hop : 0 ≤ s.mem s.pc ∧ s.mem s.pc < 256) (hd : decode d.variant (s.mem s.pc) = none) :
    core (d.step s) = { core s with pc := (s.pc + 2) % AM d.W } ∧ (d.step s).cycles = s.cycles := by
  cases d with
  | nmos => exact Py65.Props.C05.undeclared_dev6502 s hs hw hop hd
  | cmos => exact Py65.Props.C05.undeclared_dev65c02 s hs hw hop hd
  | org16 => exact Py65.Props.C05.undeclared_dev65org16 s hs hw hop hd

/-- C12: the accesses of one `step()` at a declared opcode are the opcode fetch, the operand fetches and
`Spec.dataAccesses`, as a multiset. -/
theorem step_accesses (d : Dev) (s : St) (hs : WF d.cfg s) (hw : s.waiting = false) (mn : Mn) (mo : Mode)
    (hd : decode d.variant (s.mem s.pc) = some (mn, mo)) :
    Py65.Props.C12.StepAccesses d.W d.variant mn mo s (d.step s) := by
  cases d with
  | nmos => exact Py65.Props.C12.accesses_nmos6502 s hs hw mn mo hd
  | cmos => exact Py65.Props.C12.accesses_cmos s hs hw mn mo hd
  | org16 => exact Py65.Props.C12.accesses_org16 s hs hw mn mo hd

/-- A property of handlers holds of every slot of a device's table if it holds of the handler of every
row, of the default handler (the undeclared bytes) and of `id` (an index that is not a byte). -/
theorem Dev.instruct_cases (d : Dev) {P : (St → St) → Prop}
    (row : ∀ {mn mo h}, stdHandler d.cfg d.variant mn mo = some h → P h)
    (und : P (Mpu6502.inst_not_implemented d.cfg)) (out : P id) (n : Int) : P (d.tbl.instruct n) := by
  by_cases hn : 0 ≤ n ∧ n < 256
  · cases hd : decode d.variant n with
    | some r => exact row (d.row hd)
    | none =>
      have e : d.tbl.instruct n = Mpu6502.inst_not_implemented d.cfg := by
        cases d
        · exact ((default_slots_6502 _).instruct (undeclared_mem undeclared_list_dev6502 hn hd)).2
        · exact ((default_slots_65c02 _).instruct (undeclared_mem undeclared_list_dev65c02 hn hd)).2
        · exact ((default_slots_6502 _).instruct (undeclared_mem undeclared_list_dev65org16 hn hd)).2
      exact e ▸ und
  · have e : d.tbl.instruct n = id := by cases d <;> exact if_neg hn
    exact e ▸ out

/-- ADC / SBC (either arithmetic mode) and JSR (wherever the stack is), directly on the generated code
(`isArith` is true of these three, JSR included: the mnemonics C01 / C02 / C03 put a side condition on). -/
theorem step_arith_dev (d : Dev) (s : St) (hs : WF d.cfg s) (hw : s.waiting = false) {mn : Mn} {mo : Mode}
    (hd : decode d.variant (s.mem s.pc) = some (mn, mo)) (ha : isArith mn = true) :
    WF d.cfg (d.step s) ∧ (d.step s).waiting = s.waiting :=
  step_eq d s hw ▸ arith_step d s hs hd ha

/-- One `step()` at ANY opcode byte (65Org16: any opcode cell holding a byte; a cell above 255 raises
IndexError in the real `step()`: outside the property's quantifier), waiting or not, keeps the invariant. -/
theorem step_inv (d : Dev) (s : St) (hi : Inv d s) (hok : OpOK d .step s) : Inv d (d.step s) := by
  have hs := hi.1
  cases hw : s.waiting with
  | true =>
    -- only a 65C02 waits, and then `step()` does no more than count a cycle
    obtain rfl := hi.cmos_of_waiting hw
    rw [show Dev.step .cmos s = { s with cycles := s.cycles + 1 } from wai_halts _ _ s hw]
    exact ⟨⟨hs.a, hs.x, hs.y, hs.sp, hs.p, hs.pc, hs.mem⟩, fun h => absurd rfl h⟩
  | false =>
    cases hd : decode d.variant (s.mem s.pc) with
    | none =>
      obtain ⟨h1, _⟩ := step_undeclared d s hs hw (opcode_byte hs hok) hd
      have hc := d.isDev
      have h := WF_of_frame hc hs ((Proofs.inB_iff hc _).2 hs.a) ((Proofs.inB_iff hc _).2 hs.p)
        ((Proofs.inA_iff hc _).2 ((d.inA_iff _).1 (inA_mod d.hW _))) h1
      exact ⟨h.1, fun _ => h.2.trans hw⟩
    | some r =>
      obtain ⟨mn, mo⟩ := r
      by_cases ha : isArith mn = true
      · obtain ⟨h1, h2⟩ := step_arith_dev d s hs hw hd ha
        exact ⟨h1, fun _ => h2.trans hw⟩
      · have hn := not_arith_hyps ha
        have h := step_abs d s hs hw mn mo hd (fun h' => absurd h' hn.1) (fun h' => absurd h' hn.2)
        refine ⟨WF_of_aclosed_abs d (h ▸ spec_step_closed d.hW _ _ (aclosed_abs d hs)), fun hne => ?_⟩
        -- the NMOS table has no WAI, and nothing else sets `waiting`
        have hwa := congrArg AState.waiting (h.trans (spec_step_decl (a := abs s) hw hd))
        rw [exec_waiting _ _ _ _ _ (nmos_not_wai (Dev.variant_nmos hne ▸ hd))] at hwa
        exact hwa.trans hw

/-- 6502: one `step()` at ANY opcode byte keeps the invariant. -/
theorem step_inv_nmos (s : St) (hs : WF dev6502.cfg s) (hw : s.waiting = false) :
    WF dev6502.cfg (dev6502.step s) ∧ (dev6502.step s).waiting = false :=
  have h := step_inv .nmos s ⟨hs, fun _ => hw⟩ (fun h => Dev.noConfusion h)
  ⟨h.1, h.2 (by decide)⟩

theorem irq_abs (d : Dev) (s : St) (hi : Inv d s) : abs (d.irq s) = Spec.irq d.W (abs s) := by
  cases d with
  | nmos => exact irq_sem _ (Or.inl rfl) s hi.1 (hi.2 (by decide))
  | cmos => exact irq65c02_sem s hi.1
  | org16 => exact irq_sem _ (Or.inr rfl) s hi.1 (hi.2 (by decide))

theorem nmi_abs (d : Dev) (s : St) (hi : Inv d s) : abs (d.nmi s) = Spec.nmi d.W (abs s) := by
  cases d with
  | nmos => exact nmi_sem _ (Or.inl rfl) s hi.1 (hi.2 (by decide))
  | cmos => exact nmi65c02_sem s hi.1
  | org16 => exact nmi_sem _ (Or.inr rfl) s hi.1 (hi.2 (by decide))

theorem irq_inv (d : Dev) (s : St) (hi : Inv d s) : Inv d (d.irq s) :=
  have h := irq_abs d s hi
  ⟨WF_of_aclosed_abs d (h ▸ irq_closed d.hW _ (aclosed_abs d hi.1)),
   fun _ => (congrArg AState.waiting h).trans (spec_irq_waiting _ _)⟩

theorem nmi_inv (d : Dev) (s : St) (hi : Inv d s) : Inv d (d.nmi s) :=
  have h := nmi_abs d s hi
  ⟨WF_of_aclosed_abs d (h ▸ nmi_closed d.hW _ (aclosed_abs d hi.1)), fun _ => congrArg AState.waiting h⟩

theorem reset_vec_WF (c : Cfg) (hc : IsDev c) (s : St) (hs : WF c s) : WF c (Mpu6502.reset_vec c s) := by
  have h1 := hs.mem c.RESET
  have h2 := hs.mem ((c.RESET + 1) % AM c.BYTE_WIDTH)
  have hpc : 0 ≤ (Mpu6502.WordAt c c.RESET s).1 ∧ (Mpu6502.WordAt c c.RESET s).1 ≤ c.addrMask := by
    rw [WordAt_val c hc]
    rcases hc with rfl | rfl <;> (constfold at h1 h2 ⊢; omega)
  refine ⟨?_, ?_, ?_, ?_, ?_, hpc, hs.mem⟩ <;>
    (rcases hc with rfl | rfl <;> simp [Mpu6502.reset_vec] <;> decide)

/-- `reset()`: the 6502 / 65Org16 leave `waiting` alone, the 65C02 clears it. -/
theorem reset_inv (d : Dev) (a : Option Int) (s : St) (hi : Inv d s) (ho : OpOK d (.reset a) s) :
    Inv d (d.reset a s) := by
  obtain ⟨hs, hw⟩ := hi
  have h : WF d.cfg (match a with
      | some v => Mpu6502.reset_at d.cfg v s
      | none => Mpu6502.reset_vec d.cfg s) := by
    cases a with
    | none => exact reset_vec_WF _ d.isDev s hs
    | some v => exact Py65.Props.C05.closed_reset _ d.isDev s hs v ho
  cases d <;> cases a <;>
    first
    | exact ⟨h, hw⟩
    | exact ⟨⟨h.a, h.x, h.y, h.sp, h.p, h.pc, h.mem⟩, fun hn => absurd rfl hn⟩

theorem apply_inv (d : Dev) (o : Op) (s : St) (hi : Inv d s) (ho : OpOK d o s) : Inv d (apply d o s) := by
  cases o with
  | step => exact step_inv d s hi ho
  | irq => exact irq_inv d s hi
  | nmi => exact nmi_inv d s hi
  | reset a => exact reset_inv d a s hi ho

/-- The invariant holds at EVERY state of a history (before each operation) and at its end. -/
theorem run_inv (d : Dev) (ops : List Op) (s : St) (hi : Inv d s) (ho : Along d (OpOK d) ops s) :
    Along d (fun _ s' => Inv d s') ops s ∧ Inv d (run d ops s) := by
  induction ops generalizing s with
  | nil => exact ⟨trivial, hi⟩
  | cons o ops ih =>
    obtain ⟨h1, h2⟩ := ho
    obtain ⟨g1, g2⟩ := ih _ (apply_inv d o s hi h1) h2
    exact ⟨⟨hi, g1⟩, g2⟩

end Py65.Proofs.Hist
