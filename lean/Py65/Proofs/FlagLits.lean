/- Status-register idioms of the device code as `Spec.setFlag` / `Spec.flag` chains (simp set
   `flagalg`): general lemmas for a variable bit position, proved from the bit-wise
   characterisation of `Py.land / lor / lnot`, and their instances for the flag positions of the
   8-bit (0…7) and 16-bit (0…7, 14, 15) status words. -/
import Py65.Proofs.LandLits
import Py65.Spec.Cpu

namespace Py65.Proofs
open Py Py65.Spec

theorem flag_eq_tb (p : Int) (k : Nat) : flag p k = tb p k := (tb_eq p k).symm

theorem lor_two_pow (p : Int) (k : Nat) : lor p (2 ^ k) = setFlag p k true := by
  rw [lor_eq, land_two_pow]; simp only [setFlag, if_true]; omega

theorem land_lnot_two_pow (p : Int) (k : Nat) : land p (lnot (2 ^ k)) = setFlag p k false := by
  rw [land_lnot_right', land_two_pow]; simp [setFlag]

theorem tb_setFlag (p : Int) (k : Nat) (b : Bool) (i : Nat) :
    tb (setFlag p k b) i = if i = k then b else tb p i := by
  have hk : decide (k = i) = decide (i = k) := decide_eq_decide.mpr eq_comm
  cases b
  · rw [← land_lnot_two_pow, tb_land, tb_lnot, tb_two_pow, hk]
    by_cases h : i = k <;> simp [h]
  · rw [← lor_two_pow, tb_lor, tb_two_pow, hk]
    by_cases h : i = k <;> simp [h]

theorem flag_setFlag (p : Int) (k : Nat) (b : Bool) (i : Nat) :
    flag (setFlag p k b) i = if i = k then b else flag p i := by
  simp only [flag_eq_tb, tb_setFlag]

theorem flag_setFlag_same (p : Int) (k : Nat) (b : Bool) : flag (setFlag p k b) k = b := by
  rw [flag_setFlag, if_pos rfl]

theorem flag_setFlag_ne (p : Int) {k i : Nat} (h : i ≠ k) (b : Bool) :
    flag (setFlag p k b) i = flag p i := by
  rw [flag_setFlag, if_neg h]

theorem setFlag_same (p : Int) (k : Nat) (b c : Bool) :
    setFlag (setFlag p k b) k c = setFlag p k c := by
  apply tb_ext; intro i
  simp only [tb_setFlag]; split <;> rfl

theorem setFlag_comm (p : Int) {j k : Nat} (h : j ≠ k) (b c : Bool) :
    setFlag (setFlag p k b) j c = setFlag (setFlag p j c) k b := by
  apply tb_ext; intro i
  simp only [tb_setFlag]
  by_cases hj : i = j
  · rw [if_pos hj, if_neg (hj ▸ h), if_pos hj]
  · rw [if_neg hj, if_neg hj]

theorem setFlag_of_flag (p : Int) (k : Nat) (b : Bool) (h : flag p k = b) : setFlag p k b = p := by
  apply tb_ext; intro i
  rw [tb_setFlag, ← h, flag_eq_tb]
  split
  · next hi => rw [hi]
  · rfl

theorem land_two_pow_eq_ite (p : Int) (k : Nat) :
    land p (2 ^ k) = if flag p k then 2 ^ k else 0 := by
  rw [land_two_pow, bitv_eq, flag_eq_tb]; cases tb p k <;> simp

/-- The flag test of the branch and interrupt code. -/
theorem land_two_pow_ne_zero_iff (p : Int) (k : Nat) : land p (2 ^ k) ≠ 0 ↔ flag p k = true := by
  have hp : (2 : Int) ^ k ≠ 0 := Int.ne_of_gt (Int.pow_pos (by decide))
  rw [land_two_pow_eq_ite]; cases flag p k <;> simp [hp]

theorem land_two_pow_eq_zero_iff (p : Int) (k : Nat) : land p (2 ^ k) = 0 ↔ flag p k = false := by
  rw [← Bool.not_eq_true, ← land_two_pow_ne_zero_iff, not_not]

/-- `p |= v & FLAG`. -/
theorem lor_land_two_pow (p v : Int) (k : Nat) :
    lor p (land v (2 ^ k)) = setFlag p k (flag p k || flag v k) := by
  apply tb_ext; intro i
  rw [tb_setFlag, tb_lor, tb_land, tb_two_pow, flag_eq_tb, flag_eq_tb]
  by_cases h : i = k
  · subst h; simp
  · simp [h, Ne.symm h]

theorem lor_land_two_pow_two_pow (p v : Int) (j k : Nat) (h : k ≠ j) :
    lor p (land v (lor (2 ^ j) (2 ^ k))) =
      setFlag (setFlag p j (flag p j || flag v j)) k (flag p k || flag v k) := by
  rw [land_lor, ← lor_assoc, lor_land_two_pow, lor_land_two_pow, flag_setFlag_ne p h]

theorem lor_two_pow_two_pow (p : Int) (j k : Nat) :
    lor p (lor (2 ^ j) (2 ^ k)) = setFlag (setFlag p j true) k true := by
  rw [← lor_assoc, lor_two_pow, lor_two_pow]

/-- `p &= ~(FLAG₁ | FLAG₂ | …)` clears the listed flags one after the other. -/
theorem land_lnot_foldl (p : Int) (ks : List Nat) :
    land p (lnot (ks.foldl (fun m k => lor m (2 ^ k)) 0)) =
      ks.foldl (fun q k => setFlag q k false) p := by
  have gen : ∀ (ks : List Nat) (m : Int), land p (lnot (ks.foldl (fun m k => lor m (2 ^ k)) m)) =
      ks.foldl (fun q k => setFlag q k false) (land p (lnot m)) := by
    intro ks
    induction ks with
    | nil => intro m; rfl
    | cons k ks ih => intro m; rw [List.foldl_cons, List.foldl_cons, ih, land_lnot_lor, land_lnot_two_pow]
  have h0 : land p (lnot 0) = p := by
    apply tb_ext; intro i; simp [tb_land, tb_lnot, tb_zero]
  rw [gen, h0]

@[flagalg] theorem lor_flag_1 (p : Int) : lor p 1 = setFlag p 0 true := lor_two_pow p 0
@[flagalg] theorem lor_flag_2 (p : Int) : lor p 2 = setFlag p 1 true := lor_two_pow p 1
@[flagalg] theorem lor_flag_4 (p : Int) : lor p 4 = setFlag p 2 true := lor_two_pow p 2
@[flagalg] theorem lor_flag_8 (p : Int) : lor p 8 = setFlag p 3 true := lor_two_pow p 3
@[flagalg] theorem lor_flag_16 (p : Int) : lor p 16 = setFlag p 4 true := lor_two_pow p 4
@[flagalg] theorem lor_flag_32 (p : Int) : lor p 32 = setFlag p 5 true := lor_two_pow p 5
@[flagalg] theorem lor_flag_64 (p : Int) : lor p 64 = setFlag p 6 true := lor_two_pow p 6
@[flagalg] theorem lor_flag_128 (p : Int) : lor p 128 = setFlag p 7 true := lor_two_pow p 7
@[flagalg] theorem lor_flag_16384 (p : Int) : lor p 16384 = setFlag p 14 true := lor_two_pow p 14
@[flagalg] theorem lor_flag_32768 (p : Int) : lor p 32768 = setFlag p 15 true := lor_two_pow p 15

@[flagalg] theorem land_flag_1 (p : Int) : land p 1 = if flag p 0 then 1 else 0 := land_two_pow_eq_ite p 0
@[flagalg] theorem land_flag_2 (p : Int) : land p 2 = if flag p 1 then 2 else 0 := land_two_pow_eq_ite p 1
@[flagalg] theorem land_flag_4 (p : Int) : land p 4 = if flag p 2 then 4 else 0 := land_two_pow_eq_ite p 2
@[flagalg] theorem land_flag_8 (p : Int) : land p 8 = if flag p 3 then 8 else 0 := land_two_pow_eq_ite p 3
@[flagalg] theorem land_flag_16 (p : Int) : land p 16 = if flag p 4 then 16 else 0 := land_two_pow_eq_ite p 4
@[flagalg] theorem land_flag_32 (p : Int) : land p 32 = if flag p 5 then 32 else 0 := land_two_pow_eq_ite p 5
@[flagalg] theorem land_flag_64 (p : Int) : land p 64 = if flag p 6 then 64 else 0 := land_two_pow_eq_ite p 6
@[flagalg] theorem land_flag_128 (p : Int) : land p 128 = if flag p 7 then 128 else 0 := land_two_pow_eq_ite p 7
@[flagalg] theorem land_flag_16384 (p : Int) : land p 16384 = if flag p 14 then 16384 else 0 := land_two_pow_eq_ite p 14
@[flagalg] theorem land_flag_32768 (p : Int) : land p 32768 = if flag p 15 then 32768 else 0 := land_two_pow_eq_ite p 15

@[flagalg ↓] theorem lor_land_flag_1 (p v : Int) : lor p (land v 1) = setFlag p 0 (flag p 0 || flag v 0) :=
  lor_land_two_pow p v 0
@[flagalg ↓] theorem lor_land_flag_2 (p v : Int) : lor p (land v 2) = setFlag p 1 (flag p 1 || flag v 1) :=
  lor_land_two_pow p v 1
@[flagalg ↓] theorem lor_land_flag_4 (p v : Int) : lor p (land v 4) = setFlag p 2 (flag p 2 || flag v 2) :=
  lor_land_two_pow p v 2
@[flagalg ↓] theorem lor_land_flag_8 (p v : Int) : lor p (land v 8) = setFlag p 3 (flag p 3 || flag v 3) :=
  lor_land_two_pow p v 3
@[flagalg ↓] theorem lor_land_flag_16 (p v : Int) : lor p (land v 16) = setFlag p 4 (flag p 4 || flag v 4) :=
  lor_land_two_pow p v 4
@[flagalg ↓] theorem lor_land_flag_32 (p v : Int) : lor p (land v 32) = setFlag p 5 (flag p 5 || flag v 5) :=
  lor_land_two_pow p v 5
@[flagalg ↓] theorem lor_land_flag_64 (p v : Int) : lor p (land v 64) = setFlag p 6 (flag p 6 || flag v 6) :=
  lor_land_two_pow p v 6
@[flagalg ↓] theorem lor_land_flag_128 (p v : Int) : lor p (land v 128) = setFlag p 7 (flag p 7 || flag v 7) :=
  lor_land_two_pow p v 7
@[flagalg ↓] theorem lor_land_flag_16384 (p v : Int) : lor p (land v 16384) = setFlag p 14 (flag p 14 || flag v 14) :=
  lor_land_two_pow p v 14
@[flagalg ↓] theorem lor_land_flag_32768 (p v : Int) : lor p (land v 32768) = setFlag p 15 (flag p 15 || flag v 15) :=
  lor_land_two_pow p v 15

@[flagalg] theorem setFlag_same_0 (p : Int) (b c : Bool) : setFlag (setFlag p 0 b) 0 c = setFlag p 0 c :=
  setFlag_same p 0 b c
@[flagalg] theorem setFlag_same_1 (p : Int) (b c : Bool) : setFlag (setFlag p 1 b) 1 c = setFlag p 1 c :=
  setFlag_same p 1 b c
@[flagalg] theorem setFlag_same_2 (p : Int) (b c : Bool) : setFlag (setFlag p 2 b) 2 c = setFlag p 2 c :=
  setFlag_same p 2 b c
@[flagalg] theorem setFlag_same_3 (p : Int) (b c : Bool) : setFlag (setFlag p 3 b) 3 c = setFlag p 3 c :=
  setFlag_same p 3 b c
@[flagalg] theorem setFlag_same_4 (p : Int) (b c : Bool) : setFlag (setFlag p 4 b) 4 c = setFlag p 4 c :=
  setFlag_same p 4 b c
@[flagalg] theorem setFlag_same_5 (p : Int) (b c : Bool) : setFlag (setFlag p 5 b) 5 c = setFlag p 5 c :=
  setFlag_same p 5 b c
@[flagalg] theorem setFlag_same_6 (p : Int) (b c : Bool) : setFlag (setFlag p 6 b) 6 c = setFlag p 6 c :=
  setFlag_same p 6 b c
@[flagalg] theorem setFlag_same_7 (p : Int) (b c : Bool) : setFlag (setFlag p 7 b) 7 c = setFlag p 7 c :=
  setFlag_same p 7 b c
@[flagalg] theorem setFlag_same_14 (p : Int) (b c : Bool) : setFlag (setFlag p 14 b) 14 c = setFlag p 14 c :=
  setFlag_same p 14 b c
@[flagalg] theorem setFlag_same_15 (p : Int) (b c : Bool) : setFlag (setFlag p 15 b) 15 c = setFlag p 15 c :=
  setFlag_same p 15 b c

@[flagalg] theorem setFlag_of_flag_0 (p : Int) (b : Bool) (h : flag p 0 = b) : setFlag p 0 b = p :=
  setFlag_of_flag p 0 b h
@[flagalg] theorem setFlag_of_flag_1 (p : Int) (b : Bool) (h : flag p 1 = b) : setFlag p 1 b = p :=
  setFlag_of_flag p 1 b h
@[flagalg] theorem setFlag_of_flag_2 (p : Int) (b : Bool) (h : flag p 2 = b) : setFlag p 2 b = p :=
  setFlag_of_flag p 2 b h
@[flagalg] theorem setFlag_of_flag_3 (p : Int) (b : Bool) (h : flag p 3 = b) : setFlag p 3 b = p :=
  setFlag_of_flag p 3 b h
@[flagalg] theorem setFlag_of_flag_4 (p : Int) (b : Bool) (h : flag p 4 = b) : setFlag p 4 b = p :=
  setFlag_of_flag p 4 b h
@[flagalg] theorem setFlag_of_flag_5 (p : Int) (b : Bool) (h : flag p 5 = b) : setFlag p 5 b = p :=
  setFlag_of_flag p 5 b h
@[flagalg] theorem setFlag_of_flag_6 (p : Int) (b : Bool) (h : flag p 6 = b) : setFlag p 6 b = p :=
  setFlag_of_flag p 6 b h
@[flagalg] theorem setFlag_of_flag_7 (p : Int) (b : Bool) (h : flag p 7 = b) : setFlag p 7 b = p :=
  setFlag_of_flag p 7 b h
@[flagalg] theorem setFlag_of_flag_14 (p : Int) (b : Bool) (h : flag p 14 = b) : setFlag p 14 b = p :=
  setFlag_of_flag p 14 b h
@[flagalg] theorem setFlag_of_flag_15 (p : Int) (b : Bool) (h : flag p 15 = b) : setFlag p 15 b = p :=
  setFlag_of_flag p 15 b h

@[flagalg] theorem flag_setFlag_same_0 (p : Int) (b : Bool) : flag (setFlag p 0 b) 0 = b := flag_setFlag_same p 0 b
@[flagalg] theorem flag_setFlag_same_1 (p : Int) (b : Bool) : flag (setFlag p 1 b) 1 = b := flag_setFlag_same p 1 b
@[flagalg] theorem flag_setFlag_same_2 (p : Int) (b : Bool) : flag (setFlag p 2 b) 2 = b := flag_setFlag_same p 2 b
@[flagalg] theorem flag_setFlag_same_3 (p : Int) (b : Bool) : flag (setFlag p 3 b) 3 = b := flag_setFlag_same p 3 b
@[flagalg] theorem flag_setFlag_same_4 (p : Int) (b : Bool) : flag (setFlag p 4 b) 4 = b := flag_setFlag_same p 4 b
@[flagalg] theorem flag_setFlag_same_5 (p : Int) (b : Bool) : flag (setFlag p 5 b) 5 = b := flag_setFlag_same p 5 b
@[flagalg] theorem flag_setFlag_same_6 (p : Int) (b : Bool) : flag (setFlag p 6 b) 6 = b := flag_setFlag_same p 6 b
@[flagalg] theorem flag_setFlag_same_7 (p : Int) (b : Bool) : flag (setFlag p 7 b) 7 = b := flag_setFlag_same p 7 b
@[flagalg] theorem flag_setFlag_same_14 (p : Int) (b : Bool) : flag (setFlag p 14 b) 14 = b := flag_setFlag_same p 14 b
@[flagalg] theorem flag_setFlag_same_15 (p : Int) (b : Bool) : flag (setFlag p 15 b) 15 = b := flag_setFlag_same p 15 b

@[flagalg] theorem flag_setFlag_0_2 (p : Int) (b : Bool) : flag (setFlag p 0 b) 2 = flag p 2 :=
  flag_setFlag_ne p (by decide) b
@[flagalg] theorem flag_setFlag_0_3 (p : Int) (b : Bool) : flag (setFlag p 0 b) 3 = flag p 3 :=
  flag_setFlag_ne p (by decide) b
@[flagalg] theorem flag_setFlag_0_4 (p : Int) (b : Bool) : flag (setFlag p 0 b) 4 = flag p 4 :=
  flag_setFlag_ne p (by decide) b
@[flagalg] theorem flag_setFlag_0_5 (p : Int) (b : Bool) : flag (setFlag p 0 b) 5 = flag p 5 :=
  flag_setFlag_ne p (by decide) b
@[flagalg] theorem flag_setFlag_0_14 (p : Int) (b : Bool) : flag (setFlag p 0 b) 14 = flag p 14 :=
  flag_setFlag_ne p (by decide) b
@[flagalg] theorem flag_setFlag_0_15 (p : Int) (b : Bool) : flag (setFlag p 0 b) 15 = flag p 15 :=
  flag_setFlag_ne p (by decide) b
@[flagalg] theorem flag_setFlag_1_0 (p : Int) (b : Bool) : flag (setFlag p 1 b) 0 = flag p 0 :=
  flag_setFlag_ne p (by decide) b
@[flagalg] theorem flag_setFlag_1_2 (p : Int) (b : Bool) : flag (setFlag p 1 b) 2 = flag p 2 :=
  flag_setFlag_ne p (by decide) b
@[flagalg] theorem flag_setFlag_1_3 (p : Int) (b : Bool) : flag (setFlag p 1 b) 3 = flag p 3 :=
  flag_setFlag_ne p (by decide) b
@[flagalg] theorem flag_setFlag_1_4 (p : Int) (b : Bool) : flag (setFlag p 1 b) 4 = flag p 4 :=
  flag_setFlag_ne p (by decide) b
@[flagalg] theorem flag_setFlag_1_5 (p : Int) (b : Bool) : flag (setFlag p 1 b) 5 = flag p 5 :=
  flag_setFlag_ne p (by decide) b
@[flagalg] theorem flag_setFlag_1_6 (p : Int) (b : Bool) : flag (setFlag p 1 b) 6 = flag p 6 :=
  flag_setFlag_ne p (by decide) b
@[flagalg] theorem flag_setFlag_1_7 (p : Int) (b : Bool) : flag (setFlag p 1 b) 7 = flag p 7 :=
  flag_setFlag_ne p (by decide) b
@[flagalg] theorem flag_setFlag_1_14 (p : Int) (b : Bool) : flag (setFlag p 1 b) 14 = flag p 14 :=
  flag_setFlag_ne p (by decide) b
@[flagalg] theorem flag_setFlag_1_15 (p : Int) (b : Bool) : flag (setFlag p 1 b) 15 = flag p 15 :=
  flag_setFlag_ne p (by decide) b
@[flagalg] theorem flag_setFlag_2_0 (p : Int) (b : Bool) : flag (setFlag p 2 b) 0 = flag p 0 :=
  flag_setFlag_ne p (by decide) b
@[flagalg] theorem flag_setFlag_2_1 (p : Int) (b : Bool) : flag (setFlag p 2 b) 1 = flag p 1 :=
  flag_setFlag_ne p (by decide) b
@[flagalg] theorem flag_setFlag_2_3 (p : Int) (b : Bool) : flag (setFlag p 2 b) 3 = flag p 3 :=
  flag_setFlag_ne p (by decide) b
@[flagalg] theorem flag_setFlag_2_4 (p : Int) (b : Bool) : flag (setFlag p 2 b) 4 = flag p 4 :=
  flag_setFlag_ne p (by decide) b
@[flagalg] theorem flag_setFlag_2_5 (p : Int) (b : Bool) : flag (setFlag p 2 b) 5 = flag p 5 :=
  flag_setFlag_ne p (by decide) b
@[flagalg] theorem flag_setFlag_2_6 (p : Int) (b : Bool) : flag (setFlag p 2 b) 6 = flag p 6 :=
  flag_setFlag_ne p (by decide) b
@[flagalg] theorem flag_setFlag_2_7 (p : Int) (b : Bool) : flag (setFlag p 2 b) 7 = flag p 7 :=
  flag_setFlag_ne p (by decide) b
@[flagalg] theorem flag_setFlag_2_14 (p : Int) (b : Bool) : flag (setFlag p 2 b) 14 = flag p 14 :=
  flag_setFlag_ne p (by decide) b
@[flagalg] theorem flag_setFlag_2_15 (p : Int) (b : Bool) : flag (setFlag p 2 b) 15 = flag p 15 :=
  flag_setFlag_ne p (by decide) b
@[flagalg] theorem flag_setFlag_3_0 (p : Int) (b : Bool) : flag (setFlag p 3 b) 0 = flag p 0 :=
  flag_setFlag_ne p (by decide) b
@[flagalg] theorem flag_setFlag_3_1 (p : Int) (b : Bool) : flag (setFlag p 3 b) 1 = flag p 1 :=
  flag_setFlag_ne p (by decide) b
@[flagalg] theorem flag_setFlag_3_2 (p : Int) (b : Bool) : flag (setFlag p 3 b) 2 = flag p 2 :=
  flag_setFlag_ne p (by decide) b
@[flagalg] theorem flag_setFlag_3_4 (p : Int) (b : Bool) : flag (setFlag p 3 b) 4 = flag p 4 :=
  flag_setFlag_ne p (by decide) b
@[flagalg] theorem flag_setFlag_3_5 (p : Int) (b : Bool) : flag (setFlag p 3 b) 5 = flag p 5 :=
  flag_setFlag_ne p (by decide) b
@[flagalg] theorem flag_setFlag_3_6 (p : Int) (b : Bool) : flag (setFlag p 3 b) 6 = flag p 6 :=
  flag_setFlag_ne p (by decide) b
@[flagalg] theorem flag_setFlag_3_7 (p : Int) (b : Bool) : flag (setFlag p 3 b) 7 = flag p 7 :=
  flag_setFlag_ne p (by decide) b
@[flagalg] theorem flag_setFlag_3_14 (p : Int) (b : Bool) : flag (setFlag p 3 b) 14 = flag p 14 :=
  flag_setFlag_ne p (by decide) b
@[flagalg] theorem flag_setFlag_3_15 (p : Int) (b : Bool) : flag (setFlag p 3 b) 15 = flag p 15 :=
  flag_setFlag_ne p (by decide) b
@[flagalg] theorem flag_setFlag_4_0 (p : Int) (b : Bool) : flag (setFlag p 4 b) 0 = flag p 0 :=
  flag_setFlag_ne p (by decide) b
@[flagalg] theorem flag_setFlag_4_1 (p : Int) (b : Bool) : flag (setFlag p 4 b) 1 = flag p 1 :=
  flag_setFlag_ne p (by decide) b
@[flagalg] theorem flag_setFlag_4_2 (p : Int) (b : Bool) : flag (setFlag p 4 b) 2 = flag p 2 :=
  flag_setFlag_ne p (by decide) b
@[flagalg] theorem flag_setFlag_4_3 (p : Int) (b : Bool) : flag (setFlag p 4 b) 3 = flag p 3 :=
  flag_setFlag_ne p (by decide) b
@[flagalg] theorem flag_setFlag_4_5 (p : Int) (b : Bool) : flag (setFlag p 4 b) 5 = flag p 5 :=
  flag_setFlag_ne p (by decide) b
@[flagalg] theorem flag_setFlag_4_6 (p : Int) (b : Bool) : flag (setFlag p 4 b) 6 = flag p 6 :=
  flag_setFlag_ne p (by decide) b
@[flagalg] theorem flag_setFlag_4_7 (p : Int) (b : Bool) : flag (setFlag p 4 b) 7 = flag p 7 :=
  flag_setFlag_ne p (by decide) b
@[flagalg] theorem flag_setFlag_4_14 (p : Int) (b : Bool) : flag (setFlag p 4 b) 14 = flag p 14 :=
  flag_setFlag_ne p (by decide) b
@[flagalg] theorem flag_setFlag_4_15 (p : Int) (b : Bool) : flag (setFlag p 4 b) 15 = flag p 15 :=
  flag_setFlag_ne p (by decide) b
@[flagalg] theorem flag_setFlag_5_0 (p : Int) (b : Bool) : flag (setFlag p 5 b) 0 = flag p 0 :=
  flag_setFlag_ne p (by decide) b
@[flagalg] theorem flag_setFlag_5_1 (p : Int) (b : Bool) : flag (setFlag p 5 b) 1 = flag p 1 :=
  flag_setFlag_ne p (by decide) b
@[flagalg] theorem flag_setFlag_5_2 (p : Int) (b : Bool) : flag (setFlag p 5 b) 2 = flag p 2 :=
  flag_setFlag_ne p (by decide) b
@[flagalg] theorem flag_setFlag_5_3 (p : Int) (b : Bool) : flag (setFlag p 5 b) 3 = flag p 3 :=
  flag_setFlag_ne p (by decide) b
@[flagalg] theorem flag_setFlag_5_4 (p : Int) (b : Bool) : flag (setFlag p 5 b) 4 = flag p 4 :=
  flag_setFlag_ne p (by decide) b
@[flagalg] theorem flag_setFlag_5_6 (p : Int) (b : Bool) : flag (setFlag p 5 b) 6 = flag p 6 :=
  flag_setFlag_ne p (by decide) b
@[flagalg] theorem flag_setFlag_5_7 (p : Int) (b : Bool) : flag (setFlag p 5 b) 7 = flag p 7 :=
  flag_setFlag_ne p (by decide) b
@[flagalg] theorem flag_setFlag_5_14 (p : Int) (b : Bool) : flag (setFlag p 5 b) 14 = flag p 14 :=
  flag_setFlag_ne p (by decide) b
@[flagalg] theorem flag_setFlag_5_15 (p : Int) (b : Bool) : flag (setFlag p 5 b) 15 = flag p 15 :=
  flag_setFlag_ne p (by decide) b
@[flagalg] theorem flag_setFlag_6_0 (p : Int) (b : Bool) : flag (setFlag p 6 b) 0 = flag p 0 :=
  flag_setFlag_ne p (by decide) b
@[flagalg] theorem flag_setFlag_6_1 (p : Int) (b : Bool) : flag (setFlag p 6 b) 1 = flag p 1 :=
  flag_setFlag_ne p (by decide) b
@[flagalg] theorem flag_setFlag_6_2 (p : Int) (b : Bool) : flag (setFlag p 6 b) 2 = flag p 2 :=
  flag_setFlag_ne p (by decide) b
@[flagalg] theorem flag_setFlag_6_3 (p : Int) (b : Bool) : flag (setFlag p 6 b) 3 = flag p 3 :=
  flag_setFlag_ne p (by decide) b
@[flagalg] theorem flag_setFlag_6_4 (p : Int) (b : Bool) : flag (setFlag p 6 b) 4 = flag p 4 :=
  flag_setFlag_ne p (by decide) b
@[flagalg] theorem flag_setFlag_6_5 (p : Int) (b : Bool) : flag (setFlag p 6 b) 5 = flag p 5 :=
  flag_setFlag_ne p (by decide) b
@[flagalg] theorem flag_setFlag_6_14 (p : Int) (b : Bool) : flag (setFlag p 6 b) 14 = flag p 14 :=
  flag_setFlag_ne p (by decide) b
@[flagalg] theorem flag_setFlag_6_15 (p : Int) (b : Bool) : flag (setFlag p 6 b) 15 = flag p 15 :=
  flag_setFlag_ne p (by decide) b
@[flagalg] theorem flag_setFlag_7_0 (p : Int) (b : Bool) : flag (setFlag p 7 b) 0 = flag p 0 :=
  flag_setFlag_ne p (by decide) b
@[flagalg] theorem flag_setFlag_7_1 (p : Int) (b : Bool) : flag (setFlag p 7 b) 1 = flag p 1 :=
  flag_setFlag_ne p (by decide) b
@[flagalg] theorem flag_setFlag_7_2 (p : Int) (b : Bool) : flag (setFlag p 7 b) 2 = flag p 2 :=
  flag_setFlag_ne p (by decide) b
@[flagalg] theorem flag_setFlag_7_3 (p : Int) (b : Bool) : flag (setFlag p 7 b) 3 = flag p 3 :=
  flag_setFlag_ne p (by decide) b
@[flagalg] theorem flag_setFlag_7_4 (p : Int) (b : Bool) : flag (setFlag p 7 b) 4 = flag p 4 :=
  flag_setFlag_ne p (by decide) b
@[flagalg] theorem flag_setFlag_7_5 (p : Int) (b : Bool) : flag (setFlag p 7 b) 5 = flag p 5 :=
  flag_setFlag_ne p (by decide) b
@[flagalg] theorem flag_setFlag_7_6 (p : Int) (b : Bool) : flag (setFlag p 7 b) 6 = flag p 6 :=
  flag_setFlag_ne p (by decide) b
@[flagalg] theorem flag_setFlag_7_14 (p : Int) (b : Bool) : flag (setFlag p 7 b) 14 = flag p 14 :=
  flag_setFlag_ne p (by decide) b
@[flagalg] theorem flag_setFlag_7_15 (p : Int) (b : Bool) : flag (setFlag p 7 b) 15 = flag p 15 :=
  flag_setFlag_ne p (by decide) b
@[flagalg] theorem flag_setFlag_14_0 (p : Int) (b : Bool) : flag (setFlag p 14 b) 0 = flag p 0 :=
  flag_setFlag_ne p (by decide) b
@[flagalg] theorem flag_setFlag_14_1 (p : Int) (b : Bool) : flag (setFlag p 14 b) 1 = flag p 1 :=
  flag_setFlag_ne p (by decide) b
@[flagalg] theorem flag_setFlag_14_2 (p : Int) (b : Bool) : flag (setFlag p 14 b) 2 = flag p 2 :=
  flag_setFlag_ne p (by decide) b
@[flagalg] theorem flag_setFlag_14_3 (p : Int) (b : Bool) : flag (setFlag p 14 b) 3 = flag p 3 :=
  flag_setFlag_ne p (by decide) b
@[flagalg] theorem flag_setFlag_14_4 (p : Int) (b : Bool) : flag (setFlag p 14 b) 4 = flag p 4 :=
  flag_setFlag_ne p (by decide) b
@[flagalg] theorem flag_setFlag_14_5 (p : Int) (b : Bool) : flag (setFlag p 14 b) 5 = flag p 5 :=
  flag_setFlag_ne p (by decide) b
@[flagalg] theorem flag_setFlag_14_6 (p : Int) (b : Bool) : flag (setFlag p 14 b) 6 = flag p 6 :=
  flag_setFlag_ne p (by decide) b
@[flagalg] theorem flag_setFlag_14_7 (p : Int) (b : Bool) : flag (setFlag p 14 b) 7 = flag p 7 :=
  flag_setFlag_ne p (by decide) b
@[flagalg] theorem flag_setFlag_14_15 (p : Int) (b : Bool) : flag (setFlag p 14 b) 15 = flag p 15 :=
  flag_setFlag_ne p (by decide) b
@[flagalg] theorem flag_setFlag_15_0 (p : Int) (b : Bool) : flag (setFlag p 15 b) 0 = flag p 0 :=
  flag_setFlag_ne p (by decide) b
@[flagalg] theorem flag_setFlag_15_1 (p : Int) (b : Bool) : flag (setFlag p 15 b) 1 = flag p 1 :=
  flag_setFlag_ne p (by decide) b
@[flagalg] theorem flag_setFlag_15_2 (p : Int) (b : Bool) : flag (setFlag p 15 b) 2 = flag p 2 :=
  flag_setFlag_ne p (by decide) b
@[flagalg] theorem flag_setFlag_15_3 (p : Int) (b : Bool) : flag (setFlag p 15 b) 3 = flag p 3 :=
  flag_setFlag_ne p (by decide) b
@[flagalg] theorem flag_setFlag_15_4 (p : Int) (b : Bool) : flag (setFlag p 15 b) 4 = flag p 4 :=
  flag_setFlag_ne p (by decide) b
@[flagalg] theorem flag_setFlag_15_5 (p : Int) (b : Bool) : flag (setFlag p 15 b) 5 = flag p 5 :=
  flag_setFlag_ne p (by decide) b
@[flagalg] theorem flag_setFlag_15_6 (p : Int) (b : Bool) : flag (setFlag p 15 b) 6 = flag p 6 :=
  flag_setFlag_ne p (by decide) b
@[flagalg] theorem flag_setFlag_15_7 (p : Int) (b : Bool) : flag (setFlag p 15 b) 7 = flag p 7 :=
  flag_setFlag_ne p (by decide) b
@[flagalg] theorem flag_setFlag_15_14 (p : Int) (b : Bool) : flag (setFlag p 15 b) 14 = flag p 14 :=
  flag_setFlag_ne p (by decide) b

@[flagalg] theorem setFlag_comm_1_0 (p : Int) (b c : Bool) :
    setFlag (setFlag p 1 b) 0 c = setFlag (setFlag p 0 c) 1 b := setFlag_comm p (by decide) b c
@[flagalg] theorem setFlag_comm_2_0 (p : Int) (b c : Bool) :
    setFlag (setFlag p 2 b) 0 c = setFlag (setFlag p 0 c) 2 b := setFlag_comm p (by decide) b c
@[flagalg] theorem setFlag_comm_2_1 (p : Int) (b c : Bool) :
    setFlag (setFlag p 2 b) 1 c = setFlag (setFlag p 1 c) 2 b := setFlag_comm p (by decide) b c
@[flagalg] theorem setFlag_comm_3_0 (p : Int) (b c : Bool) :
    setFlag (setFlag p 3 b) 0 c = setFlag (setFlag p 0 c) 3 b := setFlag_comm p (by decide) b c
@[flagalg] theorem setFlag_comm_3_1 (p : Int) (b c : Bool) :
    setFlag (setFlag p 3 b) 1 c = setFlag (setFlag p 1 c) 3 b := setFlag_comm p (by decide) b c
@[flagalg] theorem setFlag_comm_3_2 (p : Int) (b c : Bool) :
    setFlag (setFlag p 3 b) 2 c = setFlag (setFlag p 2 c) 3 b := setFlag_comm p (by decide) b c
@[flagalg] theorem setFlag_comm_4_0 (p : Int) (b c : Bool) :
    setFlag (setFlag p 4 b) 0 c = setFlag (setFlag p 0 c) 4 b := setFlag_comm p (by decide) b c
@[flagalg] theorem setFlag_comm_4_1 (p : Int) (b c : Bool) :
    setFlag (setFlag p 4 b) 1 c = setFlag (setFlag p 1 c) 4 b := setFlag_comm p (by decide) b c
@[flagalg] theorem setFlag_comm_4_2 (p : Int) (b c : Bool) :
    setFlag (setFlag p 4 b) 2 c = setFlag (setFlag p 2 c) 4 b := setFlag_comm p (by decide) b c
@[flagalg] theorem setFlag_comm_4_3 (p : Int) (b c : Bool) :
    setFlag (setFlag p 4 b) 3 c = setFlag (setFlag p 3 c) 4 b := setFlag_comm p (by decide) b c
@[flagalg] theorem setFlag_comm_5_0 (p : Int) (b c : Bool) :
    setFlag (setFlag p 5 b) 0 c = setFlag (setFlag p 0 c) 5 b := setFlag_comm p (by decide) b c
@[flagalg] theorem setFlag_comm_5_1 (p : Int) (b c : Bool) :
    setFlag (setFlag p 5 b) 1 c = setFlag (setFlag p 1 c) 5 b := setFlag_comm p (by decide) b c
@[flagalg] theorem setFlag_comm_5_2 (p : Int) (b c : Bool) :
    setFlag (setFlag p 5 b) 2 c = setFlag (setFlag p 2 c) 5 b := setFlag_comm p (by decide) b c
@[flagalg] theorem setFlag_comm_5_3 (p : Int) (b c : Bool) :
    setFlag (setFlag p 5 b) 3 c = setFlag (setFlag p 3 c) 5 b := setFlag_comm p (by decide) b c
@[flagalg] theorem setFlag_comm_5_4 (p : Int) (b c : Bool) :
    setFlag (setFlag p 5 b) 4 c = setFlag (setFlag p 4 c) 5 b := setFlag_comm p (by decide) b c
@[flagalg] theorem setFlag_comm_6_0 (p : Int) (b c : Bool) :
    setFlag (setFlag p 6 b) 0 c = setFlag (setFlag p 0 c) 6 b := setFlag_comm p (by decide) b c
@[flagalg] theorem setFlag_comm_6_1 (p : Int) (b c : Bool) :
    setFlag (setFlag p 6 b) 1 c = setFlag (setFlag p 1 c) 6 b := setFlag_comm p (by decide) b c
@[flagalg] theorem setFlag_comm_6_2 (p : Int) (b c : Bool) :
    setFlag (setFlag p 6 b) 2 c = setFlag (setFlag p 2 c) 6 b := setFlag_comm p (by decide) b c
@[flagalg] theorem setFlag_comm_6_3 (p : Int) (b c : Bool) :
    setFlag (setFlag p 6 b) 3 c = setFlag (setFlag p 3 c) 6 b := setFlag_comm p (by decide) b c
@[flagalg] theorem setFlag_comm_6_4 (p : Int) (b c : Bool) :
    setFlag (setFlag p 6 b) 4 c = setFlag (setFlag p 4 c) 6 b := setFlag_comm p (by decide) b c
@[flagalg] theorem setFlag_comm_6_5 (p : Int) (b c : Bool) :
    setFlag (setFlag p 6 b) 5 c = setFlag (setFlag p 5 c) 6 b := setFlag_comm p (by decide) b c
@[flagalg] theorem setFlag_comm_7_0 (p : Int) (b c : Bool) :
    setFlag (setFlag p 7 b) 0 c = setFlag (setFlag p 0 c) 7 b := setFlag_comm p (by decide) b c
@[flagalg] theorem setFlag_comm_7_1 (p : Int) (b c : Bool) :
    setFlag (setFlag p 7 b) 1 c = setFlag (setFlag p 1 c) 7 b := setFlag_comm p (by decide) b c
@[flagalg] theorem setFlag_comm_7_2 (p : Int) (b c : Bool) :
    setFlag (setFlag p 7 b) 2 c = setFlag (setFlag p 2 c) 7 b := setFlag_comm p (by decide) b c
@[flagalg] theorem setFlag_comm_7_3 (p : Int) (b c : Bool) :
    setFlag (setFlag p 7 b) 3 c = setFlag (setFlag p 3 c) 7 b := setFlag_comm p (by decide) b c
@[flagalg] theorem setFlag_comm_7_4 (p : Int) (b c : Bool) :
    setFlag (setFlag p 7 b) 4 c = setFlag (setFlag p 4 c) 7 b := setFlag_comm p (by decide) b c
@[flagalg] theorem setFlag_comm_7_5 (p : Int) (b c : Bool) :
    setFlag (setFlag p 7 b) 5 c = setFlag (setFlag p 5 c) 7 b := setFlag_comm p (by decide) b c
@[flagalg] theorem setFlag_comm_7_6 (p : Int) (b c : Bool) :
    setFlag (setFlag p 7 b) 6 c = setFlag (setFlag p 6 c) 7 b := setFlag_comm p (by decide) b c
@[flagalg] theorem setFlag_comm_14_0 (p : Int) (b c : Bool) :
    setFlag (setFlag p 14 b) 0 c = setFlag (setFlag p 0 c) 14 b := setFlag_comm p (by decide) b c
@[flagalg] theorem setFlag_comm_14_1 (p : Int) (b c : Bool) :
    setFlag (setFlag p 14 b) 1 c = setFlag (setFlag p 1 c) 14 b := setFlag_comm p (by decide) b c
@[flagalg] theorem setFlag_comm_14_2 (p : Int) (b c : Bool) :
    setFlag (setFlag p 14 b) 2 c = setFlag (setFlag p 2 c) 14 b := setFlag_comm p (by decide) b c
@[flagalg] theorem setFlag_comm_14_3 (p : Int) (b c : Bool) :
    setFlag (setFlag p 14 b) 3 c = setFlag (setFlag p 3 c) 14 b := setFlag_comm p (by decide) b c
@[flagalg] theorem setFlag_comm_14_4 (p : Int) (b c : Bool) :
    setFlag (setFlag p 14 b) 4 c = setFlag (setFlag p 4 c) 14 b := setFlag_comm p (by decide) b c
@[flagalg] theorem setFlag_comm_14_5 (p : Int) (b c : Bool) :
    setFlag (setFlag p 14 b) 5 c = setFlag (setFlag p 5 c) 14 b := setFlag_comm p (by decide) b c
@[flagalg] theorem setFlag_comm_14_6 (p : Int) (b c : Bool) :
    setFlag (setFlag p 14 b) 6 c = setFlag (setFlag p 6 c) 14 b := setFlag_comm p (by decide) b c
@[flagalg] theorem setFlag_comm_14_7 (p : Int) (b c : Bool) :
    setFlag (setFlag p 14 b) 7 c = setFlag (setFlag p 7 c) 14 b := setFlag_comm p (by decide) b c
@[flagalg] theorem setFlag_comm_15_0 (p : Int) (b c : Bool) :
    setFlag (setFlag p 15 b) 0 c = setFlag (setFlag p 0 c) 15 b := setFlag_comm p (by decide) b c
@[flagalg] theorem setFlag_comm_15_1 (p : Int) (b c : Bool) :
    setFlag (setFlag p 15 b) 1 c = setFlag (setFlag p 1 c) 15 b := setFlag_comm p (by decide) b c
@[flagalg] theorem setFlag_comm_15_2 (p : Int) (b c : Bool) :
    setFlag (setFlag p 15 b) 2 c = setFlag (setFlag p 2 c) 15 b := setFlag_comm p (by decide) b c
@[flagalg] theorem setFlag_comm_15_3 (p : Int) (b c : Bool) :
    setFlag (setFlag p 15 b) 3 c = setFlag (setFlag p 3 c) 15 b := setFlag_comm p (by decide) b c
@[flagalg] theorem setFlag_comm_15_4 (p : Int) (b c : Bool) :
    setFlag (setFlag p 15 b) 4 c = setFlag (setFlag p 4 c) 15 b := setFlag_comm p (by decide) b c
@[flagalg] theorem setFlag_comm_15_5 (p : Int) (b c : Bool) :
    setFlag (setFlag p 15 b) 5 c = setFlag (setFlag p 5 c) 15 b := setFlag_comm p (by decide) b c
@[flagalg] theorem setFlag_comm_15_6 (p : Int) (b c : Bool) :
    setFlag (setFlag p 15 b) 6 c = setFlag (setFlag p 6 c) 15 b := setFlag_comm p (by decide) b c
@[flagalg] theorem setFlag_comm_15_7 (p : Int) (b c : Bool) :
    setFlag (setFlag p 15 b) 7 c = setFlag (setFlag p 7 c) 15 b := setFlag_comm p (by decide) b c
@[flagalg] theorem setFlag_comm_15_14 (p : Int) (b c : Bool) :
    setFlag (setFlag p 15 b) 14 c = setFlag (setFlag p 14 c) 15 b := setFlag_comm p (by decide) b c

@[flagalg] theorem lor_zero (p : Int) : lor p 0 = p := by
  apply tb_ext; intro i; rw [tb_lor, tb_zero, Bool.or_false]

@[flagalg] theorem land_zero (p : Int) : land p 0 = 0 := by
  apply tb_ext; intro i; rw [tb_land, tb_zero, Bool.and_false]

@[flagalg] theorem land_clear_1 (p : Int) : land p (-2) = setFlag p 0 false := land_lnot_two_pow p 0
@[flagalg] theorem land_clear_2 (p : Int) : land p (-3) = setFlag p 1 false := land_lnot_two_pow p 1
@[flagalg] theorem land_clear_4 (p : Int) : land p (-5) = setFlag p 2 false := land_lnot_two_pow p 2
@[flagalg] theorem land_clear_8 (p : Int) : land p (-9) = setFlag p 3 false := land_lnot_two_pow p 3
@[flagalg] theorem land_clear_16 (p : Int) : land p (-17) = setFlag p 4 false := land_lnot_two_pow p 4
@[flagalg] theorem land_clear_64 (p : Int) : land p (-65) = setFlag p 6 false := land_lnot_two_pow p 6
@[flagalg] theorem land_clear_130 (p : Int) : land p (-131) = setFlag (setFlag p 1 false) 7 false :=
  land_lnot_foldl p [1, 7]
@[flagalg] theorem land_clear_131 (p : Int) : land p (-132) = setFlag (setFlag (setFlag p 0 false) 1 false) 7 false :=
  land_lnot_foldl p [0, 1, 7]
@[flagalg] theorem land_clear_194 (p : Int) : land p (-195) = setFlag (setFlag (setFlag p 1 false) 6 false) 7 false :=
  land_lnot_foldl p [1, 6, 7]
@[flagalg] theorem land_clear_195 (p : Int) : land p (-196) = setFlag (setFlag (setFlag (setFlag p 0 false) 1 false) 6 false) 7 false :=
  land_lnot_foldl p [0, 1, 6, 7]
@[flagalg] theorem land_clear_16384 (p : Int) : land p (-16385) = setFlag p 14 false := land_lnot_two_pow p 14
@[flagalg] theorem land_clear_32770 (p : Int) : land p (-32771) = setFlag (setFlag p 1 false) 15 false :=
  land_lnot_foldl p [1, 15]
@[flagalg] theorem land_clear_32771 (p : Int) : land p (-32772) = setFlag (setFlag (setFlag p 0 false) 1 false) 15 false :=
  land_lnot_foldl p [0, 1, 15]
@[flagalg] theorem land_clear_49154 (p : Int) : land p (-49155) = setFlag (setFlag (setFlag p 1 false) 14 false) 15 false :=
  land_lnot_foldl p [1, 14, 15]
@[flagalg] theorem land_clear_49155 (p : Int) : land p (-49156) = setFlag (setFlag (setFlag (setFlag p 0 false) 1 false) 14 false) 15 false :=
  land_lnot_foldl p [0, 1, 14, 15]

@[flagalg ↓] theorem lor_land_flag_192 (p v : Int) : lor p (land v 192) = setFlag (setFlag p 6 (flag p 6 || flag v 6)) 7 (flag p 7 || flag v 7) :=
  lor_land_two_pow_two_pow p v 6 7 (by decide)
@[flagalg ↓] theorem lor_land_flag_49152 (p v : Int) : lor p (land v 49152) = setFlag (setFlag p 14 (flag p 14 || flag v 14)) 15 (flag p 15 || flag v 15) :=
  lor_land_two_pow_two_pow p v 14 15 (by decide)

@[flagalg] theorem lor_set_3 (p : Int) : lor p 3 = setFlag (setFlag p 0 true) 1 true := lor_two_pow_two_pow p 0 1
@[flagalg] theorem lor_set_48 (p : Int) : lor p 48 = setFlag (setFlag p 4 true) 5 true := lor_two_pow_two_pow p 4 5

end Py65.Proofs
