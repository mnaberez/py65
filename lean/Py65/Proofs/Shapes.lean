/-
What the access and the cycle aspect both need to know of the handlers that touch no memory beyond
their opcode (`RegOnly`) and of the branches (`BranchShape`).
-/
import Py65.Proofs.Ops5
set_option linter.unusedSimpArgs false
namespace Py65.Proofs
open Py65 Py65.Gen Py65.Spec Py

/-- A handler or helper that works on registers and flags only: the access log and both cycle
counters are as before.  Proved once per handler, used by the access and by the cycle aspect. -/
def RegOnly (h : St → St) : Prop :=
  ∀ s, (h s).log = s.log ∧ (h s).cycles = s.cycles ∧ (h s).excycles = s.excycles

set_option hygiene false in
macro "reg_only" "[" ls:Lean.Parser.Tactic.simpLemma,* "]" : tactic =>
  `(tactic| (
    intro s
    dsimp +instances only [$ls,*, Mpu6502.FlagsNZ, Mpu6502.opSET, Mpu6502.opCLR]
    try simp +instances only [apply_ite Prod.snd, apply_ite Prod.fst, apply_ite St.log, apply_ite St.cycles,
      apply_ite St.excycles, ite_self, and_self]))

section
variable (c : Cfg)
theorem opASL_acc_reg : RegOnly (Mpu6502.opASL_acc c) := by reg_only [Mpu6502.opASL_acc]
theorem opLSR_acc_reg : RegOnly (Mpu6502.opLSR_acc c) := by reg_only [Mpu6502.opLSR_acc]
theorem opROL_acc_reg : RegOnly (Mpu6502.opROL_acc c) := by reg_only [Mpu6502.opROL_acc]
theorem opROR_acc_reg : RegOnly (Mpu6502.opROR_acc c) := by reg_only [Mpu6502.opROR_acc]
theorem opINCR_acc_reg : RegOnly (Mpu6502.opINCR_acc c) := by reg_only [Mpu6502.opINCR_acc]
theorem opDECR_acc_reg : RegOnly (Mpu6502.opDECR_acc c) := by reg_only [Mpu6502.opDECR_acc]
theorem r_18 : RegOnly (Mpu6502.inst_0x18 c) := by reg_only [Mpu6502.inst_0x18]
theorem r_38 : RegOnly (Mpu6502.inst_0x38 c) := by reg_only [Mpu6502.inst_0x38]
theorem r_58 : RegOnly (Mpu6502.inst_0x58 c) := by reg_only [Mpu6502.inst_0x58]
theorem r_78 : RegOnly (Mpu6502.inst_0x78 c) := by reg_only [Mpu6502.inst_0x78]
theorem r_b8 : RegOnly (Mpu6502.inst_0xb8 c) := by reg_only [Mpu6502.inst_0xb8]
theorem r_d8 : RegOnly (Mpu6502.inst_0xd8 c) := by reg_only [Mpu6502.inst_0xd8]
theorem r_f8 : RegOnly (Mpu6502.inst_0xf8 c) := by reg_only [Mpu6502.inst_0xf8]
theorem r_aa : RegOnly (Mpu6502.inst_0xaa c) := by reg_only [Mpu6502.inst_0xaa]
theorem r_a8 : RegOnly (Mpu6502.inst_0xa8 c) := by reg_only [Mpu6502.inst_0xa8]
theorem r_8a : RegOnly (Mpu6502.inst_0x8a c) := by reg_only [Mpu6502.inst_0x8a]
theorem r_98 : RegOnly (Mpu6502.inst_0x98 c) := by reg_only [Mpu6502.inst_0x98]
theorem r_ba : RegOnly (Mpu6502.inst_0xba c) := by reg_only [Mpu6502.inst_0xba]
theorem r_9a : RegOnly (Mpu6502.inst_0x9a c) := by reg_only [Mpu6502.inst_0x9a]
theorem r_e8 : RegOnly (Mpu6502.inst_0xe8 c) := by reg_only [Mpu6502.inst_0xe8]
theorem r_c8 : RegOnly (Mpu6502.inst_0xc8 c) := by reg_only [Mpu6502.inst_0xc8]
theorem r_ca : RegOnly (Mpu6502.inst_0xca c) := by reg_only [Mpu6502.inst_0xca]
theorem r_88 : RegOnly (Mpu6502.inst_0x88 c) := by reg_only [Mpu6502.inst_0x88]
theorem r_ea : RegOnly (Mpu6502.inst_0xea c) := fun _ => ⟨rfl, rfl, rfl⟩
end

theorem rc_cb (c : Cfg) : RegOnly (Mpu65c02.inst_0xcb c) := fun _ => ⟨rfl, rfl, rfl⟩

/-- The branch target before it is reduced to the address space (`s.pc` at the displacement byte). -/
def relTarget (c : Cfg) (s : St) : Int :=
  if land (s.mem s.pc) c.NEGATIVE ≠ 0 then s.pc + 1 - lxor (s.mem s.pc) c.byteMask - 1
  else s.pc + 1 + s.mem s.pc

theorem BranchRelAddr_eq (c : Cfg) (s : St) :
    Mpu6502.BranchRelAddr c s =
      { s with
        pc := land (relTarget c s) c.addrMask
        excycles := s.excycles + 1 +
          (if land (s.pc + 1) c.addrHighMask ≠ land (relTarget c s) c.addrHighMask then 1 else 0)
        log := MemEv.r s.pc :: s.log } := by
  have e : ∀ t : St,
      (if land (s.mem s.pc) c.NEGATIVE ≠ 0 then (s.pc + 1 - lxor (s.mem s.pc) c.byteMask - 1, t)
        else (s.pc + 1 + s.mem s.pc, t)) = (relTarget c s, t) := by
    intro t; unfold relTarget; split <;> rfl
  dsimp +instances only [Mpu6502.BranchRelAddr, Mpu6502.ImmediateByte, Mpu6502.ByteAt, memGet]
  simp +instances only [e]
  split <;> simp

/-- What every branch handler is: the branch helper when the specification's condition holds of the
status register, else a step over the displacement byte. -/
def BranchShape (c : Cfg) (f : St → St) (mn : Mn) : Prop :=
  ∀ s, f s = if branchCond c.BYTE_WIDTH mn s.p then Mpu6502.BranchRelAddr c s else { s with pc := s.pc + 1 }

/-- `opBCL` branches when the tested flag is clear, `opBST` when it is set; `hx` says which flag
the mask `x` tests. -/
theorem opBCL_shape (c : Cfg) (x : Int) (k : Nat) (mn : Mn)
    (hx : ∀ p : Int, (land p x ≠ 0) = (flag p k = true))
    (hcond : ∀ p, branchCond c.BYTE_WIDTH mn p = !flag p k) : BranchShape c (Mpu6502.opBCL c x) mn := by
  intro s
  simp only [Mpu6502.opBCL, hx, hcond]
  cases flag s.p k <;> rfl

theorem opBST_shape (c : Cfg) (x : Int) (k : Nat) (mn : Mn)
    (hx : ∀ p : Int, (land p x ≠ 0) = (flag p k = true))
    (hcond : ∀ p, branchCond c.BYTE_WIDTH mn p = flag p k) : BranchShape c (Mpu6502.opBST c x) mn := by
  intro s
  simp only [Mpu6502.opBST, hx, hcond]

theorem b_10 (c : Cfg) (hc : IsDev c) : BranchShape c (Mpu6502.inst_0x10 c) .BPL :=
  opBCL_shape c _ _ .BPL (fun p => (flag_tests hc p).2.2.2) fun _ => rfl
theorem b_30 (c : Cfg) (hc : IsDev c) : BranchShape c (Mpu6502.inst_0x30 c) .BMI :=
  opBST_shape c _ _ .BMI (fun p => (flag_tests hc p).2.2.2) fun _ => rfl
theorem b_50 (c : Cfg) (hc : IsDev c) : BranchShape c (Mpu6502.inst_0x50 c) .BVC :=
  opBCL_shape c _ _ .BVC (fun p => (flag_tests hc p).2.2.1) fun _ => rfl
theorem b_70 (c : Cfg) (hc : IsDev c) : BranchShape c (Mpu6502.inst_0x70 c) .BVS :=
  opBST_shape c _ _ .BVS (fun p => (flag_tests hc p).2.2.1) fun _ => rfl
theorem b_90 (c : Cfg) (hc : IsDev c) : BranchShape c (Mpu6502.inst_0x90 c) .BCC :=
  opBCL_shape c _ _ .BCC (fun p => (flag_tests hc p).1) fun _ => rfl
theorem b_b0 (c : Cfg) (hc : IsDev c) : BranchShape c (Mpu6502.inst_0xb0 c) .BCS :=
  opBST_shape c _ _ .BCS (fun p => (flag_tests hc p).1) fun _ => rfl
theorem b_d0 (c : Cfg) (hc : IsDev c) : BranchShape c (Mpu6502.inst_0xd0 c) .BNE :=
  opBCL_shape c _ _ .BNE (fun p => (flag_tests hc p).2.1) fun _ => rfl
theorem b_f0 (c : Cfg) (hc : IsDev c) : BranchShape c (Mpu6502.inst_0xf0 c) .BEQ :=
  opBST_shape c _ _ .BEQ (fun p => (flag_tests hc p).2.1) fun _ => rfl

end Py65.Proofs
