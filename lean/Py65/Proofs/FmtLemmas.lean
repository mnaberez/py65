/-
Helper lemmas for C19 (`Py65/Props/C19b.lean`) about the display model `Py65/Model/Fmt.lean`:
fixed-width columns, the register line read back by `parseLine2`, the flag digits as bits,
the byte-dump loop of `_format_disassembly`.
-/
import Py65.Proofs.NumLemmas
import Py65.Model.Fmt
import Mathlib.Tactic.NormNum

namespace Py65.Proofs.Fmt
open Py65.Model.PyStr Py65.Model.Fmt Py65.Proofs.Num

theorem takeCol_append (f rest : Str) (w : Nat) (h : f.length = w) : takeCol w (f ++ rest) = (f, rest) := by
  subst h
  simp [takeCol]

theorem afterNewline_append (xs ys : Str) (h : '\n' ∉ xs) : afterNewline (xs ++ '\n' :: ys) = ys := by
  induction xs with
  | nil => simp [afterNewline]
  | cons c cs ih =>
    have hc : c ≠ '\n' := fun e => h (by simp [e])
    have hcs : '\n' ∉ cs := fun e => h (by simp [e])
    simp [afterNewline, hc, ih hcs]

/-- `"%0<w>x" % n` has exactly `w` characters when `n < 16^w` (`w ≥ 1`). -/
theorem fmtHexL_length (w n : Nat) (hw : 0 < w) (hn : n < 16 ^ w) : (fmtHexL w n).length = w := by
  obtain ⟨k, rfl⟩ : ∃ k, w = k + 1 := ⟨w - 1, by omega⟩
  exact rjustL_toDigits_length (by decide) k n hn

/-- `int("%0<w>x" % n, 16) = n` on character lists. -/
theorem pyIntL_fmtHexL (w n : Nat) : pyIntL (fmtHexL w n) 16 = some (n : Int) :=
  pyIntL_rjustL_toDigits (by decide) (by decide) rfl w n

/-- The flag digits: `W` characters for `p < 2^W`, reading back to `p` in base 2. -/
theorem flags_length (d : Dev) (p : Nat) (hw : 0 < d.byteWidth) (hp : p < 2 ^ d.byteWidth) :
    (flags d p).length = d.byteWidth := by
  obtain ⟨k, hk⟩ : ∃ k, d.byteWidth = k + 1 := ⟨d.byteWidth - 1, by omega⟩
  unfold flags fmtBinL
  rw [hk] at hp ⊢
  exact rjustL_toDigits_length (by decide) k p hp

theorem pyIntL_flags (d : Dev) (p : Nat) : pyIntL (flags d p) 2 = some (p : Int) :=
  pyIntL_rjustL_toDigits (by decide) (by decide) rfl d.byteWidth p

/-- `parseLine2` on a line made of fields of the right widths. -/
theorem parseLine2_fields (d : Dev) (fpc fa fx fy fsp fp : Str)
    (hpc : fpc.length = d.addrDigits) (ha : fa.length = d.byteDigits) (hx : fx.length = d.byteDigits)
    (hy : fy.length = d.byteDigits) (hsp : fsp.length = d.byteDigits) (hp : fp.length = d.byteWidth)
    (r : Regs) (vpc : pyIntL fpc 16 = some (r.pc : Int)) (va : pyIntL fa 16 = some (r.a : Int))
    (vx : pyIntL fx 16 = some (r.x : Int)) (vy : pyIntL fy 16 = some (r.y : Int))
    (vsp : pyIntL fsp 16 = some (r.sp : Int)) (vp : pyIntL fp 2 = some (r.p : Int)) :
    parseLine2 d (d.name ++ ':' :: ' ' :: (fpc ++ ' ' :: (fa ++ ' ' :: (fx ++ ' ' :: (fy ++ ' ' :: (fsp ++ ' ' :: fp)))))) =
      some r := by
  have hdrop : (d.name ++ ':' :: ' ' :: (fpc ++ ' ' :: (fa ++ ' ' :: (fx ++ ' ' :: (fy ++ ' ' :: (fsp ++ ' ' :: fp)))))).drop
      (d.name.length + 2) = fpc ++ ' ' :: (fa ++ ' ' :: (fx ++ ' ' :: (fy ++ ' ' :: (fsp ++ ' ' :: fp)))) := by
    rw [List.drop_append]
    simp
  unfold parseLine2
  simp only [hdrop, takeCol_append _ _ _ hpc, takeCol_append _ _ _ ha, takeCol_append _ _ _ hx,
    takeCol_append _ _ _ hy, takeCol_append _ _ _ hsp, List.drop_succ_cons, List.drop_zero, hp, ne_eq,
    not_true_eq_false, if_false, vpc, va, vx, vy, vsp, vp, Int.toNat_natCast]

theorem reprLine2_eq (d : Dev) (r : Regs) :
    reprLine2 d r = d.name ++ ':' :: ' ' :: (fmtHexL d.addrDigits r.pc ++ ' ' :: (fmtHexL d.byteDigits r.a ++ ' ' ::
      (fmtHexL d.byteDigits r.x ++ ' ' :: (fmtHexL d.byteDigits r.y ++ ' ' :: (fmtHexL d.byteDigits r.sp ++ ' ' ::
        flags d r.p))))) := by
  simp [reprLine2, List.append_assoc]

/-- A device whose formats fit its widths (true of the three devices, by evaluation). -/
structure DevOK (d : Dev) : Prop where
  bw : 0 < d.byteWidth
  bd : 0 < d.byteDigits
  ad : 0 < d.addrDigits
  bfit : 2 ^ d.byteWidth = 16 ^ d.byteDigits
  afit : 2 ^ d.addrWidth = 16 ^ d.addrDigits
  nonl : '\n' ∉ reprLine1 d
  fw : fieldWidth d = 1 + (d.byteDigits + 1) * 3

theorem devOK_of_mem {d : Dev} (h : d ∈ devices) : DevOK d := by
  simp only [devices, List.mem_cons, List.mem_nil_iff, or_false] at h
  rcases h with rfl | rfl | rfl
  · exact ⟨by decide, by decide, by decide, by norm_num [dev6502], by norm_num [dev6502], by decide, by decide⟩
  · exact ⟨by decide, by decide, by decide, by norm_num [dev65c02], by norm_num [dev65c02], by decide, by decide⟩
  · exact ⟨by decide, by decide, by decide, by norm_num [dev65org16], by norm_num [dev65org16], by decide, by decide⟩

theorem parseLine2_repr (d : Dev) (hd : DevOK d) (r : Regs) (hr : r.WF d) :
    parseLine2 d (afterNewline (Model.Fmt.repr d r)) = some r := by
  obtain ⟨hpc, ha, hx, hy, hsp, hp⟩ := hr
  have e : afterNewline (Model.Fmt.repr d r) = reprLine2 d r := by
    unfold Model.Fmt.repr
    rw [List.append_assoc, List.singleton_append]
    exact afterNewline_append _ _ hd.nonl
  rw [e, reprLine2_eq]
  have hb : ∀ {n}, n < 2 ^ d.byteWidth → (fmtHexL d.byteDigits n).length = d.byteDigits := fun h =>
    fmtHexL_length _ _ hd.bd (hd.bfit ▸ h)
  exact parseLine2_fields d _ _ _ _ _ _ (fmtHexL_length _ _ hd.ad (hd.afit ▸ hpc)) (hb ha) (hb hx) (hb hy) (hb hsp)
    (flags_length d r.p hd.bw hp) r (pyIntL_fmtHexL _ _) (pyIntL_fmtHexL _ _) (pyIntL_fmtHexL _ _)
    (pyIntL_fmtHexL _ _) (pyIntL_fmtHexL _ _) (pyIntL_flags _ _)

/-- Bits `W-1 … 0` of `p`, most significant first, as flag characters. -/
def bitChars (W p : Nat) : Str := (List.range W).reverse.map (flagChar p)

theorem digitChar_mod_two (p : Nat) : digitChar (p % 2) = flagChar p 0 := by
  rcases Nat.mod_two_eq_zero_or_one p with h | h <;> simp [flagChar, h, digitChar]

theorem flagChar_succ (p i : Nat) : flagChar p (i + 1) = flagChar (p / 2) i := by
  unfold flagChar
  rw [Nat.pow_succ', Nat.div_div_eq_div_mul]

theorem bitChars_succ (W p : Nat) : bitChars (W + 1) p = bitChars W (p / 2) ++ [flagChar p 0] := by
  unfold bitChars
  rw [List.range_succ_eq_map]
  simp [List.map_reverse, flagChar_succ, Function.comp_def]

theorem rjust_bin_succ (W p : Nat) (hW : 0 < W) :
    rjustL (toDigits 2 p) (W + 1) '0' = rjustL (toDigits 2 (p / 2)) W '0' ++ [digitChar (p % 2)] := by
  by_cases h : p < 2
  · have h0 : p / 2 = 0 := by omega
    have h1 : p % 2 = p := by omega
    obtain ⟨k, rfl⟩ : ∃ k, W = k + 1 := ⟨W - 1, by omega⟩
    rw [toDigits, h0, h1, toDigits]
    simp [h, rjustL, digitChar, List.replicate_succ']
  · rw [toDigits]
    simp [h, rjustL]

/-- `itoa(p, 2).rjust(W, '0')` is, from left to right, bits `W-1 … 0` of `p` (for `p < 2^W`). -/
theorem rjust_bin_bits (W p : Nat) (hW : 0 < W) (hp : p < 2 ^ W) :
    rjustL (toDigits 2 p) W '0' = bitChars W p := by
  obtain ⟨k, rfl⟩ : ∃ k, W = k + 1 := ⟨W - 1, by omega⟩
  clear hW
  induction k generalizing p with
  | zero =>
    have : p = 0 ∨ p = 1 := by omega
    rcases this with rfl | rfl <;> simp [toDigits, rjustL, bitChars, flagChar, digitChar]
  | succ k ih =>
    rw [rjust_bin_succ _ _ (by omega), bitChars_succ, digitChar_mod_two]
    rw [ih (p / 2) (by rw [Nat.pow_succ] at hp; omega)]

/-- One step of the dump loop for a cursor that is at most one past the top of memory. -/
theorem dumpLoop_succ (d : Dev) (mem : Nat → Nat) (cur n : Nat) (hc : cur ≤ 2 ^ d.addrWidth) :
    dumpLoop d mem cur (n + 1) =
      (fmtHexL d.byteDigits (mem (cur % 2 ^ d.addrWidth)) ++ [' ']) ++ dumpLoop d mem (cur % 2 ^ d.addrWidth + 1) n := by
  have hpos : 0 < 2 ^ d.addrWidth := Nat.two_pow_pos _
  have e : (if cur > 2 ^ d.addrWidth - 1 then 0 else cur) = cur % 2 ^ d.addrWidth := by
    split
    · rw [show cur = 2 ^ d.addrWidth by omega, Nat.mod_self]
    · rw [Nat.mod_eq_of_lt (by omega)]
  rw [dumpLoop, e]

/-- A list that starts with a chunk of width `w`: its chunk 0 is that one, chunk `k + 1` is chunk `k` of the rest. -/
theorem take_chunk {c rest : Str} {w : Nat} (h : c.length = w) :
    ((c ++ rest).drop (0 * w)).take w = c ∧
    ∀ k, (c ++ rest).drop ((k + 1) * w) = rest.drop (k * w) := by
  subst h
  refine ⟨by simp, fun k => ?_⟩
  rw [Nat.succ_mul, Nat.add_comm, List.drop_append]
  simp

/-- The `k`-th chunk of the dump (each `byteDigits + 1` wide) shows the cell at `address + k`,
wrapping at the top of the address space. -/
theorem dumpLoop_chunk (d : Dev) (mem : Nat → Nat) (hd : 0 < d.byteDigits)
    (hm : ∀ a, mem a < 16 ^ d.byteDigits) (n cur k : Nat) (rest : Str) (hc : cur ≤ 2 ^ d.addrWidth) (hk : k < n) :
    ((dumpLoop d mem cur n ++ rest).drop (k * (d.byteDigits + 1))).take (d.byteDigits + 1) =
      fmtHexL d.byteDigits (mem ((cur + k) % 2 ^ d.addrWidth)) ++ [' '] := by
  have hpos : 0 < 2 ^ d.addrWidth := Nat.two_pow_pos _
  induction n generalizing cur k with
  | zero => omega
  | succ n ih =>
    have hl : (fmtHexL d.byteDigits (mem (cur % 2 ^ d.addrWidth)) ++ [' ']).length = d.byteDigits + 1 := by
      rw [List.length_append, fmtHexL_length _ _ hd (hm _)]; rfl
    rw [dumpLoop_succ d mem cur n hc, List.append_assoc]
    cases k with
    | zero => exact (take_chunk hl).1
    | succ k =>
      rw [(take_chunk hl).2, ih (cur % 2 ^ d.addrWidth + 1) k (by have := Nat.mod_lt cur hpos; omega) (by omega),
        Nat.add_assoc, Nat.add_comm 1 k, Nat.mod_add_mod]

theorem dumpLoop_length (d : Dev) (mem : Nat → Nat) (hd : 0 < d.byteDigits)
    (hm : ∀ a, mem a < 16 ^ d.byteDigits) (n cur : Nat) (hc : cur ≤ 2 ^ d.addrWidth) :
    (dumpLoop d mem cur n).length = n * (d.byteDigits + 1) := by
  have hpos : 0 < 2 ^ d.addrWidth := Nat.two_pow_pos _
  induction n generalizing cur with
  | zero => simp [dumpLoop]
  | succ n ih =>
    rw [dumpLoop_succ d mem cur n hc, List.length_append, List.length_append,
      ih _ (by have := Nat.mod_lt cur hpos; omega), fmtHexL_length _ _ hd (hm _), Nat.succ_mul, Nat.add_comm]
    rfl

/-- Column (0-based) at which the flag digits start in the second line of `repr`. -/
def flagCol (d : Dev) : Nat := d.name.length + 2 + (d.addrDigits + 1) + 4 * (d.byteDigits + 1)

/-- The title above the flag digits: `NV-BDIZC` / `NV---------BDIZC`. -/
def flagTitle (d : Dev) : Str := 'N' :: 'V' :: (List.replicate (d.byteWidth - 7) '-' ++ ['B', 'D', 'I', 'Z', 'C'])

theorem reprLine2_flags (d : Dev) (hd : DevOK d) (r : Regs) (hr : r.WF d) :
    (reprLine2 d r).drop (flagCol d) = flags d r.p := by
  obtain ⟨hpc, ha, hx, hy, hsp, -⟩ := hr
  have l1 := fmtHexL_length d.addrDigits r.pc hd.ad (by rw [← hd.afit]; exact hpc)
  have l2 := fmtHexL_length d.byteDigits r.a hd.bd (by rw [← hd.bfit]; exact ha)
  have l3 := fmtHexL_length d.byteDigits r.x hd.bd (by rw [← hd.bfit]; exact hx)
  have l4 := fmtHexL_length d.byteDigits r.y hd.bd (by rw [← hd.bfit]; exact hy)
  have l5 := fmtHexL_length d.byteDigits r.sp hd.bd (by rw [← hd.bfit]; exact hsp)
  have e : reprLine2 d r = (d.name ++ [':', ' '] ++ fmtHexL d.addrDigits r.pc ++ [' '] ++ fmtHexL d.byteDigits r.a ++ [' '] ++
      fmtHexL d.byteDigits r.x ++ [' '] ++ fmtHexL d.byteDigits r.y ++ [' '] ++ fmtHexL d.byteDigits r.sp ++ [' ']) ++
      flags d r.p := rfl
  rw [e]
  apply List.drop_left'
  simp only [List.length_append, List.length_cons, List.length_nil, l1, l2, l3, l4, l5, flagCol]
  omega

/-- The address column and the dump column of a disassembly line. -/
theorem formatDisassembly_eq (d : Dev) (mem : Nat → Nat) (address length : Nat) (disasm : Str) :
    formatDisassembly d mem address length disasm =
      '$' :: (fmtHexL d.addrDigits address ++ ' ' :: ' ' :: (dumpLoop d mem address length ++
        (List.replicate (fieldWidth d - (dumpLoop d mem address length).length) ' ' ++ disasm))) := by
  simp [formatDisassembly, ljustL, List.append_assoc]

end Py65.Proofs.Fmt
