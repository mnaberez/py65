/-
Helper lemmas for C16 about the monitor memory-command model `Py65/Model/MonMem.lean`
(`_fill`, `do_fill`, `do_load`, `do_save`, `do_mem`).  Property statements live in
`Py65/Props/C16.lean`.
-/
import Py65.Spec.MonMem
import Py65.Proofs.ObsMemLemmas
import Py65.Proofs.FmtLemmas
import Mathlib.Tactic.Linarith
import Mathlib.Tactic.SplitIfs

namespace Py65.Spec.MonMem
open Py65.Model.ObsMem Py65.Spec.ObsMem

theorem SameShape.refl (m : OM) : SameShape m m := ⟨rfl, rfl, rfl, rfl⟩

theorem SameShape.trans {a b c : OM} (h1 : SameShape a b) (h2 : SameShape b c) : SameShape a c :=
  ⟨h2.1.trans h1.1, h2.2.1.trans h1.2.1, h2.2.2.1.trans h1.2.2.1, h2.2.2.2.trans h1.2.2.2⟩

theorem SameShape.wf {m m' : OM} (h : SameShape m m') (hw : WF m) : WF m' := by
  unfold WF at *
  rw [h.1, h.2.1]; exact hw

theorem SameShape.wquiet {reply : Reply} {m m' : OM} (h : SameShape m m') (hq : WQuiet reply m) :
    WQuiet reply m' := by
  unfold WQuiet at *
  rw [h.2.2.2]; exact hq

end Py65.Spec.MonMem

namespace Py65.Model.MonMem
open Py65.Model.PyStr Py65.Model.AddrParser Py65.Model.ObsMem Py65.Spec.ObsMem Py65.Spec.MonMem Py65.Proofs.Num
open Py65.Proofs.Fmt (pyIntL_fmtHexL)

theorem set_sameShape (reply : Reply) (m : OM) (a v : Int) : SameShape m (ObsMem.set reply m a v) :=
  ⟨rfl, rfl, rfl, rfl⟩

theorem set_subject_quiet {reply : Reply} {m : OM} (hw : WF m) (hq : WQuiet reply m) (a v : Int) :
    (ObsMem.set reply m a v).subject = upd m.subject (phys m.physMask a) v := by
  unfold ObsMem.set
  simp only [land_physMask hw]
  rw [writeLoop_quiet reply _ _ v m.log (fun cb hcb i x => hq _ cb hcb i _ x)]
  rfl

theorem land_addrMask (d : Dev) {a : Int} (h0 : 0 ≤ a) (h1 : a ≤ d.addrMask) : Py.land a d.addrMask = a := by
  unfold Dev.addrMask at *
  rw [Py.land_mask]
  exact Int.emod_eq_of_lt h0 (by omega)

theorem land_byteMask (d : Dev) {v : Int} (h0 : 0 ≤ v) (h1 : v ≤ d.byteMask) : Py.land v d.byteMask = v := by
  unfold Dev.byteMask at *
  rw [Py.land_mask]
  exact Int.emod_eq_of_lt h0 (by omega)

theorem phys_ne_of_window {m : OM} (hw : WF m) {x y : Int} (h1 : x < y) (h2 : y - x ≤ m.physMask) :
    phys m.physMask y ≠ phys m.physMask x := by
  unfold phys
  rcases hw.1 with h | h <;> rw [h] at h2 ⊢ <;> omega

theorem index_step (len index j : Nat) :
    ((if index + 1 = len then 0 else index + 1) + j) % len = (index + (j + 1)) % len := by
  by_cases h : index + 1 = len
  · simp only [h, if_true, Nat.zero_add]
    have : index + (j + 1) = j + len := by omega
    rw [this, Nat.add_mod_right]
  · simp only [h, if_false]
    congr 1; omega

theorem index_step_lt (len index : Nat) (hi : index < len) :
    (if index + 1 = len then 0 else index + 1) < len := by
  by_cases h : index + 1 = len
  · simp only [h, if_true]; omega
  · simp only [h, if_false]; omega

/-- The loop of `_fill` without any assumption on the length of the range: a cell hit by several
addresses of the range (possible only when the range is longer than the physical memory) ends up
with the item of the LAST address that hits it. -/
theorem fillLoop_general (reply : Reply) (d : Dev) (filler : List Int) (stop : Int)
    (hstop : stop ≤ d.addrMask) :
    ∀ (fuel : Nat) (address : Int) (index : Nat) (m : OM), WF m → WQuiet reply m → 0 ≤ address →
      index < filler.length → stop + 1 - address ≤ fuel →
      SameShape m (fillLoop reply d filler stop fuel address index m) ∧
      (∀ x, address ≤ x → x ≤ stop →
        (∀ x', x < x' → x' ≤ stop → phys m.physMask x' ≠ phys m.physMask x) →
        (fillLoop reply d filler stop fuel address index m).subject (phys m.physMask x) =
          Py.land (filler.getD ((index + (x - address).toNat) % filler.length) 0) d.byteMask) ∧
      (∀ k, (∀ x, address ≤ x → x ≤ stop → phys m.physMask x ≠ k) →
        (fillLoop reply d filler stop fuel address index m).subject k = m.subject k) := by
  intro fuel
  induction fuel with
  | zero =>
    intro address index m _ _ _ _ hfuel
    refine ⟨SameShape.refl m, fun x h1 h2 => ?_, fun k _ => rfl⟩
    omega
  | succ fuel ih =>
    intro address index m hw hq ha hidx hfuel
    by_cases hle : address ≤ stop
    · have hmask : Py.land address d.addrMask = address := land_addrMask d ha (by omega)
      have hunf : fillLoop reply d filler stop (fuel + 1) address index m =
          fillLoop reply d filler stop fuel (address + 1) (if index + 1 = filler.length then 0 else index + 1)
            (ObsMem.set reply m address (Py.land (filler.getD index 0) d.byteMask)) := by
        simp only [fillLoop, hle, if_true, hmask]
      rw [hunf]
      generalize hv : Py.land (filler.getD index 0) d.byteMask = v
      generalize hm1 : ObsMem.set reply m address v = m1
      have hs1 : SameShape m m1 := hm1 ▸ set_sameShape reply m address v
      have hsub1 : m1.subject = upd m.subject (phys m.physMask address) v := hm1 ▸ set_subject_quiet hw hq address v
      obtain ⟨i1, i2, i3⟩ := ih (address + 1) (if index + 1 = filler.length then 0 else index + 1) m1 (hs1.wf hw)
        (hs1.wquiet hq) (by omega) (index_step_lt _ _ hidx) (by omega)
      rw [hs1.1] at i2 i3
      refine ⟨hs1.trans i1, ?_, ?_⟩
      · intro x hax hxs hlast
        by_cases hx : x = address
        · -- the first address of the range: no later one hits its cell
          subst hx
          rw [i3 _ (fun x' h1 h2 => hlast x' (by omega) h2), hsub1, Int.sub_self, Int.toNat_zero, Nat.add_zero,
            Nat.mod_eq_of_lt hidx, ← hv]
          exact if_pos rfl
        · have hj : (x - address).toNat = (x - (address + 1)).toNat + 1 := by omega
          rw [i2 x (by omega) hxs hlast, hj, index_step]
      · intro k hk
        rw [i3 k (fun x h1 h2 => hk x (by omega) h2), hsub1]
        exact if_neg (Ne.symm (hk address (le_refl _) hle))
    · rw [show fillLoop reply d filler stop (fuel + 1) address index m = m by simp only [fillLoop, hle, if_false]]
      refine ⟨SameShape.refl m, fun x h1 h2 => ?_, fun k _ => rfl⟩
      omega

theorem fill_def (reply : Reply) (d : Dev) (start stop : Int) (filler : List Int) (m : OM) :
    fill reply d start stop filler m =
      let E := fillStop d start stop filler.length
      if filler = [] ∧ start ≤ E then (.indexError, m)
      else (.wrote (E - start + 1) start E, fillLoop reply d filler E (E + 1 - start).toNat start 0 m) := rfl

theorem fillStop_le (d : Dev) (start stop : Int) (n : Nat) (h : start ≠ stop → stop ≤ d.addrMask) :
    fillStop d start stop n ≤ d.addrMask := by
  unfold fillStop
  split_ifs with h1 h2
  · exact le_refl _
  · omega
  · exact h h1

theorem le_fillStop (d : Dev) (start stop : Int) (n : Nat) (h1 : start ≤ stop) (h2 : stop ≤ d.addrMask)
    (hn : 0 < n) : start ≤ fillStop d start stop n := by
  unfold fillStop
  split_ifs <;> omega

theorem fill_general (reply : Reply) (d : Dev) (start stop : Int) (filler : List Int) (m : OM)
    (hw : WF m) (hq : WQuiet reply m) (h0 : 0 ≤ start) (h1 : start ≤ stop) (h2 : stop ≤ d.addrMask)
    (hne : filler ≠ []) :
    let E := fillStop d start stop filler.length
    let r := fill reply d start stop filler m
    start ≤ E ∧ E ≤ d.addrMask ∧
    r.1 = .wrote (E - start + 1) start E ∧ SameShape m r.2 ∧
    (∀ (k : Int) (j : Nat), start + j ≤ E → phys m.physMask (start + j) = k →
      (∀ j' : Nat, j < j' → start + j' ≤ E → phys m.physMask (start + j') ≠ k) →
      r.2.subject k = Py.land (filler.getD (j % filler.length) 0) d.byteMask) ∧
    (∀ k, (∀ j : Nat, start + j ≤ E → phys m.physMask (start + j) ≠ k) → r.2.subject k = m.subject k) := by
  intro E r
  have hlen : 0 < filler.length := List.length_pos_of_ne_nil hne
  have hE1 : start ≤ E := le_fillStop d start stop _ h1 h2 hlen
  have hE2 : E ≤ d.addrMask := fillStop_le d start stop _ fun _ => h2
  have hr : r = (.wrote (E - start + 1) start E, fillLoop reply d filler E (E + 1 - start).toNat start 0 m) :=
    (fill_def reply d start stop filler m).trans (if_neg fun h => hne h.1)
  obtain ⟨i1, i2, i3⟩ := fillLoop_general reply d filler E hE2 (E + 1 - start).toNat start 0 m hw hq h0 hlen
    (by rw [Int.toNat_of_nonneg (by omega)])
  rw [hr]
  refine ⟨hE1, hE2, rfl, i1, ?_, fun k hk => i3 k fun x h1 h2 => ?_⟩
  · intro k j hj hk hlast
    subst hk
    rw [i2 (start + j) (by omega) hj fun x' h1 h2 => ?_]
    · simp
    · have := hlast (x' - start).toNat (by omega) (by omega)
      rwa [show start + ((x' - start).toNat : Int) = x' by omega] at this
  · have := hk (x - start).toNat (by omega)
    rwa [show start + ((x - start).toNat : Int) = x by omega] at this

theorem land_getD_byteMask (d : Dev) {data : List Int} (hdata : ∀ v ∈ data, 0 ≤ v ∧ v ≤ d.byteMask)
    {i : Nat} (hi : i < data.length) : Py.land (data.getD i 0) d.byteMask = data.getD i 0 := by
  have hv := hdata _ (List.getElem_mem hi)
  rw [List.getD_eq_getElem _ _ hi]
  exact land_byteMask d hv.1 hv.2

/-- `_fill(a, a, data)` as `do_load` calls it, for a range not longer than the physical memory (then no
two of its addresses share a cell): the one-address range extends to the length of the data, clipped at
the top of the address space; empty data writes nothing and reports the range `a … a-1`. -/
theorem fill_self_spec (reply : Reply) (d : Dev) (a : Int) (data : List Int) (m : OM)
    (hw : WF m) (hq : WQuiet reply m) (h0 : 0 ≤ a) (h1 : a ≤ d.addrMask)
    (hdata : ∀ v ∈ data, 0 ≤ v ∧ v ≤ d.byteMask) (hwin : fillStop d a a data.length - a ≤ m.physMask) :
    let E := fillStop d a a data.length
    let r := fill reply d a a data m
    E = min (a + data.length - 1) d.addrMask ∧
    r.1 = .wrote (E - a + 1) a E ∧
    (∀ i : Nat, a + i ≤ E → r.2.subject (phys m.physMask (a + i)) = data.getD i 0) ∧
    (∀ k, (∀ i : Nat, a + i ≤ E → phys m.physMask (a + i) ≠ k) → r.2.subject k = m.subject k) ∧
    SameShape m r.2 := by
  intro E r
  have hE : E = min (a + data.length - 1) d.addrMask := by
    simp only [E, fillStop, if_true]
    split_ifs <;> omega
  by_cases hne : data = []
  · have hEa : E = a - 1 := by
      rw [hE, hne]
      simp only [List.length_nil, Nat.cast_zero]
      omega
    have hr : r = (.wrote (E - a + 1) a E, m) := by
      refine (fill_def reply d a a data m).trans ((if_neg fun h => ?_).trans ?_)
      · have : a ≤ E := h.2
        omega
      · have : (E + 1 - a).toNat = 0 := by omega
        show (_, fillLoop reply d data E (E + 1 - a).toNat a 0 m) = _
        rw [this]
        rfl
    rw [hr]
    refine ⟨hE, rfl, fun i hi => ?_, fun k _ => rfl, SameShape.refl m⟩
    have := Int.natCast_nonneg i
    omega
  · obtain ⟨_, _, f3, f4, f5, f6⟩ := fill_general reply d a a data m hw hq h0 (le_refl a) h1 hne
    refine ⟨hE, f3, fun i hi => ?_, f6, f4⟩
    have hlt : i < data.length := by
      have : E ≤ a + data.length - 1 := by rw [hE]; exact min_le_left _ _
      omega
    rw [f5 _ i hi rfl fun i' hlt' hi' => phys_ne_of_window hw (by omega) (by omega),
      Nat.mod_eq_of_lt hlt, land_getD_byteMask d hdata hlt]

theorem fill_not_wrote (reply : Reply) (d : Dev) (start stop : Int) (filler : List Int) (m : OM)
    (h : ∀ c s e, Out.ofFill (fill reply d start stop filler m).1 ≠ .wrote c s e) :
    (fill reply d start stop filler m).2 = m := by
  rw [fill_def] at h ⊢
  by_cases hc : filler = [] ∧ start ≤ fillStop d start stop filler.length
  · exact congrArg Prod.snd (if_pos hc)
  · simp only [hc, if_false] at h
    exact absurd rfl (h _ _ _)

theorem piecesOk_induct {d : Dev} {P : Parser} {motive : List Str → List Int → Prop} (nil : motive [] [])
    (cons : ∀ p ps v vs, numberL P p = .ok v → v ≤ d.byteMask → motive ps vs → motive (p :: ps) (v :: vs)) :
    ∀ {pieces : List Str} {data : List Int}, PiecesOk d P pieces data → motive pieces data
  | [], [], _ => nil
  | [], _ :: _, h => h.elim
  | _ :: _, [], h => h.elim
  | p :: ps, v :: vs, ⟨h1, h2, h3⟩ => cons p ps v vs h1 h2 (piecesOk_induct nil cons h3)

theorem parseFiller_prefix (d : Dev) (P : Parser) (rest : List Str) {pre : List Str} {pdata : List Int}
    (h : PiecesOk d P pre pdata) :
    ∀ acc, parseFiller d P (pre ++ rest) acc = parseFiller d P rest (pdata.reverse ++ acc) := by
  refine piecesOk_induct (motive := fun pre pdata =>
    ∀ acc, parseFiller d P (pre ++ rest) acc = parseFiller d P rest (pdata.reverse ++ acc)) (fun _ => rfl) ?_ h
  intro p ps v vs h1 h2 ih acc
  have : ¬ v > d.byteMask := by omega
  simp only [List.cons_append, parseFiller, h1, this, if_false, ih, List.reverse_cons, List.append_assoc,
    List.nil_append]

theorem parseFiller_ok (d : Dev) (P : Parser) (pieces : List Str) (data acc : List Int)
    (h : PiecesOk d P pieces data) : parseFiller d P pieces acc = .inr (acc.reverse ++ data) := by
  have := parseFiller_prefix d P [] h acc
  rw [List.append_nil] at this
  simp [this, parseFiller]

theorem piecesOk_bounds {d : Dev} {P : Parser} (hwf : P.WF) :
    ∀ {pieces : List Str} {data : List Int}, PiecesOk d P pieces data → ∀ v ∈ data, 0 ≤ v ∧ v ≤ d.byteMask
  | [], [], _, v, hv => by simp at hv
  | [], _ :: _, h, _, _ => h.elim
  | _ :: _, [], h, _, _ => h.elim
  | _ :: _, _ :: _, ⟨h1, h2, h3⟩, v, hv => by
    rcases List.mem_cons.1 hv with rfl | hv
    · exact ⟨(numberL_bounded hwf h1).1, h2⟩
    · exact piecesOk_bounds hwf h3 v hv

theorem doFill_eq_fill (reply : Reply) (d : Dev) (P : Parser) (m : OM) (r : Str) (pieces : List Str)
    (start stop : Int) (data : List Int)
    (hr : rangeL P r = .ok start stop) (hp : PiecesOk d P pieces data) (hne : data ≠ []) :
    doFill reply d P (r :: pieces) m =
      (Out.ofFill (fill reply d start stop data m).1, (fill reply d start stop data m).2) := by
  have hpf := parseFiller_ok d P pieces data [] hp
  match pieces, data, hp, hne with
  | _ :: _, _ :: _, _, _ => simp only [doFill, hr, hpf, List.reverse_nil, List.nil_append]

theorem parseFiller_inl_not_wrote (d : Dev) (P : Parser) :
    ∀ (pieces : List Str) (acc : List Int) (e : Out), parseFiller d P pieces acc = .inl e →
      e = .key ∨ e = .overflow ∨ e = .other := by
  intro pieces
  induction pieces with
  | nil => intro acc e h; simp [parseFiller] at h
  | cons p ps ih =>
    intro acc e h
    simp only [parseFiller] at h
    cases hn : numberL P p with
    | ok v =>
      simp only [hn] at h
      by_cases hv : v > d.byteMask
      · simp only [hv, if_true, Sum.inl.injEq] at h
        exact Or.inr (Or.inl h.symm)
      · simp only [hv, if_false] at h
        exact ih _ _ h
    | key => simp [hn, Out.ofRes] at h; exact Or.inl h.symm
    | overflow => simp [hn, Out.ofRes] at h; exact Or.inr (Or.inl h.symm)
    | other => simp [hn, Out.ofRes] at h; exact Or.inr (Or.inr h.symm)

theorem doFill_not_wrote (reply : Reply) (d : Dev) (P : Parser) (split : List Str) (m : OM)
    (h : ∀ c s e, (doFill reply d P split m).1 ≠ .wrote c s e) : (doFill reply d P split m).2 = m := by
  unfold doFill at h ⊢
  split
  · rfl
  · rfl
  · split
    · rename_i start stop hr
      split
      · rename_i filler hf
        simp only [hr, hf] at h
        exact fill_not_wrote reply d start stop filler m h
      · rfl
    · rfl
    · rfl
    · rfl

theorem parseFiller_wide (d : Dev) (P : Parser) (pre : List Str) (pdata : List Int) (p : Str) (post : List Str)
    (v : Int) (acc : List Int) (hpre : PiecesOk d P pre pdata) (hp : numberL P p = .ok v) (hv : v > d.byteMask) :
    parseFiller d P (pre ++ p :: post) acc = .inl .overflow := by
  rw [parseFiller_prefix d P _ hpre]
  simp [parseFiller, hp, hv]

theorem top_toList : "top".toList = ['t', 'o', 'p'] := by decide

theorem loadStart_token (d : Dev) (P : Parser) (file : List Int) (pc : Int) {t : Str} (ht : t ≠ "top".toList) :
    loadStart d P file [t] pc =
      match numberL P t with
      | .ok a => .inr a
      | r => .inl (Out.ofRes r) := by
  rw [top_toList] at ht
  simp only [loadStart, ht, if_false]
  cases numberL P t <;> rfl

theorem pairs_length : ∀ (l : List Int), (pairs l).length = l.length / 2
  | [] => rfl
  | [_] => by simp [pairs]
  | a :: b :: rest => by
    simp only [pairs, List.length_cons, pairs_length rest]
    omega

theorem pairs_getD : ∀ (l : List Int) (i : Nat), i < l.length / 2 →
    (pairs l).getD i 0 = l.getD (2 * i) 0 * 256 + l.getD (2 * i + 1) 0
  | [], i, h => by simp at h
  | [_], i, h => by simp at h
  | a :: b :: rest, 0, _ => rfl
  | a :: b :: rest, i + 1, h => by
    have hi : i < rest.length / 2 := by
      simp only [List.length_cons] at h
      omega
    exact pairs_getD rest i hi

theorem land_ff (x : Int) : Py.land x 0xff = x % 256 := by
  have := Py.land_mask x 8
  norm_num at this ⊢
  exact this

theorem octets_dev8 (v : Int) (h0 : 0 ≤ v) (h1 : v < 256) : octets dev8 v = [v] := by
  simp only [octets, dev8, List.range, List.range.loop, List.map, Py.shr, land_ff]
  norm_num
  omega

theorem octets_dev16 (v : Int) : octets dev16 v = [v / 256 % 256, v % 256] := by
  simp only [octets, dev16, List.range, List.range.loop, List.map, Py.shr, land_ff]
  norm_num

theorem loadData_octets (d : Dev) (hd : d = dev8 ∨ d = dev16) :
    ∀ (vals : List Int), (∀ v ∈ vals, 0 ≤ v ∧ v ≤ d.byteMask) → loadData d (vals.flatMap (octets d)) = vals := by
  rcases hd with rfl | rfl
  · intro vals hv
    have : vals.flatMap (octets dev8) = vals := by
      induction vals with
      | nil => rfl
      | cons v vs ih =>
        have hv0 := hv v (by simp)
        have : v < 256 := by
          have := hv0.2
          simp only [Dev.byteMask, dev8] at this
          omega
        rw [List.flatMap_cons, octets_dev8 v hv0.1 this, ih (fun x hx => hv x (by simp [hx]))]
        rfl
    rw [this]
    simp [loadData, dev8]
  · intro vals hv
    have : pairs (vals.flatMap (octets dev16)) = vals := by
      induction vals with
      | nil => rfl
      | cons v vs ih =>
        have hv0 := hv v (by simp)
        have h2 : v < 65536 := by
          have := hv0.2
          simp only [Dev.byteMask, dev16] at this
          omega
        rw [List.flatMap_cons, octets_dev16 v]
        simp only [List.cons_append, List.nil_append, pairs, Py.shl]
        rw [ih (fun x hx => hv x (by simp [hx]))]
        congr 1
        have := hv0.1
        omega
    simp only [loadData, dev16]
    norm_num
    exact this

theorem pyRange_one (a e : Int) : pyRange a e 1 = addrRange a (e - 1) := by
  unfold pyRange rangeLen addrRange
  have h1 : (1 : Int) > 0 := by omega
  simp only [h1, if_true, Int.ediv_one, Int.mul_one]
  by_cases h : a < e
  · simp only [h, if_true]
    congr 2; omega
  · simp only [h, if_false]
    have : (e - 1 + 1 - a).toNat = 0 := by omega
    rw [this]

theorem addrRange_length (a b : Int) (h : a ≤ b + 1) : ((addrRange a b).length : Int) = b + 1 - a := by
  simp only [addrRange, List.length_map, List.length_range]
  omega

theorem mem_addrRange {a b x : Int} (h : x ∈ addrRange a b) : a ≤ x ∧ x ≤ b := by
  simp only [addrRange, List.mem_map, List.mem_range] at h
  obtain ⟨i, hi, rfl⟩ := h
  omega

theorem getMany_noSubs (reply : Reply) : ∀ (idx : List Int) (m : OM), WF m →
    (∀ x ∈ idx, m.rsubs.of (phys m.physMask x) = []) →
    (getMany reply idx m).1 = idx.map (fun x => m.subject (phys m.physMask x)) ∧ (getMany reply idx m).2 = m := by
  intro idx
  induction idx with
  | nil => intro m _ _; simp [getMany]
  | cons x xs ih =>
    intro m hw h
    have hx : m.rsubs.of (phys m.physMask x) = [] := h x (by simp)
    have hg : ObsMem.get reply m x = (m.subject (phys m.physMask x), m) := by
      unfold ObsMem.get
      simp only [land_physMask hw, hx, readLoop]
    simp only [getMany, hg]
    obtain ⟨i1, i2⟩ := ih m hw (fun y hy => h y (by simp [hy]))
    rw [i1, i2]
    simp

theorem getMany_shape (reply : Reply) (idx : List Int) (m : OM) : SameShape m (getMany reply idx m).2 := by
  obtain ⟨a, _, c, d, e⟩ := getMany_fields reply idx m
  exact ⟨a, c, d, e⟩

theorem getMany_subject (reply : Reply) (idx : List Int) (m : OM) : (getMany reply idx m).2.subject = m.subject :=
  (getMany_fields reply idx m).2.1

theorem fmtHexInt_nonneg (w : Nat) {v : Int} (h : 0 ≤ v) : fmtHexInt w v = fmtHexL w v.toNat := by
  unfold fmtHexInt
  simp [show ¬ v < 0 by omega]

theorem fmtHexL_eq (w n : Nat) : fmtHexL w n = List.replicate (w - (toDigits 16 n).length) '0' ++ toDigits 16 n := rfl

theorem fmtHexL_ne_nil (w n : Nat) : fmtHexL w n ≠ [] := by
  rw [fmtHexL_eq]
  intro h
  exact toDigits_ne_nil 16 n (List.append_eq_nil_iff.1 h).2

theorem hexChar_plain : ∀ d, d < 16 → digitChar d ≠ ' ' ∧ digitChar d ≠ ':' := by decide

theorem fmtHexL_chars (w n : Nat) : ∀ c ∈ fmtHexL w n, c ≠ ' ' ∧ c ≠ ':' := by
  intro c hc
  rw [fmtHexL_eq, List.mem_append] at hc
  rcases hc with hc | hc
  · have : c = '0' := (List.mem_replicate.1 hc).2
    subst this
    decide
  · obtain ⟨dg, hd, rfl⟩ := toDigits_digCh (b := 16) (by decide) n c hc
    exact hexChar_plain dg hd

theorem wordsAux_word (w : Str) (hw : ∀ c ∈ w, c ≠ ' ') : ∀ (cur rest : Str),
    wordsAux cur (w ++ rest) = wordsAux (cur ++ w) rest := by
  induction w with
  | nil => intro cur rest; simp
  | cons c w ih =>
    intro cur rest
    have hc : c ≠ ' ' := hw c (by simp)
    simp only [List.cons_append, wordsAux, hc, if_false]
    rw [ih (fun x hx => hw x (by simp [hx]))]
    simp

def bodyOf (d : Dev) (bytes : List Int) : Str :=
  bytes.flatMap fun b => ' ' :: ' ' :: fmtHexInt d.byteFmtW b

theorem wordsAux_body (d : Dev) : ∀ (bytes : List Int) (cur : Str), cur ≠ [] →
    wordsAux cur (bodyOf d bytes) = cur :: wordsAux [] (bodyOf d bytes) := by
  intro bytes cur hcur
  cases bytes with
  | nil => simp [bodyOf, wordsAux, hcur]
  | cons b bs => simp [bodyOf, wordsAux, hcur]

theorem words_body (d : Dev) : ∀ (bytes : List Int), (∀ b ∈ bytes, 0 ≤ b) →
    words (bodyOf d bytes) = bytes.map fun b => fmtHexL d.byteFmtW b.toNat := by
  intro bytes
  induction bytes with
  | nil => intro _; rfl
  | cons b bs ih =>
    intro h
    have hb : 0 ≤ b := h b (by simp)
    have e : bodyOf d (b :: bs) = ' ' :: ' ' :: (fmtHexL d.byteFmtW b.toNat ++ bodyOf d bs) := by
      simp [bodyOf, fmtHexInt_nonneg _ hb]
    unfold words at ih ⊢
    rw [e]
    simp only [wordsAux, if_true]
    rw [wordsAux_word _ (fun c hc => (fmtHexL_chars _ _ c hc).1), List.nil_append,
      wordsAux_body d bs _ (fmtHexL_ne_nil _ _), ih (fun x hx => h x (by simp [hx]))]
    rfl

theorem allSome_hex (w : Nat) : ∀ (bytes : List Int), (∀ b ∈ bytes, 0 ≤ b) →
    allSome ((bytes.map fun b => fmtHexL w b.toNat).map fun s => pyIntL s 16) = some bytes := by
  intro bytes
  induction bytes with
  | nil => intro _; rfl
  | cons b bs ih =>
    intro h
    have hb : 0 ≤ b := h b (by simp)
    simp only [List.map_cons, pyIntL_fmtHexL, allSome, ih (fun x hx => h x (by simp [hx])), Option.map_some]
    rw [Int.toNat_of_nonneg hb]

theorem mkLine_eq (d : Dev) (addr : Int) (bytes : List Int) :
    mkLine d addr bytes = fmtHexInt d.addrFmtW addr ++ (':' :: bodyOf d bytes) := by
  simp [mkLine, bodyOf]

theorem parseMemLine_mkLine (d : Dev) (addr : Int) (bytes : List Int) (ha : 0 ≤ addr)
    (hb : ∀ b ∈ bytes, 0 ≤ b) : parseMemLine (mkLine d addr bytes) = some (addr, bytes) := by
  rw [mkLine_eq, fmtHexInt_nonneg _ ha]
  have hsp := span_stop (p := fun c => decide (c ≠ ':')) (l := fmtHexL d.addrFmtW addr.toNat)
    (r := ':' :: bodyOf d bytes)
    (fun c hc => by simpa using (fmtHexL_chars _ _ c hc).2)
    (fun c hc => by
      simp only [List.head?_cons, Option.some.injEq] at hc
      subst hc; simp)
  unfold parseMemLine
  simp only [hsp.1, hsp.2, pyIntL_fmtHexL, words_body d bytes hb, allSome_hex _ bytes hb]
  rw [Int.toNat_of_nonneg ha]

theorem parseMem_lines (d : Dev) : ∀ (groups : List (Int × List Int)),
    (∀ g ∈ groups, 0 ≤ g.1 ∧ ∀ b ∈ g.2, 0 ≤ b) →
    parseMem (groups.map fun g => mkLine d g.1 g.2) = some groups := by
  intro groups
  induction groups with
  | nil => intro _; rfl
  | cons g gs ih =>
    intro h
    obtain ⟨h1, h2⟩ := h g (by simp)
    simp only [List.map_cons, parseMem, parseMemLine_mkLine d g.1 g.2 h1 h2,
      ih (fun x hx => h x (by simp [hx]))]

def ItemsFrom : Int → List (Int × Int) → Prop
  | _, [] => True
  | a, (x, _) :: rest => x = a ∧ ItemsFrom (a + 1) rest

theorem mkLine_snoc (d : Dev) (addr : Int) (bs : List Int) (v : Int) :
    mkLine d addr bs ++ (' ' :: ' ' :: fmtHexInt d.byteFmtW v) = mkLine d addr (bs ++ [v]) := by
  simp [mkLine]

theorem mkLine_single (d : Dev) (addr v : Int) :
    fmtHexInt d.addrFmtW addr ++ [':'] ++ (' ' :: ' ' :: fmtHexInt d.byteFmtW v) = mkLine d addr [v] := by
  simp [mkLine]

/-- The line-wrapping loop: whatever the width, the printed lines are `mkLine` of groups that
together hold exactly the pending bytes and the remaining items, in order, and every group is
labelled with the address of its first byte. -/
theorem memLoop_spec (d : Dev) (width : Nat) : ∀ (items : List (Int × Int)) (addr : Int) (bs : List Int),
    ItemsFrom (addr + bs.length) items → 0 ≤ addr → (∀ b ∈ bs, 0 ≤ b) → (∀ it ∈ items, 0 ≤ it.2) →
    ∃ groups : List (Int × List Int),
      memLoop d width (mkLine d addr bs) items = groups.map (fun g => mkLine d g.1 g.2) ∧
      groups.flatMap (·.2) = bs ++ items.map (·.2) ∧
      GroupsFrom addr groups ∧
      (∀ g ∈ groups, 0 ≤ g.1 ∧ ∀ b ∈ g.2, 0 ≤ b) := by
  intro items
  induction items with
  | nil =>
    intro addr bs _ ha hbs _
    exact ⟨[(addr, bs)], by simp [memLoop], by simp, ⟨rfl, trivial⟩, List.forall_mem_singleton.2 ⟨ha, hbs⟩⟩
  | cons it rest ih =>
    intro addr bs hfrom ha hbs hits
    obtain ⟨x, v⟩ := it
    obtain ⟨hx, hrest⟩ := hfrom
    subst hx
    have hv : 0 ≤ v := hits (addr + bs.length, v) (by simp)
    have hits' : ∀ it ∈ rest, 0 ≤ it.2 := fun it h => hits it (by simp [h])
    simp only [memLoop]
    split_ifs with hex
    · -- the line is full: print it, start a new one at this address
      rw [mkLine_single]
      obtain ⟨groups, g1, g2, g3, g4⟩ := ih (addr + bs.length) [v]
        (by simpa using hrest) (by have := Int.natCast_nonneg bs.length; omega)
        (List.forall_mem_singleton.2 hv) hits'
      exact ⟨(addr, bs) :: groups, by simp [g1], by simp [g2], ⟨rfl, g3⟩, List.forall_mem_cons.2 ⟨⟨ha, hbs⟩, g4⟩⟩
    · rw [mkLine_snoc]
      obtain ⟨groups, g1, g2, g3, g4⟩ := ih addr (bs ++ [v])
        (by
          have e : addr + ((bs ++ [v]).length : Int) = addr + (bs.length : Int) + 1 := by
            simp only [List.length_append, List.length_singleton]; push_cast; omega
          rw [e]; exact hrest)
        ha (List.forall_mem_append.2 ⟨hbs, List.forall_mem_singleton.2 hv⟩) hits'
      exact ⟨groups, g1, by simp [g2], g3, g4⟩

theorem addrRange_cons (a b : Int) (h : a ≤ b) : addrRange a b = a :: addrRange (a + 1) b := by
  unfold addrRange
  have : (b + 1 - a).toNat = (b + 1 - (a + 1)).toNat + 1 := by omega
  rw [this, List.range_succ_eq_map, List.map_cons, List.map_map]
  simp only [Nat.cast_zero, Int.add_zero, List.cons.injEq, true_and]
  apply List.map_congr_left
  intro i _
  simp only [Function.comp, Nat.succ_eq_add_one]
  push_cast; omega

theorem addrRange_nil (a b : Int) (h : b < a) : addrRange a b = [] := by
  unfold addrRange
  have : (b + 1 - a).toNat = 0 := by omega
  rw [this]; rfl

theorem itemsFrom_zip : ∀ (n : Nat) (a b : Int) (vals : List Int), (b + 1 - a).toNat = n →
    ItemsFrom a ((addrRange a b).zip vals) := by
  intro n
  induction n with
  | zero =>
    intro a b vals h
    rw [addrRange_nil a b (by omega)]
    trivial
  | succ n ih =>
    intro a b vals h
    rw [addrRange_cons a b (by omega)]
    cases vals with
    | nil => trivial
    | cons v vs => exact ⟨rfl, ih (a + 1) b vs (by omega)⟩

theorem zip_map_snd : ∀ (l : List Int) (vals : List Int), l.length = vals.length → (l.zip vals).map (·.2) = vals := by
  intro l vals h
  rw [← List.unzip_snd, List.unzip_zip h]

theorem monMem_physMask (AW : Nat) (cells : Int → Int) :
    (monMem AW cells).physMask = (if (AW : Int) > 16 then 0x3ffff else 0xffff) := rfl

theorem monMem_WF (AW : Nat) (cells : Int → Int) : WF (monMem AW cells) := init_WF AW cells

theorem monMem_subject (AW : Nat) (cells : Int → Int) : (monMem AW cells).subject = cells := rfl

/- `monMem` (Spec/MonMem) is the memory object at the monitor's DEFAULT addresses ($F001 / $F004, callback ids
1 / 2).  C18's `obsMem w I O` (`Model/MonIORt`, ids 0 / 1, any `I`, `O`) describes the same construction for
arbitrary addresses; no lemma ties the two, C16 is stated for the default instance only. -/
theorem monMem_wsubs (AW : Nat) (cells : Int → Int) (a : Int) :
    (monMem AW cells).wsubs.of a = if a = 0xF001 then [1] else [] := by
  have hw := init_WF AW cells
  have h1 : Py.land 0xF001 (init AW cells).physMask = 0xF001 := by
    apply land_of_inRange hw (by omega)
    rcases hw.1 with h | h <;> rw [h] <;> omega
  simp only [monMem, subscribeRead, subscribeWrite, List.foldl, subOne, h1]
  simp [init]

theorem monMem_rsubs (AW : Nat) (cells : Int → Int) (a : Int) :
    (monMem AW cells).rsubs.of a = if a = 0xF004 then [2] else [] := by
  have hw := init_WF AW cells
  have h1 : Py.land 0xF004 (init AW cells).physMask = 0xF004 := by
    apply land_of_inRange hw (by omega)
    rcases hw.1 with h | h <;> rw [h] <;> omega
  have hpm : (subscribeWrite (init AW cells) [0xF001] 1).physMask = (init AW cells).physMask := rfl
  simp only [monMem, subscribeRead, List.foldl, subOne, hpm, h1]
  simp [subscribeWrite, init]

theorem monMem_wquiet (AW : Nat) (cells : Int → Int) : WQuiet monReply (monMem AW cells) := by
  intro a cb hcb i x v
  rw [monMem_wsubs] at hcb
  split_ifs at hcb
  · simp only [List.mem_singleton] at hcb
    subst hcb
    rfl
  · simp at hcb

theorem monMem_noReadSubs (AW : Nat) (cells : Int → Int) (a b : Int)
    (h : ∀ x, a ≤ x → x ≤ b → phys (monMem AW cells).physMask x ≠ 0xF004) :
    NoReadSubs (monMem AW cells) a b := by
  intro x h1 h2
  rw [monMem_rsubs]
  simp [h x h1 h2]

end Py65.Model.MonMem
