/-
The I/O machine of `Proofs/IoProg.lean` composed with the CPU theorems:

* C12 (`Props/C12.lean`, `StepAccesses`): the item accesses of one instruction are, as a multiset, the
  opcode fetch, the operand fetches and `Spec.dataAccesses` -- hence how many bytes an instruction
  consumes and how many characters it prints can be read off the Spec's list (`trace_perm`,
  `countP_trace`), and `Consistent` follows from a condition on that list (`noReload_of_counts`);
* C05h (`closed_step`, `accesses_closed_call`): registers, cells and pending bytes stay inside the byte
  along a run, every address is an address, every stored value fits the byte (`IoInv`, `ioStep_inv`,
  `run_inv`) -- so the hypotheses of C12 are available at EVERY instruction of a run;
* `Proofs/IoProgRmw.lean`: for a read-modify-write instruction on memory the access list is the Spec's list
  IN ORDER (load, then store) -- so a read-modify-write OF `I` is covered (`rmw_seq_dev`, `noReload_of_acc`);
* `Proofs/IoProgCoh.lean`: the memory of the generated model changes only through its LOGGED writes -- so the
  device's own memory after an instruction is the plain replay of the instruction's log (`ioStep_mem`), which
  agrees with the observed memory's backing cells everywhere but at `I` (`ioStep_cells`).
-/
import Py65.Proofs.IoProg
import Py65.Props.C12
import Py65.Props.C05h
import Py65.Proofs.IoProgRmw
import Py65.Proofs.StepReplay

namespace Py65.Proofs.IoProg
open Py65 Py65.Model.MonIORt Py65.Proofs.MonIOGenEq Py65.Proofs.MonIO
open Py65.Spec (Acc Mn Mode Variant decode instrAccesses dataAccesses fetched AM BM)
open Py65.Spec.ObsMem (InRange upd)
open Py65.Spec.MonIO (SState deliver storesTo loadsFrom)
open Py65.Proofs.Hist (Dev)

/-- The generated device model that belongs to a device class of the monitor. -/
def devOf : MpuCls → Dev
  | .mpu6502 => .nmos
  | .mpu65c02 => .cmos
  | .mpu65org16 => .org16

/-- The physical mask `ObservableMemory(addrWidth=ADDR_WIDTH)` configures for each class. -/
theorem maskOf_cls (cls : MpuCls) :
    maskOf cls.ADDR_WIDTH = if devOf cls = .org16 then 0x3ffff else 0xffff := by
  cases cls <;> decide

def accLoadAt (size I : Int) : Acc → Bool
  | .r a => decide (a % size = I % size)
  | .w _ => false

def accStoreAt (size O : Int) : Acc → Bool
  | .r _ => false
  | .w a => decide (a % size = O % size)

def accTouches (size I : Int) : Acc → Bool
  | .r a => decide (a % size = I % size)
  | .w a => decide (a % size = I % size)

def Acc.addr : Acc → Int
  | .r a => a
  | .w a => a

theorem isLoadAt_accOf (size I : Int) : isLoadAt size I = accLoadAt size I ∘ accOf := by
  funext e; cases e <;> rfl
theorem isStoreAt_accOf (size O : Int) : isStoreAt size O = accStoreAt size O ∘ accOf := by
  funext e; cases e <;> rfl
theorem touches_accOf (size I : Int) : touches size I = accTouches size I ∘ accOf := by
  funext e; cases e <;> rfl

/-- The state the Spec's lists of an instruction at `s` are evaluated on (PC at the first operand byte). -/
def afterOpcode (W : Nat) (s : St) : Py65.Spec.AState :=
  { Py65.Proofs.core s with pc := (s.pc + 1) % AM W }

/-- The Spec's access list of the instruction at `s` (opcode fetch, operand fetches, data accesses). -/
def specAccesses (W : Nat) (v : Variant) (mn : Mn) (mo : Mode) (s : St) : List Acc :=
  Acc.r s.pc :: instrAccesses W v mn mo (afterOpcode W s)

/-- From a state with an empty log, the log of the step (oldest first, values erased) is a permutation
of the Spec's list. -/
theorem trace_perm {W : Nat} {v : Variant} {mn : Mn} {mo : Mode} {s s' : St} (hl : s.log = [])
    (h : Py65.Props.C12.StepAccesses W v mn mo s s') :
    (s'.log.reverse.map accOf).Perm (specAccesses W v mn mo s) := by
  obtain ⟨T, h1, h2⟩ := h
  have : s'.log.map accOf = T.reverse := by
    have h1' : s'.log.map accOf = T.reverse ++ s.log.map accOf := h1
    rw [hl] at h1'
    simpa using h1'
  rw [List.map_reverse, this, List.reverse_reverse]
  exact h2

theorem countP_trace {W : Nat} {v : Variant} {mn : Mn} {mo : Mode} {s s' : St} (hl : s.log = [])
    (h : Py65.Props.C12.StepAccesses W v mn mo s s') (p : Acc → Bool) :
    s'.log.reverse.countP (p ∘ accOf) = (specAccesses W v mn mo s).countP p := by
  rw [← List.countP_map]
  exact (trace_perm hl h).countP_eq p

theorem load_touches (size I : Int) (e : MemEv) (h : isLoadAt size I e = true) : touches size I e = true := by
  cases e with
  | r a => exact h
  | w a v => cases h

/-- At most one access to `I`, or no load from `I` at all: the order inside the instruction is irrelevant. -/
theorem noReload_of_counts (size I : Int) (T : List MemEv)
    (h : T.countP (isLoadAt size I) = 0 ∨ T.countP (touches size I) ≤ 1) : NoReload size I T := by
  induction T with
  | nil => trivial
  | cons e es ih =>
    refine ⟨fun ht e' he' => ?_, ih ?_⟩
    · rcases h with h | h
      · have := List.countP_eq_zero.1 h e' (List.mem_cons_of_mem _ he')
        simpa using this
      · rw [List.countP_cons, if_pos ht] at h
        have h0 : es.countP (touches size I) = 0 := by omega
        have := List.countP_eq_zero.1 h0 e' he'
        cases hl : isLoadAt size I e' with
        | false => rfl
        | true => exact absurd (load_touches size I e' hl) this
    · rcases h with h | h
      · left
        have := List.countP_eq_zero.1 h
        exact List.countP_eq_zero.2 fun x hx => this x (List.mem_cons_of_mem _ hx)
      · right
        rw [List.countP_cons] at h
        omega

def Always (E : Env) (d : Dev) (P : IoM → Prop) : Nat → IoM → Prop
  | 0, _ => True
  | n + 1, m => P m ∧ Always E d P n (ioStep E d m)

/-- Registers, cells and pending bytes inside the byte; the observers installed at `I` / `O` over `cells`. -/
structure IoInv (d : Dev) (m : IoM) (I O : Int) (cells : Int → Int) : Prop where
  good : Good m.mon I O cells
  regs : Py65.Proofs.WF d.cfg { m.cpu with mem := fun _ => 0 }
  wait : d ≠ .cmos → m.cpu.waiting = false
  cells : ∀ k, InB d.W (cells k)
  pend : ∀ b ∈ m.mon.stdin, InB d.W b

theorem inB_deliver {W : Nat} (hW : W = 8 ∨ W = 16) {b : Int} (h : InB W b) : InB W (deliver b) := by
  unfold deliver
  split
  · rcases hW with rfl | rfl <;> (simp only [InB, BM]; omega)
  · exact h

theorem inB_viewS {W : Nat} (hW : W = 8 ∨ W = 16) (size I : Int) (sp : SState)
    (hc : ∀ k, InB W (sp.cells k)) (hp : ∀ b ∈ sp.pending, InB W b) (a : Int) : InB W (viewS size I sp a) := by
  unfold viewS
  split
  · cases h : sp.pending with
    | nil => exact inB_zero hW
    | cons b rest => exact inB_deliver hW (hp b (by rw [h]; exact List.mem_cons_self))
  · exact hc _

/-- The state the next `step()` runs on satisfies the invariant of the history theorems (C05h). -/
theorem startOf_inv (E : Env) {d : Dev} {m : IoM} {I O : Int} {cells : Int → Int} (h : IoInv d m I O cells) :
    Py65.Proofs.Hist.Inv d (startOf E m) := by
  refine ⟨⟨h.regs.a, h.regs.x, h.regs.y, h.regs.sp, h.regs.p, h.regs.pc, fun k => ?_⟩, h.wait⟩
  show 0 ≤ viewG E m.mon k ∧ viewG E m.mon k ≤ d.cfg.byteMask
  rw [viewG_eq E m.mon I O cells h.good, ← Py65.Props.C05h.inB_W]
  exact inB_viewS d.hW _ _ _ h.cells h.pend k

theorem spec_replay_cells {W : Nat} (size I O : Int) (T : List MemEv) (hT : LogOK W T) :
    ∀ sp : SState, (∀ k, InB W (sp.cells k)) →
      ∀ k, InB W ((Py65.Spec.MonIO.replay size I O sp T).2.cells k) := by
  induction T with
  | nil => intro sp h; exact h
  | cons e es ih =>
    intro sp h
    obtain ⟨he, hes⟩ := LogOK_cons.1 hT
    simp only [Py65.Spec.MonIO.replay]
    apply ih hes
    cases e with
    | r a => rw [step_r_cells]; exact h
    | w a v =>
      intro k
      show InB W (upd sp.cells (a % size) v k)
      unfold upd
      split
      · exact (EvOK_w.1 he).2
      · exact h k

/-- One instruction keeps the invariant (over the cells the Spec's replay of the instruction's accesses
leaves). -/
theorem ioStep_inv (E : Env) {d : Dev} {m : IoM} {I O : Int} {cells : Int → Int} (h : IoInv d m I O cells)
    (hop : Py65.Proofs.Hist.OpOK d .step (startOf E m)) (hev : ∀ e ∈ traceOf E d m, okEv E e) :
    IoInv d (ioStep E d m) I O
      (Py65.Spec.MonIO.replay (maskOf m.mon.addrWidth + 1) I O (specOf m.mon cells) (traceOf E d m)).2.cells := by
  have hi := startOf_inv E h
  have hi' : Py65.Proofs.Hist.Inv d (d.step (startOf E m)) :=
    Py65.Proofs.Hist.apply_inv d .step (startOf E m) hi hop
  have hlog : LogOK d.W (d.step (startOf E m)).log :=
    Py65.Proofs.Hist.apply_log d .step (startOf E m) hi (LogOK_nil _)
  have hT : LogOK d.W (traceOf E d m) := fun e he => hlog e (List.mem_reverse.1 he)
  obtain ⟨-, s2, s3, -⟩ := replayG_spec E I O (traceOf E d m) m.mon _ h.good.ioSim hev
  have hb : (0 : Int) ≤ 0 ∧ (0 : Int) ≤ d.cfg.byteMask := by cases d <;> decide
  refine ⟨s2.good, ⟨hi'.1.a, hi'.1.x, hi'.1.y, hi'.1.sp, hi'.1.p, hi'.1.pc, fun _ => hb⟩, hi'.2, ?_, ?_⟩
  · exact spec_replay_cells _ I O _ hT _ h.cells
  · intro b hbm
    rw [show (ioStep E d m).mon.stdin = _ from (s2.replay_closed s3).2.2] at hbm
    exact h.pend b (List.mem_of_mem_drop hbm)

/-- Along a run: the invariant holds before every instruction (so the state every `step()` runs on is
well-formed: the hypotheses of C12 / C05h are available at every instruction). -/
theorem run_inv (E : Env) (d : Dev) (I O : Int) (n : Nat) :
    ∀ (m : IoM) (cells : Int → Int), IoInv d m I O cells →
    Always E d (fun m => Py65.Proofs.Hist.OpOK d .step (startOf E m)) n m →
    (∀ e ∈ traces E d n m, okEv E e) →
    Always E d (fun m => ∃ cells, IoInv d m I O cells) n m ∧ ∃ cells', IoInv d (ioRun E d n m) I O cells' := by
  induction n with
  | zero => intro m cells h _ _; exact ⟨trivial, cells, h⟩
  | succ n ih =>
    intro m cells h hop hev
    have h' := ioStep_inv E h hop.1 (fun e he => hev e (List.mem_append_left _ he))
    obtain ⟨i1, i2⟩ := ih _ _ h' hop.2 (fun e he => hev e (List.mem_append_right _ he))
    exact ⟨⟨⟨cells, h⟩, i1⟩, i2⟩

/-- On a stream that encodes every value of the byte, every store of a run is printable. -/
theorem okEv_of_logOK {W : Nat} (hW : W = 8 ∨ W = 16) (E : Env) (henc : ∀ v, InB W v → E.enc v = true)
    (L : List MemEv) (h : LogOK W L) : ∀ e ∈ L, okEv E e := by
  intro e he
  cases e with
  | r a => trivial
  | w a v =>
    have hv : InB W v := (EvOK_w.1 (h _ he)).2
    refine ⟨hv.1, ?_, henc v hv⟩
    rcases hW with rfl | rfl <;> (simp only [InB, BM] at hv; omega)

/-- The opcode byte and the operand bytes the instruction fetches do not lie at an address congruent to `X`. -/
def NotLocatedAt (size X : Int) (W : Nat) (mn : Mn) (mo : Mode) (s : St) : Prop :=
  s.pc % size ≠ X % size ∧ ∀ a ∈ fetched W mn mo (afterOpcode W s), a % size ≠ X % size

/-- A property of accesses that no fetch of the instruction has is counted on the data accesses alone. -/
theorem countP_specAccesses (p : Acc → Bool) (W : Nat) (v : Variant) (mn : Mn) (mo : Mode) (s : St)
    (hpc : p (.r s.pc) = false) (hf : ∀ a ∈ fetched W mn mo (afterOpcode W s), p (.r a) = false) :
    (specAccesses W v mn mo s).countP p = (dataAccesses W v mn mo (afterOpcode W s)).countP p := by
  have h0 : ((fetched W mn mo (afterOpcode W s)).map Acc.r).countP p = 0 := by
    rw [List.countP_eq_zero]
    intro x hx
    obtain ⟨a, ha, rfl⟩ := List.mem_map.1 hx
    simp [hf a ha]
  unfold specAccesses instrAccesses
  rw [List.countP_cons, List.countP_append, hpc, h0]
  simp

/-- Stores are data accesses; for an instruction not located at `I`, so are the loads from `I`. -/
theorem spec_counts (size I O : Int) (W : Nat) (v : Variant) (mn : Mn) (mo : Mode) (s : St) :
    (specAccesses W v mn mo s).countP (accStoreAt size O) =
      (dataAccesses W v mn mo (afterOpcode W s)).countP (accStoreAt size O) ∧
    (NotLocatedAt size I W mn mo s →
      (specAccesses W v mn mo s).countP (accLoadAt size I) =
        (dataAccesses W v mn mo (afterOpcode W s)).countP (accLoadAt size I) ∧
      (specAccesses W v mn mo s).countP (accTouches size I) =
        (dataAccesses W v mn mo (afterOpcode W s)).countP (accTouches size I)) := by
  refine ⟨countP_specAccesses _ W v mn mo s rfl fun _ _ => rfl, fun hn => ?_⟩
  have h1 : decide (s.pc % size = I % size) = false := decide_eq_false hn.1
  have h2 : ∀ a ∈ fetched W mn mo (afterOpcode W s), decide (a % size = I % size) = false :=
    fun a ha => decide_eq_false (hn.2 a ha)
  exact ⟨countP_specAccesses _ W v mn mo s h1 h2, countP_specAccesses _ W v mn mo s h1 h2⟩

/-- `NoReload` on the Spec's (value-free) access list. -/
def NoReloadA (size I : Int) : List Acc → Prop
  | [] => True
  | e :: es => (accTouches size I e = true → ∀ e' ∈ es, accLoadAt size I e' = false) ∧ NoReloadA size I es

instance (size I : Int) : (T : List Acc) → Decidable (NoReloadA size I T)
  | [] => isTrue trivial
  | e :: es =>
    have : Decidable (NoReloadA size I es) := instDecidableNoReloadA size I es
    by unfold NoReloadA; exact inferInstance

theorem noReload_of_acc (size I : Int) (T : List MemEv) (h : NoReloadA size I (T.map accOf)) :
    NoReload size I T := by
  induction T with
  | nil => trivial
  | cons e es ih =>
    obtain ⟨h1, h2⟩ := h
    refine ⟨fun ht e' he' => ?_, ih h2⟩
    have := h1 (by rw [touches_accOf] at ht; exact ht) (accOf e') (List.mem_map_of_mem he')
    rw [isLoadAt_accOf]; exact this

theorem noReloadA_append (size I : Int) (P S : List Acc) (hP : ∀ x ∈ P, accTouches size I x = false)
    (hS : NoReloadA size I S) : NoReloadA size I (P ++ S) := by
  induction P with
  | nil => exact hS
  | cons x xs ih =>
    refine ⟨fun ht => ?_, ih fun y hy => hP y (List.mem_cons_of_mem _ hy)⟩
    rw [hP x List.mem_cons_self] at ht; cases ht

/-- C12 in order, every device: a read-modify-write instruction on memory performs the Spec's list in the
Spec's order. -/
theorem rmw_seq_dev (d : Dev) (s : St) (hs : Py65.Proofs.WF d.cfg s) (hw : s.waiting = false)
    (mn : Mn) (mo : Mode) (hd : decode d.variant (s.mem s.pc) = some (mn, mo))
    (hr : mn.isRmw = true) (hacc : mo ≠ .acc) :
    acl (d.step s) = (specAccesses d.W d.variant mn mo s).reverse ++ acl s := by
  cases d
  · exact rmw_seq_nmos6502 s hs mn mo hd hr hacc
  · exact rmw_seq_cmos s hs hw mn mo hd hr hacc
  · exact rmw_seq_org16 s hs hw mn mo hd hr hacc

/-- What is asked of ONE instruction of a program (on the state its `step()` runs on): either a waiting
65C02 (touches no memory), or a declared opcode, with -- 65Org16 only -- all accesses at physical addresses
(no aliases above `$3FFFF`), that is
 (A) not located at `I` and whose DATA accesses (`Spec.dataAccesses`, C12) contain no load from `I` or at
     most one access to `I` (order-free: C12 is a multiset statement), or
 (B) a read-modify-write on memory in whose ORDERED Spec list no load from `I` follows another access to `I`
     (`C18h.rmw_not_located`: any such instruction not located at `I`, `INC I` included). -/
def InstrOK (E : Env) (d : Dev) (I : Int) (m : IoM) : Prop :=
  let s := startOf E m
  let size := maskOf m.mon.addrWidth + 1
  (d = .cmos ∧ s.waiting = true) ∨
  (s.waiting = false ∧ ∃ mn mo, decode d.variant (s.mem s.pc) = some (mn, mo) ∧
    (d = .org16 → ∀ acc ∈ specAccesses d.W d.variant mn mo s, Acc.addr acc ≤ 0x3ffff) ∧
    ((NotLocatedAt size I d.W mn mo s ∧
      ((dataAccesses d.W d.variant mn mo (afterOpcode d.W s)).countP (accLoadAt size I) = 0 ∨
       (dataAccesses d.W d.variant mn mo (afterOpcode d.W s)).countP (accTouches size I) ≤ 1)) ∨
     (mn.isRmw = true ∧ mo ≠ .acc ∧ NoReloadA size I (specAccesses d.W d.variant mn mo s))))

theorem rmw_trace (E : Env) {d : Dev} {m : IoM} (hs : Py65.Proofs.WF d.cfg (startOf E m))
    (hw : (startOf E m).waiting = false) (mn : Mn) (mo : Mode)
    (hdec : decode d.variant ((startOf E m).mem (startOf E m).pc) = some (mn, mo))
    (hr : mn.isRmw = true) (hacc : mo ≠ .acc) :
    (traceOf E d m).map accOf = specAccesses d.W d.variant mn mo (startOf E m) := by
  have h1 : (d.step (startOf E m)).log.map accOf =
      (specAccesses d.W d.variant mn mo (startOf E m)).reverse := by
    simpa [acl, startOf] using rmw_seq_dev d (startOf E m) hs hw mn mo hdec hr hacc
  unfold traceOf
  rw [List.map_reverse, h1, List.reverse_reverse]

theorem instr_consistent (E : Env) {d : Dev} {m : IoM} {I O : Int} {cells : Int → Int} (h : IoInv d m I O cells)
    (hd : d = devOf m.mon._mpu.cls) (hw : m.mon.addrWidth = m.mon._mpu.cls.ADDR_WIDTH)
    (hev : ∀ e ∈ traceOf E d m, okEv E e) (hok : InstrOK E d I m) : Consistent E d m := by
  have hi := startOf_inv E h
  have hlog : LogOK d.W (d.step (startOf E m)).log :=
    Py65.Proofs.Hist.apply_log d .step (startOf E m) hi (LogOK_nil _)
  have hmask : maskOf m.mon.addrWidth = if d = .org16 then 0x3ffff else 0xffff := by
    rw [hw, hd]; exact maskOf_cls _
  rcases hok with ⟨hc, hwait⟩ | ⟨hwait, mn, mo, hdec, hrange, halt⟩
  · -- a waiting 65C02 touches no memory
    subst hc
    have hacl := Py65.Props.C12.accesses_waiting (startOf E m) hwait
    have hnil : (Dev.step .cmos (startOf E m)).log = [] := by
      have : (Dev.step .cmos (startOf E m)).log.map accOf = [] := hacl
      exact List.map_eq_nil_iff.1 this
    unfold Consistent seenOf traceOf
    rw [hnil]
    rfl
  · have hacc := Py65.Proofs.Hist.step_accesses d (startOf E m) hi.1 hwait mn mo hdec
    have hperm := trace_perm (s := startOf E m) rfl hacc
    have hin : ∀ e ∈ traceOf E d m, InRange (maskOf m.mon.addrWidth) e := by
      intro e he
      have heL : e ∈ (d.step (startOf E m)).log := List.mem_reverse.1 he
      by_cases ho : d = .org16
      · rw [hmask, if_pos ho]
        have h1 := hrange ho _ (hperm.mem_iff.1 (List.mem_map_of_mem he))
        have h0 := hlog e heL
        cases e with
        | r a => exact ⟨(EvOK_r.1 h0).1, h1⟩
        | w a v => exact ⟨(EvOK_w.1 h0).1.1, h1⟩
      · rw [hmask, if_neg ho]
        exact step_inRange8 d ho (startOf E m) hi rfl e heL
    rcases halt with ⟨hnot, hcnt⟩ | ⟨hr, hacc', hnr⟩
    · obtain ⟨hcl, hct⟩ :=
        (spec_counts (maskOf m.mon.addrWidth + 1) I O d.W d.variant mn mo (startOf E m)).2 hnot
      refine consistent_of_safe E d m I O cells h.good hev ⟨hin, noReload_of_counts _ _ _ ?_⟩
      have e1 := countP_trace (s := startOf E m) rfl hacc (accLoadAt (maskOf m.mon.addrWidth + 1) I)
      have e2 := countP_trace (s := startOf E m) rfl hacc (accTouches (maskOf m.mon.addrWidth + 1) I)
      rw [← isLoadAt_accOf] at e1
      rw [← touches_accOf] at e2
      show (traceOf E d m).countP _ = 0 ∨ (traceOf E d m).countP _ ≤ 1
      unfold traceOf
      rw [e1, e2, hcl, hct]
      exact hcnt
    · exact consistent_of_safe E d m I O cells h.good hev
        ⟨hin, noReload_of_acc _ _ _ (by rw [rmw_trace E hi.1 hwait mn mo hdec hr hacc']; exact hnr)⟩

theorem run_consistent (E : Env) (d : Dev) (I O : Int) (n : Nat) :
    ∀ (m : IoM) (cells : Int → Int), IoInv d m I O cells → d = devOf m.mon._mpu.cls →
    m.mon.addrWidth = m.mon._mpu.cls.ADDR_WIDTH →
    Always E d (fun m => Py65.Proofs.Hist.OpOK d .step (startOf E m)) n m →
    (∀ e ∈ traces E d n m, okEv E e) → Always E d (InstrOK E d I) n m → AllConsistent E d n m := by
  induction n with
  | zero => intro _ _ _ _ _ _ _ _; trivial
  | succ n ih =>
    intro m cells h hd hw hop hev hok
    have hev1 : ∀ e ∈ traceOf E d m, okEv E e := fun e he => hev e (List.mem_append_left _ he)
    have h' := ioStep_inv E h hop.1 hev1
    have hfr : Frame m.mon (ioStep E d m).mon := (replayG_spec E I O _ m.mon _ h.good.ioSim hev1).2.2.1
    have hcls : (ioStep E d m).mon._mpu.cls = m.mon._mpu.cls := hfr.cls
    refine ⟨instr_consistent E h hd hw hev1 hok.1, ih _ _ h' (by rw [hcls]; exact hd) ?_ hop.2
      (fun e he => hev e (List.mem_append_right _ he)) hok.2⟩
    rw [hcls, hfr.addrWidth]; exact hw

/-- On a stream that encodes every value of the byte, every store of a run from a well-formed machine is
printable (so `okEv` is no extra hypothesis there). -/
theorem run_okEv (E : Env) (d : Dev) (I O : Int) (henc : ∀ v, InB d.W v → E.enc v = true) (n : Nat) :
    ∀ (m : IoM) (cells : Int → Int), IoInv d m I O cells →
    Always E d (fun m => Py65.Proofs.Hist.OpOK d .step (startOf E m)) n m →
    ∀ e ∈ traces E d n m, okEv E e := by
  induction n with
  | zero => intro _ _ _ _ e he; cases he
  | succ n ih =>
    intro m cells h hop e he
    have hi := startOf_inv E h
    have hlog : LogOK d.W (d.step (startOf E m)).log :=
      Py65.Proofs.Hist.apply_log d .step (startOf E m) hi (LogOK_nil _)
    have hev1 : ∀ e ∈ traceOf E d m, okEv E e := fun e he =>
      okEv_of_logOK d.hW E henc _ hlog e (List.mem_reverse.1 he)
    rcases List.mem_append.1 he with h1 | h2
    · exact hev1 e h1
    · exact ih _ _ (ioStep_inv E h hop.1 hev1) hop.2 e h2

theorem always_mono {E : Env} {d : Dev} {P Q : IoM → Prop} (hpq : ∀ m, P m → Q m) :
    ∀ (n : Nat) (m : IoM), Always E d P n m → Always E d Q n m
  | 0, _, _ => trivial
  | n + 1, _, ⟨h1, h2⟩ => ⟨hpq _ h1, always_mono hpq n _ h2⟩

/-- The 6502 and the 65C02 ask nothing of the opcode cell (`OpOK` is about the 65Org16 only). -/
theorem always_opOK (E : Env) (d : Dev) (hd : d ≠ .org16) :
    ∀ (n : Nat) (m : IoM), Always E d (fun m => Py65.Proofs.Hist.OpOK d .step (startOf E m)) n m
  | 0, _ => trivial
  | n + 1, _ => ⟨fun h => absurd h hd, always_opOK E d hd n _⟩

/-- The memory function of the generated device after the instruction is the plain memory it started on
with the instruction's logged writes applied: nothing else ever changes `St.mem`. -/
theorem ioStep_mem (E : Env) (d : Dev) (m : IoM) :
    (ioStep E d m).cpu.mem = (Py65.Spec.ObsMem.replayPlain (viewG E m.mon) (traceOf E d m)).2 :=
  step_mem_replay d (startOf E m) rfl

/-- After an `IoSafe` instruction the device's own memory and the backing cells of the observed memory agree
at every physical address that is not congruent to `I`. -/
theorem ioStep_cells (E : Env) (d : Dev) (m : IoM) (I O : Int) (cells : Int → Int)
    (g : Good m.mon I O cells) (hs : IoSafe (maskOf m.mon.addrWidth) I (traceOf E d m)) :
    ∀ a, 0 ≤ a → a ≤ maskOf m.mon.addrWidth →
      a % (maskOf m.mon.addrWidth + 1) ≠ I % (maskOf m.mon.addrWidth + 1) →
      (ioStep E d m).cpu.mem a =
        (Py65.Spec.MonIO.replay (maskOf m.mon.addrWidth + 1) I O (specOf m.mon cells) (traceOf E d m)).2.cells a := by
  rw [ioStep_mem]
  exact (spec_consistent (maskOf m.mon.addrWidth) I O (traceOf E d m) (specOf m.mon cells)
    (viewG E m.mon) hs.1 hs.2 (fun a _ _ _ => viewG_eq E m.mon I O cells g a)).2

end Py65.Proofs.IoProg
