/-
The 65C02-only helpers and handlers (configuration = the 8-bit configuration).
-/
import Py65.Proofs.Ops4

namespace Py65.Proofs
open Py65 Py65.Gen Py65.Spec Py

abbrev c8 : Cfg := dev6502.cfg
theorem hc8 : IsDev c8 := Or.inl rfl

theorem opSTZ_ok (v : Variant) (x : St → Int × St) (mo : Mode) (hx : ModeSem c8 x mo) :
    HandlerOK c8 v (fun s => bump (mo.len - 1) (Mpu65c02.opSTZ c8 x s)) .STZ mo := by
  intro s hs
  obtain ⟨hv, hcore⟩ := hx s hs
  obtain ⟨ha, hxx, hy, hsp, hp, hpc, hmem, hw⟩ := core_fields hcore
  simp only [exec, ea_abs, nextPc_abs]
  generalize ea c8.BYTE_WIDTH mo (core s) = e at hv
  proj_simp [Mpu65c02.opSTZ, memSet, write]
  simp only [addrMask_succ hc8]

/-- TSB / TRB: only Z changes; the cell gets `m | a` resp. `m & ~a`. -/
theorem opTSB_ok (v : Variant) (x : St → Int × St) (mo : Mode) (hx : ModeSem c8 x mo) :
    HandlerOK c8 v (fun s => bump (mo.len - 1) (Mpu65c02.opTSB c8 x s)) .TSB mo := by
  intro s hs
  obtain ⟨hv, hcore⟩ := hx s hs
  obtain ⟨ha, hxx, hy, hsp, hp, hpc, hmem, hw⟩ := core_fields hcore
  simp only [exec, ea_abs, nextPc_abs]
  generalize ea c8.BYTE_WIDTH mo (core s) = e at hv
  simp only [Mpu65c02.opTSB, memGet, memSet, write]
  constfold
  simp only [flagalg]
  split_ifs with h <;>
  · simp only [hmem, ha, hv] at h
    proj_simp
    simp only [addrMask_succ hc8, normP, bitB, bitU, flagalg, land_comm s.a, h, eqB]
    simp [flagalg]
    try rfl

theorem opTRB_ok (v : Variant) (x : St → Int × St) (mo : Mode) (hx : ModeSem c8 x mo) :
    HandlerOK c8 v (fun s => bump (mo.len - 1) (Mpu65c02.opTRB c8 x s)) .TRB mo := by
  intro s hs
  obtain ⟨hv, hcore⟩ := hx s hs
  obtain ⟨ha, hxx, hy, hsp, hp, hpc, hmem, hw⟩ := core_fields hcore
  simp only [exec, ea_abs, nextPc_abs]
  generalize ea c8.BYTE_WIDTH mo (core s) = e at hv
  simp only [Mpu65c02.opTRB, memGet, memSet, write]
  constfold
  simp only [flagalg, land_lnot_right']
  split_ifs with h <;>
  · simp only [hmem, ha, hv] at h
    proj_simp
    simp only [addrMask_succ hc8, normP, bitB, bitU, flagalg, land_comm s.a, h, eqB]
    simp [flagalg]
    try rfl


theorem land_byte_clear (m : Int) (hm : 0 ≤ m ∧ m ≤ 255) (b : Nat) (hb : b < 8) :
    land m (255 - 2 ^ b) = m - m / 2 ^ b % 2 * 2 ^ b := by
  have hp : (0 : Int) ≤ 2 ^ b := Int.le_of_lt (Int.pow_pos (by decide))
  have h1 : land 255 (lnot (2 ^ b)) = 255 - 2 ^ b := by
    have : ∀ b < 8, (255 : Int) / 2 ^ b % 2 = 1 := by decide
    rw [land_lnot_right 255 _ (by decide) hp, land_two_pow, this b hb, Int.one_mul]
  rw [← h1, ← land_assoc, land_lit_255, Int.emod_eq_of_lt hm.1 (by omega),
    land_lnot_right m _ hm.1 hp, land_two_pow]

/-- RMBn: clear one bit of a zero-page cell; the handlers pass the mask `255 - 2^b`. -/
theorem opRMB_ok (v : Variant) (x : St → Int × St) (mo : Mode) (hx : ModeSem c8 x mo) (b : Nat)
    (hb8 : b < 8) :
    HandlerOK c8 v (fun s => bump (mo.len - 1) (Mpu65c02.opRMB c8 x (255 - 2 ^ b) s)) (.RMB b) mo := by
  intro s hs
  obtain ⟨hv, hcore⟩ := hx s hs
  obtain ⟨ha, hxx, hy, hsp, hp, hpc, hmem, hw⟩ := core_fields hcore
  have hm := hs.mem (ea c8.BYTE_WIDTH mo (core s))
  simp only [exec, ea_abs, nextPc_abs]
  generalize ea c8.BYTE_WIDTH mo (core s) = e at hv hm
  proj_simp [Mpu65c02.opRMB, memGet, memSet, write]
  simp only [addrMask_succ hc8, land_byte_clear _ hm _ hb8]

/-- SMBn: set one bit; the handlers pass the mask `2^b`, any `b` will do. -/
theorem opSMB_ok (v : Variant) (x : St → Int × St) (mo : Mode) (hx : ModeSem c8 x mo) (b : Nat) :
    HandlerOK c8 v (fun s => bump (mo.len - 1) (Mpu65c02.opSMB c8 x (2 ^ b) s)) (.SMB b) mo := by
  intro s hs
  obtain ⟨hv, hcore⟩ := hx s hs
  obtain ⟨ha, hxx, hy, hsp, hp, hpc, hmem, hw⟩ := core_fields hcore
  simp only [exec, ea_abs, nextPc_abs]
  generalize ea c8.BYTE_WIDTH mo (core s) = e at hv
  proj_simp [Mpu65c02.opSMB, memGet, memSet, write]
  simp only [addrMask_succ hc8, lor_two_pow, setFlag, if_true]

/-- BIT #imm: only Z. -/
theorem h_89 (v : Variant) : HandlerOK c8 v (Mpu65c02.inst_0x89 c8) .BIT .imm := by
  intro s hs
  simp only [Mpu65c02.inst_0x89, Mpu6502.ImmediateByte, Mpu6502.ByteAt, memGet]
  dsimp only [exec, absH, abs, core, ea, nextPc, Mode.len]
  constfold
  simp only [flagalg]
  split_ifs with h <;>
  · simp only [normP, bitB, bitU, flagalg, eqB, h]
    simp

theorem h_80 (v : Variant) : HandlerOK c8 v (Mpu65c02.inst_0x80 c8) .BRA .rel := by
  apply branch_ok c8 hc8 v _ .BRA (fun _ => true)
  · intro s; simp [Mpu65c02.inst_0x80]
  · intro p; rfl
  · intro a; rfl

theorem h_cb (v : Variant) : HandlerOK c8 v (Mpu65c02.inst_0xcb c8) .WAI .imp := by
  intro s hs
  simp only [Mpu65c02.inst_0xcb]
  dsimp only [exec, absH, abs, core, nextPc, Mode.len]
  simp [addrMask_succ hc8]


theorem h_da (v : Variant) : HandlerOK c8 v (Mpu65c02.inst_0xda c8) .PHX .imp := (push_reg_ok c8 hc8 v).2.1
theorem h_5a (v : Variant) : HandlerOK c8 v (Mpu65c02.inst_0x5a c8) .PHY .imp := (push_reg_ok c8 hc8 v).2.2
theorem h_fa (v : Variant) : HandlerOK c8 v (Mpu65c02.inst_0xfa c8) .PLX .imp := (pull_reg_ok c8 hc8 v).2.1
theorem h_7a (v : Variant) : HandlerOK c8 v (Mpu65c02.inst_0x7a c8) .PLY .imp := (pull_reg_ok c8 hc8 v).2.2

/-- JMP (abs) on the 65C02: the pointer is read with a 16-bit increment. -/
theorem h_6c_cmos : HandlerOK c8 .cmos (Mpu65c02.inst_0x6c c8) .JMP .ind := by
  intro s hs
  simp only [Mpu65c02.inst_0x6c, exec, absH, abs, core, opnd16, opnd1, opnd2, word, WordAt_val c8 hc8, WordAt_a,
    WordAt_x, WordAt_y, WordAt_sp, WordAt_p, WordAt_mem, WordAt_waiting, addrMask_succ hc8,
    word_mod hc8 _ _ (hs.mem _) (hs.mem _)]

theorem h_7c (v : Variant) : HandlerOK c8 v (Mpu65c02.inst_0x7c c8) .JMP .iax := by
  intro s hs
  simp only [Mpu65c02.inst_0x7c, Mpu65c02.IndirectAbsXAddr, exec, absH, abs, core, opnd16, opnd1, opnd2, word,
    WordAt_val c8 hc8, WordAt_a, WordAt_x, WordAt_y, WordAt_sp, WordAt_p, WordAt_mem, WordAt_waiting,
    addrMask_succ hc8, land_addrMask hc8, word_mod hc8 _ _ (hs.mem _) (hs.mem _)]


/-- BRK on the 65C02: as on the NMOS part, then D is cleared. -/
theorem h_00_cmos : HandlerOK c8 .cmos (Mpu65c02.inst_0x00 c8) .BRK .imp := by
  intro s hs
  have h := h_00 c8 hc8 s hs
  have hD : ∀ q, normP (land q (lnot c8.DECIMAL)) = setFlag (normP q) bitD false := fun q => by
    constfold
    simp only [normP, bitB, bitU, flagalg]
  show ({ absH c8 (Mpu6502.inst_0x00 c8 s) with p := normP (land (Mpu6502.inst_0x00 c8 s).p (lnot c8.DECIMAL)) } : AState) =
    { exec c8.BYTE_WIDTH .nmos .BRK .imp (abs s) with
      p := setFlag (exec c8.BYTE_WIDTH .nmos .BRK .imp (abs s)).p bitD false }
  rw [hD, ← h]
  rfl

end Py65.Proofs
