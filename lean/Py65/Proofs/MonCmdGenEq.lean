/-
Tie by regeneration, C20: the GENERATED dispatcher and state-owning commands
(`Py65/Gen/MonCmdGen.lean`, translated by `harness/py2lean_moncmd.py` on every run from
`Monitor.onecmd / do_registers / do_radix / do_width / do_add_label / do_delete_label / do_show_labels /
do_quit` of py65/monitor.py and from `cmd.Cmd.onecmd / parseline / default / emptyline` of the installed
standard library) equal the hand-written model `Py65.Model.MonCmd`, for ALL argument strings, lines and
session states, for ANY implementation `oth` of the commands that are not translated here, any traceback
text `tb` and any `repr` of the device `mr`.

These are the proof obligations a change of those methods (or of the table of `do_*` methods) breaks.
-/
import Py65.Gen.MonCmdGen
import Py65.Proofs.MonPreGenEq
import Py65.Proofs.NumLemmas

namespace Py65.Proofs.MonCmdGenEq
open Py65 Py65.Model Py65.Model.PyStr Py65.Model.AddrParser Py65.Model.MonCmd Py65.Model.MonGenRt
open Py65.Model.MonCmdRt Py65.Gen Py65.Proofs.MonCmd Py65.Proofs.MonPreGenEq Py65.Proofs.MonCompose

variable (oth : Str → Str → CmdSt → Flow CmdSt PyRet) (tb : Exc → Str) (mr : Core → Str)

theorem doNames_eq : MonCmdGen.doNames = commandTable.map (fun kv => "do_".toList ++ kv.1) := by decide +kernel

theorem identchars_sound : ∀ c ∈ MonCmdGen.identchars, isIdentChar c = true := by decide +kernel

theorem identchars_complete : ∀ n < 123, isIdentChar (Char.ofNat n) = true → Char.ofNat n ∈ MonCmdGen.identchars := by
  decide +kernel

/-- `c in self.identchars` is the model's `isIdentChar`. -/
theorem identchars_eq (c : Char) : pyIn c MonCmdGen.identchars = isIdentChar c := by
  unfold pyIn
  rw [Bool.eq_iff_iff, List.contains_iff_mem]
  refine ⟨identchars_sound c, fun h => ?_⟩
  have hn : c.toNat < 123 := by
    simp only [isIdentChar, Bool.or_eq_true, Bool.and_eq_true, decide_eq_true_eq] at h
    rcases h with ((h | h) | h) | rfl
    · omega
    · omega
    · omega
    · decide
  simpa using identchars_complete c.toNat hn (by simpa using h)

def parsedTuple : Parsed → Option Str × Option Str × Str
  | .empty => (none, none, [])
  | .noCmd l => (none, none, l)
  | .cmd w a l => (some w, some a, l)

/-- The identifier loop of `parseline`, started at position `k` with enough fuel, stops after the
maximal run of identifier characters. -/
theorem while1_eq (line : Str) : ∀ (fuel k : Nat) (σ : CmdSt), k ≤ line.length → fuel > line.length - k →
    MonCmdGen.Cmd_parseline_while1 oth tb mr (line.length : Int) line fuel (k : Int) σ =
      .ok (((k + ((line.drop k).takeWhile isIdentChar).length : Nat) : Int)) σ := by
  intro fuel
  induction fuel with
  | zero => intro k σ _ h; omega
  | succ f ih =>
    intro k σ hk hf
    unfold MonCmdGen.Cmd_parseline_while1
    by_cases hlt : k < line.length
    · have h1 : ((k : Int) < (line.length : Int)) := by omega
      have hget : line[k]? = some line[k] := List.getElem?_eq_getElem hlt
      have hdrop : line.drop k = line[k] :: line.drop (k + 1) := (List.drop_eq_getElem_cons hlt)
      simp only [h1, if_true, pyGetItem_nat, hget, identchars_eq]
      by_cases hc : isIdentChar line[k] = true
      · have e : (k : Int) + 1 = ((k + 1 : Nat) : Int) := by push_cast; rfl
        simp only [hc, if_true, e]
        rw [ih (k + 1) σ (by omega) (by omega), hdrop, List.takeWhile_cons_of_pos hc]
        congr 2
        simp only [List.length_cons]; omega
      · simp only [hc, if_false, hdrop, List.takeWhile_cons_of_neg hc, List.length_nil, Nat.add_zero,
          Bool.false_eq_true]
    · have h1 : ¬ ((k : Int) < (line.length : Int)) := by omega
      have hd : line.drop k = [] := List.drop_eq_nil_of_le (by omega)
      simp only [h1, if_false, hd, List.takeWhile_nil, List.length_nil, Nat.add_zero]

/-- The common tail of `parseline`: the loop, then `cmd, arg = line[:i], line[i:].strip()`. -/
theorem parse_tail_eq (l : Str) (fuel : Nat) (σ : CmdSt) (hf : fuel > l.length) :
    ((MonCmdGen.Cmd_parseline_while1 oth tb mr (l.length : Int) l fuel 0 σ).bind fun r_ σ =>
      (.ok (some (pySliceTo l r_), some (MonCmd.pyStrip (pySliceFrom l r_)), l) σ :
        Flow CmdSt (Option Str × Option Str × Str))) =
      .ok (some (l.takeWhile isIdentChar), some (MonCmd.pyStrip (l.dropWhile isIdentChar)), l) σ := by
  have h := while1_eq oth tb mr l fuel 0 σ (by omega) (by omega)
  simp only [Nat.cast_zero, List.drop_zero, Nat.zero_add] at h
  rw [h]
  simp only [Flow.bind_ok]
  have e : l = l.takeWhile isIdentChar ++ l.dropWhile isIdentChar := (List.takeWhile_append_dropWhile).symm
  have e1 : pySliceTo l ((l.takeWhile isIdentChar).length : Int) = l.takeWhile isIdentChar := by
    conv => lhs; arg 1; rw [e]
    exact pySliceTo_prefix _ _
  have e2 : pySliceFrom l ((l.takeWhile isIdentChar).length : Int) = l.dropWhile isIdentChar := by
    conv => lhs; arg 1; rw [e]
    exact pySliceFrom_prefix _ _
  rw [e1, e2]

theorem pyStrip_length_le (s : Str) : (MonCmd.pyStrip s).length ≤ s.length := by
  unfold MonCmd.pyStrip rstripP lstripP
  have h1 : ∀ (p : Char → Bool) (l : Str), (l.dropWhile p).length ≤ l.length := by
    intro p l
    exact (List.dropWhile_sublist p).length_le
  calc ((List.dropWhile isReSpace (List.dropWhile isReSpace s).reverse).reverse).length
      = (List.dropWhile isReSpace (List.dropWhile isReSpace s).reverse).length := List.length_reverse
    _ ≤ ((List.dropWhile isReSpace s).reverse).length := h1 _ _
    _ = (List.dropWhile isReSpace s).length := List.length_reverse
    _ ≤ s.length := h1 _ _

theorem no_do_shell : pyHasattrDo MonCmdGen.doNames "do_shell".toList = false := by decide +kernel

/-- `GenEq` for `cmd.Cmd.parseline`: with fuel for the identifier loop (`> |line| + 4` always suffices:
a leading `?` becomes `help `), the generated function returns the model's `parseline` as the tuple
`(cmd, arg, line)`, and touches nothing. -/
theorem parseline_eq (fuel : Nat) (line : Str) (σ : CmdSt) (hf : fuel > line.length + 4) :
    MonCmdGen.Cmd_parseline oth tb mr fuel line σ = .ok (parsedTuple (parseline line)) σ := by
  unfold MonCmdGen.Cmd_parseline parseline
  have hlen := pyStrip_length_le line
  cases hs : MonCmd.pyStrip line with
  | nil => simp [parsedTuple]
  | cons c rest =>
    rw [hs] at hlen
    simp only [List.length_cons] at hlen
    have hne : ¬ (c :: rest = []) := by simp
    simp only [hne, if_false, pyGetItem_zero, no_do_shell, Bool.false_eq_true]
    by_cases hq : c = '?'
    · subst hq
      have hne2 : ¬ ('?' = '!') := by decide
      simp only [if_true, hne2, if_false, pySliceFrom_one, parsedTuple]
      have := parse_tail_eq oth tb mr ("help ".toList ++ rest) fuel σ (by simp; omega)
      simpa [help] using this
    · simp only [hq, if_false]
      by_cases hb : c = '!'
      · subst hb
        simp [parsedTuple]
      · simp only [hb, if_false, parsedTuple]
        exact parse_tail_eq oth tb mr (c :: rest) fuel σ (by simp only [List.length_cons]; omega)

/-- `GenEq` for `do_quit`: prints an empty line, returns `1`, touches nothing else. -/
theorem do_quit_eq (args : Str) (σ : CmdSt) :
    MonCmdGen.do_quit oth tb mr args σ = .ok (some 1) { σ with out := σ.out ++ [[]] } := rfl

def radixes : List (Str × Int) :=
  [("Hexadecimal".toList, 16), ("Decimal".toList, 10), ("Octal".toList, 8), ("Binary".toList, 2)]

/-- The lines of the second loop of `do_radix`: `Default radix is <name>` for the current radix. -/
def radixLines (r : Nat) : List Str :=
  (radixes.filter fun p => ((r : Int) = p.2)).map fun p => "Default radix is ".toList ++ p.1

theorem radix_for2_eq : ∀ (l : List (Str × Int)) (σ : CmdSt),
    MonCmdGen.do_radix_for2 oth tb mr l σ =
      .ok () { σ with out := σ.out ++ ((l.filter fun p => ((σ.core.radix : Int) = p.2)).map
        (fun p => "Default radix is ".toList ++ p.1)) } := by
  intro l
  induction l with
  | nil => intro σ; simp [MonCmdGen.do_radix_for2]
  | cons p rest ih =>
    intro σ
    obtain ⟨name, radix⟩ := p
    unfold MonCmdGen.do_radix_for2
    by_cases h : (σ.core.radix : Int) = radix
    · simp only [h, if_true, ih, List.filter_cons, decide_true, List.map_cons, List.append_assoc,
        List.singleton_append]
    · simp only [h, if_false, ih, List.filter_cons, decide_false, Bool.false_eq_true]

def radixMsg (args : Str) (v : Verdict) : List Str :=
  if v.isRejected = true then ["Illegal radix: ".toList ++ args] else []

/-- The first loop of `do_radix` is the model's chain of comparisons: the four names start with different letters,
so at most one round assigns. -/
theorem radix_for1_eq (ch : Char) (rest : Str) (σ : CmdSt) :
    MonCmdGen.do_radix_for1 oth tb mr (lower ch) radixes false σ =
      .ok (!(doRadix σ.core (ch :: rest)).1.isRejected) { σ with core := (doRadix σ.core (ch :: rest)).2 } := by
  have gH : pyGetItem "Hexadecimal".toList 0 = some 'H' := by decide
  have gD : pyGetItem "Decimal".toList 0 = some 'D' := by decide
  have gO : pyGetItem "Octal".toList 0 = some 'O' := by decide
  have gB : pyGetItem "Binary".toList 0 = some 'B' := by decide
  have hH : lower 'H' = 'h' := by decide
  have hD : lower 'D' = 'd' := by decide
  have hO : lower 'O' = 'o' := by decide
  have hB : lower 'B' = 'b' := by decide
  simp only [radixes, MonCmdGen.do_radix_for1, gH, gD, gO, gB, hH, hD, hO, hB, doRadix, eq_comm (b := lower ch)]
  by_cases h1 : lower ch = 'h'
  · simp +decide [h1, Verdict.isRejected]
  by_cases h2 : lower ch = 'd'
  · simp +decide [h2, Verdict.isRejected]
  by_cases h3 : lower ch = 'o'
  · simp +decide [h3, Verdict.isRejected]
  by_cases h4 : lower ch = 'b'
  · simp +decide [h4, Verdict.isRejected]
  simp [h1, h2, h3, h4, Verdict.isRejected]

/-- `GenEq` for `do_radix`: the new session core is the model's `doRadix`; `Illegal radix: <args>` is
printed exactly when the model refuses; then the name of the (new) default radix. -/
theorem do_radix_eq (args : Str) (σ : CmdSt) :
    MonCmdGen.do_radix oth tb mr args σ =
      .ok none { σ with core := (doRadix σ.core args).2,
                        out := σ.out ++ radixMsg args (doRadix σ.core args).1 ++
                          radixLines (doRadix σ.core args).2.radix } := by
  unfold MonCmdGen.do_radix
  cases args with
  | nil =>
    have h0 : ¬ (([] : Str) ≠ "".toList) := by simp
    simp only [h0, if_false, radix_for2_eq, Flow.bind_ok]
    simp only [doRadix, radixMsg, Verdict.isRejected, Bool.false_eq_true, if_false, List.append_nil]
    rfl
  | cons ch rest =>
    have hne : (ch :: rest) ≠ "".toList := by simp
    simp only [hne, ne_eq, not_false_eq_true, if_true, pyGetItem_zero]
    have hr : ([("Hexadecimal".toList, 16), ("Decimal".toList, 10), ("Octal".toList, 8), ("Binary".toList, 2)] :
        List (Str × Int)) = radixes := rfl
    rw [hr, radix_for1_eq oth tb mr ch rest σ]
    simp only [Flow.bind_ok, radix_for2_eq, radixMsg, radixLines]
    cases (doRadix σ.core (ch :: rest)).1.isRejected <;> simp

def widthMsg (args : Str) : List Str :=
  if args = [] then [] else
  match pyIntL args 10 with
  | none => ["Illegal width: ".toList ++ args]
  | some w => if w ≥ 10 then [] else ["Minimum terminal width is 10".toList]

theorem widthMsg_iff (c : Core) (args : Str) : widthMsg args ≠ [] ↔ (doWidth c args).1.isRejected = true := by
  unfold widthMsg doWidth
  by_cases h : args = []
  · simp [h, Verdict.isRejected]
  · simp only [h, if_false]
    cases pyIntL args 10 with
    | none => simp [Verdict.isRejected]
    | some w => by_cases hw : w ≥ 10 <;> simp [hw, Verdict.isRejected]

/-- `GenEq` for `do_width`: the new core is the model's `doWidth`; the reason is printed exactly when the
model refuses (`widthMsg_iff`); then the (new) width. -/
theorem do_width_eq (args : Str) (σ : CmdSt) :
    MonCmdGen.do_width oth tb mr args σ =
      .ok none { σ with core := (doWidth σ.core args).2,
                        out := σ.out ++ widthMsg args ++
                          ["Terminal width is ".toList ++ pyFmtD (doWidth σ.core args).2.width] } := by
  unfold MonCmdGen.do_width doWidth widthMsg
  by_cases h : args = []
  · subst h
    have h0 : ¬ (([] : Str) ≠ "".toList) := by simp
    simp only [h0, if_false, if_true, List.append_nil]
  · have h0 : args ≠ "".toList := by simpa using h
    simp only [h0, ne_eq, not_false_eq_true, if_true, h, if_false]
    cases pyIntL args 10 with
    | none => simp only [List.append_assoc, List.singleton_append]
    | some w =>
      by_cases hw : w ≥ 10
      · simp only [hw, if_true, List.append_nil]
      · simp only [hw, if_false, List.append_assoc, List.singleton_append]

/-- How a translated command ends: with the exception `e` (nothing was changed before it), or normally,
returning `None`, with the model's new core and `lines` printed. -/
def cmdEnd (σ : CmdSt) (core' : Core) (exc : Option Exc) (lines : List Str) : Flow CmdSt PyRet :=
  match exc with
  | some e => .raise e σ
  | none => .ok none { σ with core := core', out := σ.out ++ lines }

def helpAddLabel : List Str := ["add_label <address> <label>".toList, "Map a given address to a label.".toList]
def helpDeleteLabel : List Str :=
  ["delete_label <label>".toList, "Remove the specified label from the label tables.".toList]

/-- The exception `do_add_label` lets escape into the catch-all of `onecmd`: `ValueError` of `shlex.split`
(unbalanced quote, trailing backslash). -/
def addLabelExc (P : Parser) (args : Str) : Option Exc :=
  match shlexSplit args with
  | none => some .ValueError
  | some [addr, _] => if numberL P addr = .other then some .Other else none
  | some _ => none

def addLabelLines (P : Parser) (args : Str) : List Str :=
  match shlexSplit args with
  | none => []
  | some [addr, _] =>
    match numberL P addr with
    | .ok _ => []
    | .key => [keyErrorArg0 P addr]
    | .overflow => ["Overflow error: ".toList ++ args]
    | .other => []
  | some _ => ("Syntax error: ".toList ++ args) :: helpAddLabel

/-- `GenEq` for `do_add_label`, for ALL argument strings: `ValueError` of `shlex.split` escapes; a wrong
number of tokens prints the syntax error and the help text; an unknown label / an address that is too
wide prints its message; otherwise the label table is the model's (`insert`).  The new core is the
model's `doAddLabel` in every case. -/
theorem do_add_label_eq (args : Str) (σ : CmdSt) :
    MonCmdGen.do_add_label oth tb mr args σ =
      cmdEnd σ (doAddLabel σ.core args).2 (addLabelExc σ.core.parser args) (addLabelLines σ.core.parser args) := by
  unfold MonCmdGen.do_add_label doAddLabel addLabelExc addLabelLines cmdEnd
  cases hs : shlexSplit args with
  | none => rfl
  | some toks =>
    match toks with
    | [addr, label] =>
      have hl : ¬ ((([addr, label] : List Str).length : Int) ≠ 2) := by simp
      simp only [hl, if_false, pyGetItem_zero, pyGetItem_one, parseNumber]
      cases hn : numberL σ.core.parser addr with
      | ok v => simp [pyDictSet]
      | key => simp
      | overflow => simp
      | other => simp
    | [] | [_] | _ :: _ :: _ :: _ =>
      simp only [List.length_cons, List.length_nil]
      rw [if_pos (by omega)]
      simp only [MonCmdGen.help_add_label, helpAddLabel, List.append_assoc, List.cons_append, List.nil_append]

theorem addLabel_ok_iff (c : Core) (args : Str) :
    (doAddLabel c args).1 = .ok ↔ addLabelExc c.parser args = none ∧ addLabelLines c.parser args = [] := by
  unfold doAddLabel addLabelExc addLabelLines
  cases shlexSplit args with
  | none => simp
  | some toks =>
    match toks with
    | [addr, label] => cases hn : numberL c.parser addr <;> simp [hn, rejectOfRes]
    | [] | [_] | _ :: _ :: _ :: _ => simp

theorem filter_ne_of_lookup_none : ∀ (l : Labels) (k : Str), lookup l k = none →
    l.filter (fun kv => kv.1 ≠ k) = l := by
  intro l
  induction l with
  | nil => intro k _; rfl
  | cons p rest ih =>
    intro k h
    obtain ⟨k', v⟩ := p
    unfold lookup at h
    by_cases e : k' = k
    · simp [e] at h
    · simp only [e, if_false] at h
      rw [List.filter_cons]
      have : decide ((k', v).1 ≠ k) = true := by simpa using e
      rw [this, if_pos rfl, ih k h]

/-- `GenEq` for `do_delete_label`: the help text for an empty argument (the model's `usage` refusal);
otherwise the label table is the model's `deleteLabel` (a name that is not in the table changes nothing)
and nothing is printed. -/
theorem do_delete_label_eq (args : Str) (σ : CmdSt) :
    MonCmdGen.do_delete_label oth tb mr args σ =
      cmdEnd σ (doDeleteLabel σ.core args).2 none (if args = [] then helpDeleteLabel else []) := by
  unfold MonCmdGen.do_delete_label doDeleteLabel cmdEnd
  by_cases h : args = []
  · subst h
    have h0 : ([] : Str) = "".toList := rfl
    simp only [h0, if_true, MonCmdGen.help_delete_label, helpDeleteLabel, List.append_assoc, List.cons_append,
      List.nil_append]
  · have h0 : ¬ (args = "".toList) := by simpa using h
    simp only [h0, h, if_false, pyDictHas, pyDictDel, deleteLabel, List.append_nil]
    by_cases hl : (lookup σ.core.labels args).isSome = true
    · simp only [hl, if_true]
    · simp only [hl, if_false, Bool.false_eq_true]
      rw [filter_ne_of_lookup_none _ _ (by simpa using hl)]

/-- The lines of `do_show_labels`: the table sorted by (address, name). -/
def showLabelLines (c : Core) : List Str :=
  (pySortPairs (pyZip (pyDictValues c.labels) (pyDictKeys c.labels))).map
    fun p => (pyFmtX (addrFmtW c.dev) p.1 ++ ": ".toList) ++ p.2

theorem show_labels_for1_eq : ∀ (l : List (Int × Str)) (σ : CmdSt),
    MonCmdGen.do_show_labels_for1 oth tb mr l σ =
      .ok () { σ with out := σ.out ++ l.map fun p => (pyFmtX (addrFmtW σ.core.dev) p.1 ++ ": ".toList) ++ p.2 } := by
  intro l
  induction l with
  | nil => intro σ; simp [MonCmdGen.do_show_labels_for1]
  | cons p rest ih =>
    intro σ
    obtain ⟨a, lab⟩ := p
    unfold MonCmdGen.do_show_labels_for1
    simp only [ih, List.map_cons, List.append_assoc, List.singleton_append]

/-- `GenEq` for `do_show_labels`: prints the sorted table, changes nothing (the model's `.plain .ok c`). -/
theorem do_show_labels_eq (args : Str) (σ : CmdSt) :
    MonCmdGen.do_show_labels oth tb mr args σ = cmdEnd σ σ.core none (showLabelLines σ.core) := by
  unfold MonCmdGen.do_show_labels cmdEnd showLabelLines
  simp only [show_labels_for1_eq, Flow.bind_ok]

def RegTuple (n : Str) : Prop :=
  n = "pc".toList ∨ n = "sp".toList ∨ n = "a".toList ∨ n = "x".toList ∨ n = "y".toList ∨ n = "p".toList

theorem regOfName_cases (n : Str) :
    (regOfName n = none ∧ ¬ RegTuple n) ∨
    (∃ reg, regOfName n = some reg ∧ RegTuple n ∧ (n = "pc".toList ↔ reg = .pc)) := by
  unfold regOfName RegTuple
  split_ifs with h1 h2 h3 h4 h5 h6
  · subst h1; exact Or.inr ⟨_, rfl, by decide, by decide⟩
  · subst h2; exact Or.inr ⟨_, rfl, by decide, by decide⟩
  · subst h3; exact Or.inr ⟨_, rfl, by decide, by decide⟩
  · subst h4; exact Or.inr ⟨_, rfl, by decide, by decide⟩
  · subst h5; exact Or.inr ⟨_, rfl, by decide, by decide⟩
  · subst h6; exact Or.inr ⟨_, rfl, by decide, by decide⟩
  · exact Or.inl ⟨rfl, by simp only [h1, h2, h3, h4, h5, h6, or_self, not_false_eq_true]⟩
def pairLine (P : Parser) (pair : Str × Str) : Except Reject (RegName × Int) → List Str
  | .ok _ => []
  | .error .illegal => ["Invalid register: ".toList ++ pair.1]
  | .error .label => [keyErrorArg0 P pair.2]
  | .error .overflow =>
    ["Overflow: ".toList ++ pyReprStr pair.2 ++ " too wide for register ".toList ++ pyReprStr pair.1]
  | .error _ => []

def pairLines (d : Dev) (P : Parser) (pairs : List (Str × Str)) : List Str :=
  pairs.flatMap fun p => pairLine P p (pairOutcome d P p)

/-- One round of the generated `for register, value in pairs` loop is the model's `regsLoop` on that pair -- its
registers, its message (`pairLine` of the model's `pairOutcome`) --, then the rest of the loop; no exception. -/
theorem registers_for1_step (register value : Str) (rest : List (Str × Str)) (σ : CmdSt) :
    MonCmdGen.do_registers_for1 oth tb mr ((register, value) :: rest) σ =
      MonCmdGen.do_registers_for1 oth tb mr rest
        { σ with core := { σ.core with regs := (regsLoop σ.core.dev σ.core.parser [(register, value)] σ.core.regs).2 },
                 out := σ.out ++ pairLines σ.core.dev σ.core.parser [(register, value)] } := by
  rw [MonCmdGen.do_registers_for1]
  simp only [regsLoop, pairLines, List.flatMap_cons, List.flatMap_nil, List.append_nil]
  rcases regOfName_cases register with ⟨hr, ht⟩ | ⟨reg, hr, ht, hpc⟩ <;> unfold RegTuple at ht
  · rw [if_pos ht]
    simp [pairOutcome, hr, pairLine]
  · rw [if_neg (not_not.mpr ht)]
    have hset : ∀ v, pySetattrMpu σ.core.regs register v = some (σ.core.regs.set reg v) := by
      intro v; simp [pySetattrMpu, hr]
    simp only [parseNumber]
    cases hn : numberL σ.core.parser value with
    | other => exact absurd hn (Py65.Proofs.Num.numberL_ne_other _ _)
    | key => simp [pairOutcome, hr, hn, pairLine]
    | overflow => simp [pairOutcome, hr, hn, pairLine]
    | ok v =>
      simp only [hn]
      by_cases hp : register = "pc".toList
      · rw [if_neg (not_not.mpr hp)]
        simp [pairOutcome, hr, hn, hpc.mp hp, hset, pairLine]
      · have hreg : reg ≠ .pc := fun e => hp (hpc.mpr e)
        rw [if_pos hp]
        by_cases hw : v ≠ Py.land v σ.core.dev.byteMask
        · rw [if_pos hw]
          simp [pairOutcome, hr, hn, hreg, hw, pairLine]
        · rw [if_neg hw]
          simp [pairOutcome, hr, hn, hreg, hw, hset, pairLine]

/-- The generated loop IS the model's `regsLoop`: same registers at the end, one message per refused pair (in
order), nothing else touched, no exception. -/
theorem registers_for1_eq : ∀ (pairs : List (Str × Str)) (σ : CmdSt),
    MonCmdGen.do_registers_for1 oth tb mr pairs σ =
      .ok () { σ with core := { σ.core with regs := (regsLoop σ.core.dev σ.core.parser pairs σ.core.regs).2 },
                      out := σ.out ++ pairLines σ.core.dev σ.core.parser pairs } := by
  intro pairs
  induction pairs with
  | nil => intro σ; simp [MonCmdGen.do_registers_for1, regsLoop, pairLines]
  | cons pair rest ih =>
    intro σ
    rw [registers_for1_step, ih]
    simp [regsLoop, pairLines, Core.parser]

def registersLines (c : Core) (args : Str) : List Str :=
  if args = [] then [] else
  if findPairs args = [] then ["Syntax error: ".toList ++ args]
  else pairLines c.dev c.parser (findPairs args)

/-- `GenEq` for `do_registers`, for ALL argument strings: nothing for an empty argument, the syntax error
when `re.findall` finds no pair, otherwise the registers of the model's `doRegisters` (pair by pair:
`regsLoop`) and one message per refused pair.  No exception; nothing but the registers is touched. -/
theorem do_registers_eq (args : Str) (σ : CmdSt) :
    MonCmdGen.do_registers oth tb mr args σ =
      cmdEnd σ { σ.core with regs := (doRegisters σ.core.dev σ.core.parser σ.core.regs args).2.2 } none
        (registersLines σ.core args) := by
  unfold MonCmdGen.do_registers doRegisters registersLines cmdEnd
  by_cases h : args = []
  · subst h
    have h0 : ([] : Str) = "".toList := rfl
    simp only [h0, if_true, List.append_nil]
  · have h0 : ¬ (args = "".toList) := by simpa using h
    simp only [h0, h, if_false]
    by_cases hp : findPairs args = []
    · simp only [hp, if_true]
    · simp only [hp, if_false, registers_for1_eq, Flow.bind_ok]

/-- `cmd.Cmd.default`: one line `*** Unknown syntax: <line>`, returns `None`. -/
def unknownSyntax (line : Str) (σ : CmdSt) : Flow CmdSt PyRet :=
  .ok none { σ with out := σ.out ++ ["*** Unknown syntax: ".toList ++ line] }

theorem default_eq (line : Str) (σ : CmdSt) : MonCmdGen.Cmd_default oth tb mr line σ = unknownSyntax line σ := rfl

/-- `cmd.Cmd.onecmd` on the model's `parseline` result, with the virtual `self.onecmd` as a parameter: the
defining equations of the model's dispatcher (`MonCmd.cmdOnecmd / onecmdL`), with the command itself
called through the generated `call_do`. -/
def dispatch (self_onecmd : Str → CmdSt → Flow CmdSt PyRet) : Parsed → CmdSt → Flow CmdSt PyRet
  | .empty, σ => if σ.lastcmd ≠ [] then self_onecmd σ.lastcmd σ else .ok none σ
  | .noCmd l, σ => unknownSyntax l σ
  | .cmd w a l, σ =>
    let σ1 : CmdSt := { σ with lastcmd := if l = "EOF".toList then [] else l }
    if w = [] then unknownSyntax l σ1 else
    match commandOf w with
    | none => unknownSyntax l σ1
    | some _ => MonCmdGen.call_do oth tb mr ("do_".toList ++ w) a σ1

theorem parseline_line_ne_nil {x : Str} :
    (∀ l, parseline x = .noCmd l → l ≠ []) ∧ (∀ w a l, parseline x = .cmd w a l → l ≠ []) := by
  unfold parseline
  cases pyStrip x with
  | nil => simp
  | cons c rest =>
    by_cases hb : c = '!'
    · simp [hb]
    · simp only [hb, if_false]
      refine ⟨fun l h => (by cases h), ?_⟩
      intro w a l h
      injection h with _ _ e
      rw [← e]
      by_cases hq : c = '?' <;> simp [hq, help]

theorem contains_map_do (w : Str) : ∀ (l : List (Str × Command)),
    (l.map fun kv => "do_".toList ++ kv.1).contains ("do_".toList ++ w) =
      (l.find? fun kv => kv.1 = w).isSome := by
  intro l
  induction l with
  | nil => rfl
  | cons p rest ih =>
    by_cases h : p.1 = w
    · simp [h]
    · have h' : ¬ ("do_".toList ++ w = "do_".toList ++ p.1) := fun e => h (List.append_cancel_left e).symm
      have h'' : ("do_".toList ++ w == "do_".toList ++ p.1) = false := by simpa using h'
      simp only [List.map_cons, List.contains_cons, h'', Bool.false_or, ih, List.find?_cons, h, decide_false]

/-- `getattr(self, 'do_' + cmd)` succeeds exactly for the words of the model's command table. -/
theorem getattr_eq (w : Str) :
    pyGetattrDo MonCmdGen.doNames ("do_".toList ++ w) =
      if (commandOf w).isSome = true then some ("do_".toList ++ w) else none := by
  unfold pyGetattrDo commandOf
  rw [doNames_eq, contains_map_do]
  cases commandTable.find? (fun kv => kv.1 = w) <;> rfl

/-- `GenEq` for `cmd.Cmd.onecmd` (and `emptyline`, `default`): with fuel for `parseline`, the generated
function is `dispatch` on the model's `parseline`. -/
theorem Cmd_onecmd_eq (self_onecmd : Str → CmdSt → Flow CmdSt PyRet) (fuel : Nat) (line : Str) (σ : CmdSt)
    (hf : fuel > line.length + 4) :
    MonCmdGen.Cmd_onecmd oth tb mr self_onecmd fuel line σ =
      dispatch oth tb mr self_onecmd (parseline line) σ := by
  unfold MonCmdGen.Cmd_onecmd
  rw [parseline_eq oth tb mr fuel line σ hf]
  simp only [Flow.bind_ok]
  obtain ⟨hn1, hn2⟩ := @parseline_line_ne_nil line
  cases hp : parseline line with
  | empty => simp only [parsedTuple, if_true, MonCmdGen.Cmd_emptyline, dispatch]
  | noCmd l =>
    have := hn1 l hp
    simp only [parsedTuple, this, if_false, dispatch, default_eq]
  | cmd w a l =>
    have := hn2 w a l hp
    simp only [parsedTuple, this, if_false, dispatch, default_eq, getattr_eq]
    have hemp : "".toList = ([] : Str) := rfl
    have hsome : ∀ c : Command, (some c).isSome = true := fun _ => rfl
    by_cases he : l = "EOF".toList
    · by_cases hw : w = []
      · simp only [he, if_true, hw, hemp]
      · cases hc : commandOf w <;>
          simp only [he, if_true, hw, hemp, if_false, Option.isSome_none, Bool.false_eq_true, hsome]
    · by_cases hw : w = []
      · simp only [he, if_false, hw, hemp, if_true]
      · cases hc : commandOf w <;>
          simp only [he, if_true, hw, hemp, if_false, Option.isSome_none, Bool.false_eq_true, hsome]

theorem parseline_empty_iff (line : Str) : parseline line = .empty ↔ MonCmd.pyStrip line = [] := by
  unfold parseline
  cases MonCmd.pyStrip line with
  | nil => simp
  | cons c rest => by_cases hb : c = '!' <;> simp [hb]

/-- An empty line needs no fuel in `parseline` (the identifier loop is not reached). -/
theorem Cmd_onecmd_empty (self_onecmd : Str → CmdSt → Flow CmdSt PyRet) (fuel : Nat) (line : Str) (σ : CmdSt)
    (h : parseline line = .empty) :
    MonCmdGen.Cmd_onecmd oth tb mr self_onecmd fuel line σ = dispatch oth tb mr self_onecmd .empty σ := by
  have hs := (parseline_empty_iff line).mp h
  unfold MonCmdGen.Cmd_onecmd MonCmdGen.Cmd_parseline
  simp only [hs, if_true, Flow.bind_ok, MonCmdGen.Cmd_emptyline, dispatch]

/-- The status line of `Monitor.onecmd`: printed unless the preprocessed line starts with `quit`. -/
def status (l : Str) (s : CmdSt) : CmdSt :=
  if startsWith l quit = true then s else { s with out := s.out ++ ["\n".toList ++ mr s.core] }

/-- The `try / except Exception` of `Monitor.onecmd`, the status line and `return result`: an exception
of the command is absorbed (its traceback printed, `None` returned) with the state at the raise. -/
def finish (l : Str) : Flow CmdSt PyRet → Flow CmdSt PyRet
  | .nofuel => .nofuel
  | .raise e s => .ok none (status mr l { s with out := s.out ++ [tb e] })
  | .ok v s => .ok v (status mr l s)

theorem status_tail (l : Str) (v : PyRet) (s : CmdSt) :
    (if (!(startsWith l "quit".toList)) = true then (MonCmdGen._output_mpu_status oth tb mr s).bind fun _ σ => .ok v σ
      else .ok v s) = .ok v (status mr l s) := by
  have hqd : quit = "quit".toList := rfl
  cases hb : startsWith l "quit".toList <;>
    simp only [status, hqd, hb, Bool.not_false, Bool.not_true, if_true, if_false, Bool.false_eq_true,
      MonCmdGen._output_mpu_status, Flow.bind_ok]

theorem onecmd_finish (fuel : Nat) (line : Str) (σ : CmdSt) :
    MonCmdGen.onecmd oth tb mr (fuel + 1) line σ =
      finish tb mr (preprocessL line)
        (MonCmdGen.Cmd_onecmd oth tb mr (MonCmdGen.onecmd oth tb mr fuel) fuel (preprocessL line) σ) := by
  rw [MonCmdGen.onecmd]
  simp only [preprocess_eq]
  cases MonCmdGen.Cmd_onecmd oth tb mr (MonCmdGen.onecmd oth tb mr fuel) fuel (preprocessL line) σ with
  | nofuel => rfl
  | raise e s => exact status_tail oth tb mr _ none _
  | ok v s => exact status_tail oth tb mr _ v s

/-- `GenEq` for `Monitor.onecmd` (with `cmd.Cmd.onecmd` inside): preprocess with the generated
`_preprocess_line` (= the model's `preprocessL`), dispatch on the model's `parseline`, absorb any
exception, print the status line, return the command's value.  `fuel + 1` = one level of the
recursion through `emptyline` plus `fuel` for the loop of `parseline`. -/
theorem onecmd_eq (fuel : Nat) (line : Str) (σ : CmdSt) (hf : fuel > (preprocessL line).length + 4) :
    MonCmdGen.onecmd oth tb mr (fuel + 1) line σ =
      finish tb mr (preprocessL line)
        (dispatch oth tb mr (MonCmdGen.onecmd oth tb mr fuel) (parseline (preprocessL line)) σ) := by
  rw [onecmd_finish, Cmd_onecmd_eq oth tb mr _ fuel _ σ hf]

/-- The same for a line that is empty after preprocessing, for ANY fuel. -/
theorem onecmd_eq_empty (fuel : Nat) (line : Str) (σ : CmdSt) (h : parseline (preprocessL line) = .empty) :
    MonCmdGen.onecmd oth tb mr (fuel + 1) line σ =
      finish tb mr (preprocessL line) (dispatch oth tb mr (MonCmdGen.onecmd oth tb mr fuel) .empty σ) := by
  rw [onecmd_finish, Cmd_onecmd_empty oth tb mr _ fuel _ σ h]

/-- `Monitor.onecmd` never lets an exception escape (C20: "returns without raising"): whatever the
commands -- translated or not (`oth`) -- raise, the result is a normal return (or the fuel ran out). -/
theorem onecmd_never_raises (fuel : Nat) (line : Str) (σ : CmdSt) (e : Exc) (s : CmdSt) :
    MonCmdGen.onecmd oth tb mr fuel line σ ≠ .raise e s := by
  cases fuel with
  | zero => simp [MonCmdGen.onecmd]
  | succ f =>
    rw [onecmd_finish]
    cases MonCmdGen.Cmd_onecmd oth tb mr (MonCmdGen.onecmd oth tb mr f) f (preprocessL line) σ <;> simp [finish]

/-- The state `Monitor.onecmd` goes on with after a command: its final state, or -- the catch-all absorbs
any exception -- the state at the raise. -/
def stateAfter (σ : CmdSt) : Flow CmdSt PyRet → CmdSt
  | .ok _ s => s
  | .raise _ s => s
  | .nofuel => σ

def retOf : Flow CmdSt PyRet → PyRet
  | .ok v _ => v
  | _ => none

/-- The run `f` of a method called in `σ` ended (returned or raised), with session core `core'`, `lastcmd`
untouched and no true value (the four clauses of `OthModels` below, for one call). -/
def CmdEnds (σ : CmdSt) (f : Flow CmdSt PyRet) (core' : Core) : Prop :=
  f ≠ .nofuel ∧ (stateAfter σ f).core = core' ∧ (stateAfter σ f).lastcmd = σ.lastcmd ∧ (retOf f).truthy = false

theorem CmdEnds.congr {σ : CmdSt} {f : Flow CmdSt PyRet} {c1 c2 : Core} (h : CmdEnds σ f c1) (e : c1 = c2) : CmdEnds σ f c2 :=
  e ▸ h

def translated : Command → Bool
  | .quit | .radix | .width | .registers | .add_label | .show_labels | .delete_label => true
  | _ => false

/-- The translated method `call_do` picks for an attribute name, if any: its chain of comparisons. -/
def methodOf (name : Str) : Option Command :=
  if name = "do_quit".toList then some .quit
  else if name = "do_radix".toList then some .radix
  else if name = "do_width".toList then some .width
  else if name = "do_registers".toList then some .registers
  else if name = "do_add_label".toList then some .add_label
  else if name = "do_show_labels".toList then some .show_labels
  else if name = "do_delete_label".toList then some .delete_label
  else none

def runMethod (m : Option Command) (name arg : Str) (σ : CmdSt) : Flow CmdSt PyRet :=
  match m with
  | some .quit => MonCmdGen.do_quit oth tb mr arg σ
  | some .radix => MonCmdGen.do_radix oth tb mr arg σ
  | some .width => MonCmdGen.do_width oth tb mr arg σ
  | some .registers => MonCmdGen.do_registers oth tb mr arg σ
  | some .add_label => MonCmdGen.do_add_label oth tb mr arg σ
  | some .show_labels => MonCmdGen.do_show_labels oth tb mr arg σ
  | some .delete_label => MonCmdGen.do_delete_label oth tb mr arg σ
  | _ => oth name arg σ

theorem call_do_eq (name arg : Str) (σ : CmdSt) :
    MonCmdGen.call_do oth tb mr name arg σ = runMethod oth tb mr (methodOf name) name arg σ := by
  -- one step of the two parallel chains of comparisons
  have step : ∀ (c : Prop) [Decidable c] (A R : Flow CmdSt PyRet) (M S : Option Command),
      A = runMethod oth tb mr M name arg σ → R = runMethod oth tb mr S name arg σ →
      (if c then A else R) = runMethod oth tb mr (if c then M else S) name arg σ := by
    intro c _ A R M S hA hR
    by_cases h : c
    · rw [if_pos h, if_pos h, hA]
    · rw [if_neg h, if_neg h, hR]
  exact step _ _ _ _ _ rfl (step _ _ _ _ _ rfl (step _ _ _ _ _ rfl (step _ _ _ _ _ rfl (step _ _ _ _ _ rfl
    (step _ _ _ _ _ rfl (step _ _ _ _ _ rfl rfl))))))

/-- The comparisons of names, decided once for every word of the command table: `call_do` picks the method
of a translated command for its own name and none for any other. -/
theorem methodOf_table : ∀ kv ∈ commandTable,
    methodOf ("do_".toList ++ kv.1) = if translated kv.2 = true then some kv.2 else none := by decide +kernel

def genOf (cmd : Command) (arg : Str) (σ : CmdSt) : Flow CmdSt PyRet :=
  runMethod oth tb mr (if translated cmd = true then some cmd else none) ("do_".toList ++ cmdWord cmd) arg σ

theorem call_do_cmd {w : Str} {cmd : Command} (h : commandOf w = some cmd) (arg : Str) (σ : CmdSt) :
    MonCmdGen.call_do oth tb mr ("do_".toList ++ w) arg σ = genOf oth tb mr cmd arg σ := by
  rw [call_do_eq, methodOf_table _ (commandOf_mem h), commandOf_word h]
  rfl

theorem genOf_oth (cmd : Command) (arg : Str) (σ : CmdSt) (h : translated cmd = false) :
    genOf oth tb mr cmd arg σ = oth ("do_".toList ++ cmdWord cmd) arg σ := by
  simp only [genOf, h, Bool.false_eq_true, if_false, runMethod]

/-- What is assumed of the `do_*` methods that are NOT translated here (help, version, reset, mpu,
assemble, disassemble, step, return, goto, cycles, tilde, cd, pwd, load, save, fill, mem, the
breakpoint commands): they end, they do to the session core what the model's `runCommand ext` says,
they leave `lastcmd` alone and they do not return a true value.  (Their own ties: C16, C17, C19 and
the sampled correspondence of C20.) -/
def OthModels (ext : Ext) : Prop :=
  ∀ (cmd : Command) (arg : Str) (σ : CmdSt), translated cmd = false →
    oth ("do_".toList ++ cmdWord cmd) arg σ ≠ .nofuel ∧
    (stateAfter σ (oth ("do_".toList ++ cmdWord cmd) arg σ)).core = (runCommand ext σ.core cmd arg).core ∧
    (stateAfter σ (oth ("do_".toList ++ cmdWord cmd) arg σ)).lastcmd = σ.lastcmd ∧
    (retOf (oth ("do_".toList ++ cmdWord cmd) arg σ)).truthy = false

/-- The body of `OthModels` at ONE call (`othModels_iff`).  A generated run command may run out of fuel, and
`do_fill` is only tied for a well-formed label table, so the composition (`MonCompose`, whose namespace this
and `onecmd_sim_at` carry) asks for the hypothesis at the one call a line is dispatched to. -/
def _root_.Py65.Proofs.MonCompose.ModelsAt (ext : Ext) (cmd : Command) (arg : Str) (σ : CmdSt) : Prop :=
  oth ("do_".toList ++ cmdWord cmd) arg σ ≠ .nofuel ∧
  (stateAfter σ (oth ("do_".toList ++ cmdWord cmd) arg σ)).core = (runCommand ext σ.core cmd arg).core ∧
  (stateAfter σ (oth ("do_".toList ++ cmdWord cmd) arg σ)).lastcmd = σ.lastcmd ∧
  (retOf (oth ("do_".toList ++ cmdWord cmd) arg σ)).truthy = false

theorem othModels_iff (ext : Ext) :
    OthModels oth ext ↔ ∀ cmd arg σ, translated cmd = false → ModelsAt oth ext cmd arg σ := Iff.rfl

theorem cmdEnd_facts (σ : CmdSt) (core' : Core) (exc : Option Exc) (lines : List Str)
    (h : exc ≠ none → core' = σ.core) : CmdEnds σ (cmdEnd σ core' exc lines) core' := by
  cases exc with
  | none => simp [CmdEnds, cmdEnd, stateAfter, retOf, PyRet.truthy]
  | some e => simp [CmdEnds, cmdEnd, stateAfter, retOf, PyRet.truthy, h (by simp)]

/-- The seven translated commands: each ends, the session core afterwards is the model's `runCommand`,
`lastcmd` is untouched, and only `do_quit` returns a true value. -/
theorem translated_sim (ext : Ext) (cmd : Command) (ht : translated cmd = true) (arg : Str) (σ : CmdSt) :
    genOf oth tb mr cmd arg σ ≠ .nofuel ∧
    (stateAfter σ (genOf oth tb mr cmd arg σ)).core = (runCommand ext σ.core cmd arg).core ∧
    (stateAfter σ (genOf oth tb mr cmd arg σ)).lastcmd = σ.lastcmd ∧
    ((retOf (genOf oth tb mr cmd arg σ)).truthy = true ↔ cmd = .quit) := by
  cases cmd <;> simp only [translated, reduceCtorEq] at ht <;>
    simp only [genOf, translated, if_true, runMethod, reduceCtorEq, iff_false, Bool.not_eq_true]
  case quit => simp [do_quit_eq, stateAfter, retOf, PyRet.truthy, runCommand]
  case radix => simp [do_radix_eq, stateAfter, retOf, PyRet.truthy, runCommand, Res.plain]
  case width => simp [do_width_eq, stateAfter, retOf, PyRet.truthy, runCommand, Res.plain]
  case registers =>
    rw [do_registers_eq]
    exact cmdEnd_facts σ _ none _ (by simp)
  case add_label =>
    rw [do_add_label_eq]
    refine cmdEnd_facts σ _ _ _ fun hx => doAddLabel_rejected _ _ ?_
    cases hv : (doAddLabel σ.core arg).1 with
    | rejected why => rfl
    | ok => exact absurd ((addLabel_ok_iff σ.core arg).mp hv).1 hx
  case show_labels =>
    rw [do_show_labels_eq]
    exact cmdEnd_facts σ _ none _ (by simp)
  case delete_label =>
    rw [do_delete_label_eq]
    exact cmdEnd_facts σ _ none _ (by simp)

/-- Every command, through the generated method: it ends, the session core afterwards is the model's
`runCommand`, `lastcmd` is untouched, and the returned value is true exactly for `quit` -- given, for a command
that is not translated, `ModelsAt` at this call. -/
theorem genOf_sim_at (ext : Ext) (cmd : Command) (arg : Str) (σ : CmdSt)
    (hm : translated cmd = false → ModelsAt oth ext cmd arg σ) :
    genOf oth tb mr cmd arg σ ≠ .nofuel ∧
    (stateAfter σ (genOf oth tb mr cmd arg σ)).core = (runCommand ext σ.core cmd arg).core ∧
    (stateAfter σ (genOf oth tb mr cmd arg σ)).lastcmd = σ.lastcmd ∧
    (retOf (genOf oth tb mr cmd arg σ)).truthy = (runCommand ext σ.core cmd arg).exit := by
  cases ht : translated cmd with
  | true =>
    obtain ⟨h1, h2, h3, h4⟩ := translated_sim oth tb mr ext cmd ht arg σ
    exact ⟨h1, h2, h3, Bool.eq_iff_iff.mpr (h4.trans (runCommand_exit ext σ.core cmd arg).symm)⟩
  | false =>
    have hex : (runCommand ext σ.core cmd arg).exit = false :=
      Bool.eq_false_iff.mpr fun he => by rw [(runCommand_exit ext σ.core cmd arg).mp he] at ht; cases ht
    rw [genOf_oth oth tb mr cmd arg σ ht, hex]
    exact hm ht

def OthFalsy : Prop := ∀ (name arg : Str) (σ : CmdSt), (retOf (oth name arg σ)).truthy = false

/-- Only `do_quit` returns a true value. -/
theorem genOf_truthy (ho : OthFalsy oth) (cmd : Command) (arg : Str) (σ : CmdSt)
    (h : (retOf (genOf oth tb mr cmd arg σ)).truthy = true) : cmd = .quit := by
  cases ht : translated cmd with
  -- any `ext` will do: only the clause about the returned value is used
  | true => exact (translated_sim oth tb mr ⟨fun _ c _ => (.ok, c.regs, c.mem)⟩ cmd ht arg σ).2.2.2.mp h
  | false =>
    rw [genOf_oth oth tb mr cmd arg σ ht, ho] at h
    cases h

theorem status_core (l : Str) (s : CmdSt) : (status mr l s).core = s.core ∧ (status mr l s).lastcmd = s.lastcmd := by
  unfold status; split <;> simp

/-- `f` is what the catch-all and the status line of `Monitor.onecmd` make of the run `r` of a command started in
`σ1`: out of fuel if `r` is; else a normal return of `r`'s value (`None` if it raised) in a state with the session
core and `lastcmd` that `r` ended with. -/
def Wraps (σ1 : CmdSt) (r f : Flow CmdSt PyRet) : Prop :=
  match r with
  | .nofuel => f = .nofuel
  | _ => ∃ s', f = .ok (retOf r) s' ∧ s'.core = (stateAfter σ1 r).core ∧ s'.lastcmd = (stateAfter σ1 r).lastcmd

theorem Wraps.of_ne {σ1 : CmdSt} {r f : Flow CmdSt PyRet} (h : Wraps σ1 r f) (hr : r ≠ .nofuel) :
    ∃ s', f = .ok (retOf r) s' ∧ s'.core = (stateAfter σ1 r).core ∧ s'.lastcmd = (stateAfter σ1 r).lastcmd := by
  cases r with
  | nofuel => exact absurd rfl hr
  | ok v s => exact h
  | raise e s => exact h

theorem wraps_finish (σ1 : CmdSt) (l : Str) (r : Flow CmdSt PyRet) : Wraps σ1 r (finish tb mr l r) := by
  cases r with
  | nofuel => rfl
  | ok v s => exact ⟨_, rfl, (status_core mr l s).1, (status_core mr l s).2⟩
  | raise e s => exact ⟨_, rfl, (status_core mr l _).1, (status_core mr l _).2⟩

/-- One more level of `Monitor.onecmd` around a run that was already absorbed (the empty line repeating
`lastcmd`) changes nothing of this. -/
theorem Wraps.finish {σ1 : CmdSt} {r f : Flow CmdSt PyRet} (h : Wraps σ1 r f) (l : Str) :
    Wraps σ1 r (finish tb mr l f) := by
  cases r with
  | nofuel => rw [show f = .nofuel from h]; rfl
  | ok v s =>
    obtain ⟨s', rfl, h1, h2⟩ := h
    exact ⟨_, rfl, (status_core mr l s').1.trans h1, (status_core mr l s').2.trans h2⟩
  | raise e s =>
    obtain ⟨s', rfl, h1, h2⟩ := h
    exact ⟨_, rfl, (status_core mr l s').1.trans h1, (status_core mr l s').2.trans h2⟩

def callOf (t : Option (Command × Str)) (σ1 : CmdSt) : Flow CmdSt PyRet :=
  match t with
  | some (cmd, a) => genOf oth tb mr cmd a σ1
  | none => .ok none σ1  -- no command is called (`default` / `emptyline` only print): a run that leaves `σ1`

/-- A line that is not empty after preprocessing: the generated dispatcher sets `lastcmd` as the model's
`cmdOnecmd` does and runs the command the line is dispatched to, inside catch-all and status. -/
theorem dispatch_at (ext : Ext) (self_onecmd : Str → CmdSt → Flow CmdSt PyRet) (l : Str) (σ : CmdSt)
    (hne : parseline l ≠ .empty) :
    ∃ σ1 : CmdSt, σ1.core = σ.core ∧ σ1.lastcmd = (cmdOnecmd ext { core := σ.core, lastcmd := σ.lastcmd } l).2 ∧
      Wraps σ1 (callOf oth tb mr (target l) σ1) (finish tb mr l (dispatch oth tb mr self_onecmd (parseline l) σ)) := by
  unfold target cmdOnecmd
  cases hp : parseline l with
  | empty => exact absurd hp hne
  | noCmd x => exact ⟨σ, rfl, rfl, _, rfl, (status_core mr l _).1, (status_core mr l _).2⟩
  | cmd w a x =>
    refine ⟨{ σ with lastcmd := if x = "EOF".toList then [] else x }, rfl, ?_, ?_⟩
    · by_cases hw : w = []
      · simp only [hw, if_true]
      · cases hc : commandOf w <;> simp only [hw, if_false, hc]
    · simp only [dispatch]
      by_cases hw : w = []
      · simp only [hw, if_true]
        exact ⟨_, rfl, (status_core mr l _).1, (status_core mr l _).2⟩
      · simp only [hw, if_false]
        cases hc : commandOf w with
        | none => exact ⟨_, rfl, (status_core mr l _).1, (status_core mr l _).2⟩
        | some cmd =>
          simp only [call_do_cmd oth tb mr hc]
          exact wraps_finish tb mr _ l _

/-- The one situation in which `Monitor.onecmd` does not return: an empty line when `lastcmd` is not
empty but preprocesses to an empty line again (e.g. `lastcmd = "."`, left by the line `"\v."`):
`emptyline` calls `onecmd(lastcmd)`, which is an empty line, ... -/
def Loops (σ : CmdSt) (line : Str) : Prop :=
  parseline (preprocessL line) = .empty ∧ σ.lastcmd ≠ [] ∧ parseline (preprocessL σ.lastcmd) = .empty

/-- In that situation the generated `onecmd` is out of fuel for EVERY fuel: the Python recursion has no
end (CPython stops it with `RecursionError`; the hand model records "refused, nothing changed" there,
which only the sampled correspondence ties to the code). -/
theorem onecmd_diverges (σ : CmdSt) : ∀ (fuel : Nat) (line : Str), Loops σ line →
    MonCmdGen.onecmd oth tb mr fuel line σ = .nofuel := by
  intro fuel
  induction fuel with
  | zero => intro line _; rfl
  | succ f ih =>
    intro line h
    obtain ⟨h1, h2, h3⟩ := h
    rw [onecmd_eq_empty oth tb mr f line σ h1]
    simp only [dispatch, h2, ne_eq, not_false_eq_true, if_true]
    rw [ih σ.lastcmd ⟨h3, h2, h3⟩]
    rfl

/-- The generated `Monitor.onecmd`, for ALL lines and states: with enough fuel and outside `Loops` it sets
`lastcmd` as the model does and runs the command the line is dispatched to (the model's `dispatched`) in a state
with the session core it was given, inside catch-all and status. -/
theorem onecmd_at (ext : Ext) (fuel : Nat) (line : Str) (σ : CmdSt)
    (hf : fuel > (preprocessL line).length + (preprocessL σ.lastcmd).length + 6) (hnl : ¬ Loops σ line) :
    ∃ σ1 : CmdSt, σ1.core = σ.core ∧
      σ1.lastcmd = (onecmdL ext { core := σ.core, lastcmd := σ.lastcmd } line).2.lastcmd ∧
      Wraps σ1 (callOf oth tb mr (dispatched { core := σ.core, lastcmd := σ.lastcmd } line) σ1)
        (MonCmdGen.onecmd oth tb mr fuel line σ) := by
  obtain ⟨n, rfl⟩ : ∃ n, fuel = n + 1 := ⟨fuel - 1, by omega⟩
  rcases onecmdL_cases ext { core := σ.core, lastcmd := σ.lastcmd } line with
    ⟨he, hd, ho⟩ | ⟨he, hl, hd, ho⟩ | ⟨he, hl, he2, hd, ho⟩ | ⟨he, hl, he2, -, -⟩
  · rw [hd, ho, onecmd_eq oth tb mr n line σ (by omega)]
    simp only [viaCmd]
    exact dispatch_at oth tb mr ext _ (preprocessL line) σ he
  · rw [hd, ho, onecmd_eq_empty oth tb mr n line σ he]
    simp only [dispatch, show σ.lastcmd = [] from hl, ne_eq, not_true_eq_false, if_false]
    exact ⟨σ, rfl, hl, wraps_finish tb mr σ _ _⟩
  · obtain ⟨m, rfl⟩ : ∃ m, n = m + 1 := ⟨n - 1, by omega⟩
    rw [hd, ho, onecmd_eq_empty oth tb mr (m + 1) line σ he]
    simp only [dispatch, show σ.lastcmd ≠ [] from hl, ne_eq, not_false_eq_true, if_true]
    rw [onecmd_eq oth tb mr m σ.lastcmd σ (by omega)]
    simp only [viaCmd]
    obtain ⟨σ1, h1, h2, h3⟩ := dispatch_at oth tb mr ext (MonCmdGen.onecmd oth tb mr m) (preprocessL σ.lastcmd) σ he2
    exact ⟨σ1, h1, h2, h3.finish tb mr _⟩
  · exact absurd ⟨he, hl, he2⟩ hnl

/-- The generated run `f` of one line agrees with the model's result `m`: it returns normally, the
session core and `lastcmd` afterwards are the model's, and the returned value is true exactly when the
model requests exit. -/
def Sim (m : MonCmd.Res × State) (f : Flow CmdSt PyRet) : Prop :=
  ∃ v s', f = .ok v s' ∧ s'.core = m.2.core ∧ s'.lastcmd = m.2.lastcmd ∧ v.truthy = m.1.exit

/-- `GenEq` for the whole of `Monitor.onecmd`, for ALL lines and states, with the hypothesis about `oth` at the
ONE call the line is dispatched to: with enough fuel and outside `Loops`, the generated `onecmd` returns with
the model's session core and `lastcmd`, and a true value exactly when the model requests exit. -/
theorem _root_.Py65.Proofs.MonCompose.onecmd_sim_at (ext : Ext) (fuel : Nat) (line : Str) (σ : CmdSt)
    (hf : fuel > (preprocessL line).length + (preprocessL σ.lastcmd).length + 6) (hnl : ¬ Loops σ line)
    (hm : ∀ cmd a, dispatched { core := σ.core, lastcmd := σ.lastcmd } line = some (cmd, a) →
      translated cmd = false → ∀ σ1 : CmdSt, σ1.core = σ.core → ModelsAt oth ext cmd a σ1) :
    Sim (onecmdL ext { core := σ.core, lastcmd := σ.lastcmd } line) (MonCmdGen.onecmd oth tb mr fuel line σ) := by
  obtain ⟨σ1, hc, hl, hw⟩ := onecmd_at oth tb mr ext fuel line σ hf hnl
  have hd := onecmdL_dispatched ext { core := σ.core, lastcmd := σ.lastcmd } line
  cases ht : dispatched { core := σ.core, lastcmd := σ.lastcmd } line with
  | none =>
    rw [ht] at hw
    obtain ⟨s', e, e1, e2⟩ := hw
    exact ⟨none, s', e, e1.trans (hc.trans (hd.2 ht).1.symm), e2.trans hl, (hd.2 ht).2.symm⟩
  | some p =>
    obtain ⟨cmd, a⟩ := p
    rw [ht] at hw
    obtain ⟨h1, h2, h3, h4⟩ := genOf_sim_at oth tb mr ext cmd a σ1 (fun htr => hm cmd a ht htr σ1 hc)
    obtain ⟨s', e, e1, e2⟩ := Wraps.of_ne (r := genOf oth tb mr cmd a σ1) hw h1
    have hr := hd.1 cmd a ht
    rw [hc] at h2 h4
    refine ⟨_, s', e, ?_, e2.trans (h3.trans hl), ?_⟩
    · rw [onecmdL_core, hr, e1, h2]
    · rw [hr]; exact h4

/-- The same under the hypothesis for all calls: for any `oth` that does to the session core what the model's
`runCommand ext` says. -/
theorem onecmd_sim (ext : Ext) (hm : OthModels oth ext) (fuel : Nat) (line : Str) (σ : CmdSt)
    (hf : fuel > (preprocessL line).length + (preprocessL σ.lastcmd).length + 6) (hnl : ¬ Loops σ line) :
    Sim (onecmdL ext { core := σ.core, lastcmd := σ.lastcmd } line) (MonCmdGen.onecmd oth tb mr fuel line σ) :=
  onecmd_sim_at oth tb mr ext fuel line σ hf hnl fun cmd a _ ht σ1 _ => hm cmd a σ1 ht

/-- If the generated `onecmd` returns a true value, the line is dispatched on the word `quit` (the model's
`dispatchWord`: after preprocessing and `parseline`, or, for an empty line, the repeated `lastcmd`).
Needs of `oth` only that it returns no true value. -/
theorem onecmd_truthy (ho : OthFalsy oth) (fuel : Nat) (line : Str) (σ : CmdSt)
    (hf : fuel > (preprocessL line).length + (preprocessL σ.lastcmd).length + 6)
    (h : (retOf (MonCmdGen.onecmd oth tb mr fuel line σ)).truthy = true) :
    dispatchWord { core := σ.core, lastcmd := σ.lastcmd } line = some quit := by
  by_cases hnl : Loops σ line
  · rw [onecmd_diverges oth tb mr σ fuel line hnl] at h
    cases h
  obtain ⟨σ1, -, -, hw⟩ := onecmd_at oth tb mr ⟨fun _ c _ => (.ok, c.regs, c.mem)⟩ fuel line σ hf hnl
  rw [← dispatched_quit]
  cases ht : dispatched { core := σ.core, lastcmd := σ.lastcmd } line with
  | none =>
    rw [ht] at hw
    obtain ⟨s', e, -⟩ := hw
    rw [e] at h
    cases h
  | some p =>
    obtain ⟨cmd, a⟩ := p
    rw [ht] at hw
    by_cases hr : genOf oth tb mr cmd a σ1 = .nofuel
    · rw [show MonCmdGen.onecmd oth tb mr fuel line σ = .nofuel by simpa only [callOf, hr, Wraps] using hw] at h
      cases h
    · obtain ⟨s', e, -⟩ := Wraps.of_ne (r := genOf oth tb mr cmd a σ1) hw hr
      rw [e] at h
      exact ⟨a, by rw [genOf_truthy oth tb mr ho cmd a σ1 h]⟩

/-- A line dispatched on `quit` (directly): the generated `onecmd` returns `1`, prints the empty line of
`do_quit` -- and the status line only if the preprocessed line does not start with `quit` --, and
leaves the session core alone.  Any `oth`. -/
theorem onecmd_quit (fuel : Nat) (line a x : Str) (σ : CmdSt) (hf : fuel > (preprocessL line).length + 5)
    (hp : parseline (preprocessL line) = .cmd quit a x) :
    ∃ s', MonCmdGen.onecmd oth tb mr fuel line σ = .ok (some 1) s' ∧ s'.core = σ.core ∧
      s'.lastcmd = (if x = "EOF".toList then [] else x) := by
  obtain ⟨n, rfl⟩ : ∃ n, fuel = n + 1 := ⟨fuel - 1, by omega⟩
  rw [onecmd_eq oth tb mr n line σ (by omega), hp]
  have hq : quit ≠ [] := by decide
  have hc : commandOf quit = some .quit := by decide +kernel
  simp only [dispatch, hq, if_false, hc, call_do_cmd oth tb mr hc, genOf, translated, if_true, runMethod, do_quit_eq,
    finish]
  exact ⟨_, rfl, (status_core mr _ _).1, (status_core mr _ _).2⟩

end Py65.Proofs.MonCmdGenEq
