/-
Python's list indexing and slicing (`pyGetItem`, `pySliceTo`, `pySliceFrom` of `Py65/Model/MonGenRt.lean`)
at the indices the generated monitor commands use: a natural number, the first tokens of a split
argument string, the end of a known prefix.
-/
import Py65.Model.MonGenRt

namespace Py65.Model.MonGenRt

theorem pyGetItem_nat {α : Type} (l : List α) (i : Nat) : pyGetItem l (i : Int) = l[i]? := by
  have h1 : ¬ ((i : Int) < 0) := by omega
  have h2 : (0 : Int) ≤ (i : Int) := by omega
  simp only [pyGetItem, pyNormIndex, h1, if_false, h2, if_true, Int.toNat_natCast]

theorem pyGetItem_nonneg {α : Type} (l : List α) (i : Int) (h : 0 ≤ i) : pyGetItem l i = l[i.toNat]? := by
  obtain ⟨n, rfl⟩ := Int.eq_ofNat_of_zero_le h
  exact pyGetItem_nat l n

theorem pyGetItem_zero {α : Type} (x : α) (xs : List α) : pyGetItem (x :: xs) 0 = some x :=
  pyGetItem_nat (x :: xs) 0

theorem pyGetItem_one {α : Type} (x y : α) (xs : List α) : pyGetItem (x :: y :: xs) 1 = some y :=
  pyGetItem_nat (x :: y :: xs) 1

theorem pyGetItem_two {α : Type} (x y z : α) (xs : List α) : pyGetItem (x :: y :: z :: xs) 2 = some z :=
  pyGetItem_nat (x :: y :: z :: xs) 2

theorem pySliceBound_prefix (n k : Nat) : pySliceBound (n + k) (n : Int) = n := by
  have h1 : ¬ ((n : Int) < 0) := by omega
  have h2 : ¬ ((n : Int) > ((n + k : Nat) : Int)) := by omega
  simp only [pySliceBound, pyNormIndex, h1, h2, if_false, Int.toNat_natCast]

theorem pySliceTo_prefix {α : Type} (pre rest : List α) : pySliceTo (pre ++ rest) (pre.length : Int) = pre := by
  simp only [pySliceTo, List.length_append, pySliceBound_prefix, List.take_left']

theorem pySliceFrom_prefix {α : Type} (pre rest : List α) : pySliceFrom (pre ++ rest) (pre.length : Int) = rest := by
  simp only [pySliceFrom, List.length_append, pySliceBound_prefix, List.drop_left']

theorem pySliceFrom_one {α : Type} (x : α) (xs : List α) : pySliceFrom (x :: xs) 1 = xs :=
  pySliceFrom_prefix [x] xs

end Py65.Model.MonGenRt
