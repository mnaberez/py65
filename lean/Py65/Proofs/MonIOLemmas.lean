/-
Helper lemmas for C18 (`Py65/Props/C18.lean`): one access of the monitor's I/O model
(`Py65/Model/MonIO.lean`) is the Spec's step (`Py65/Spec/MonIO.lean`).  The memory
`_install_mpu_observers` builds has exactly one read subscriber (`getc`, at `I`) and one write subscriber
(`putc`, at `O`); a load / store on it is computed in closed form for ANY oracle (`get_installed`,
`set_installed`).
-/
import Py65.Proofs.ObsMemLemmas
import Py65.Model.MonIO
import Py65.Spec.MonIO

namespace Py65.Proofs.MonIO
open Py65 Py65.Model.ObsMem Py65.Model.MonIO Py65.Spec.ObsMem

def maskOf (w : Int) : Int := if w > 16 then 0x3ffff else 0xffff

theorem land_maskOf (w a : Int) : Py.land a (maskOf w) = a % (maskOf w + 1) := by
  unfold maskOf
  split
  · exact Py.land_mask a 18
  · exact Py.land_mask a 16

theorem getchByte_eq (b : Int) : getchByte b = Py65.Spec.MonIO.deliver b := rfl

/-- The memory of a session whose observers are installed at `I` / `O`, field by field (the subscriptions
call nobody, so the oracle does not matter). -/
theorem memOf_installed {s : Sess} {I O : Int} (ho : s.observed = true) (hI : s.getcAddr = some I)
    (hO : s.putcAddr = some O) (reply : Reply) (cells : Int → Int) :
    memOf s reply cells =
      { physMask := maskOf s.addrWidth, subject := cells, subjLen := maskOf s.addrWidth + 1,
        rsubs := ⟨fun k => if k = Py.land I (maskOf s.addrWidth) then [getcId] else []⟩,
        wsubs := ⟨fun k => if k = Py.land O (maskOf s.addrWidth) then [putcId] else []⟩, log := [] } := by
  simp [memOf, installOps, ho, hI, hO, run, apply, subscribeRead, subscribeWrite, init, subOne, maskOf]

/-- A load on the installed memory, for ANY oracle: at most the one callback `getc` is called. -/
theorem get_installed {s : Sess} {I O : Int} (ho : s.observed = true) (hI : s.getcAddr = some I)
    (hO : s.putcAddr = some O) (reply reply' : Reply) (c : Int → Int) (a : Int) :
    Py65.Model.ObsMem.get reply (memOf s reply' c) a =
      if Py.land a (maskOf s.addrWidth) = Py.land I (maskOf s.addrWidth) then
        ((match reply getcId 0 (Py.land a (maskOf s.addrWidth)) none with
          | some v => v
          | none => c (Py.land a (maskOf s.addrWidth))),
         { memOf s reply' c with log := [⟨getcId, Py.land a (maskOf s.addrWidth), none⟩] })
      else (c (Py.land a (maskOf s.addrWidth)), memOf s reply' c) := by
  rw [memOf_installed ho hI hO]
  by_cases h : Py.land a (maskOf s.addrWidth) = Py.land I (maskOf s.addrWidth)
  · simp only [Py65.Model.ObsMem.get, h, if_true, readLoop, List.length_nil]
    cases reply getcId 0 (Py.land I (maskOf s.addrWidth)) none <;> rfl
  · simp only [Py65.Model.ObsMem.get, h, if_false, readLoop]

theorem set_installed {s : Sess} {I O : Int} (ho : s.observed = true) (hI : s.getcAddr = some I)
    (hO : s.putcAddr = some O) (reply reply' : Reply) (c : Int → Int) (a v : Int) :
    Py65.Model.ObsMem.set reply (memOf s reply' c) a v =
      if Py.land a (maskOf s.addrWidth) = Py.land O (maskOf s.addrWidth) then
        { memOf s reply' (fun k => if k = Py.land a (maskOf s.addrWidth) then
            (match reply putcId 0 (Py.land a (maskOf s.addrWidth)) (some v) with | some r => r | none => v)
            else c k)
          with log := [⟨putcId, Py.land a (maskOf s.addrWidth), some v⟩] }
      else memOf s reply' (fun k => if k = Py.land a (maskOf s.addrWidth) then v else c k) := by
  simp only [memOf_installed ho hI hO]
  by_cases h : Py.land a (maskOf s.addrWidth) = Py.land O (maskOf s.addrWidth)
  · simp only [Py65.Model.ObsMem.set, h, if_true, writeLoop, List.length_nil]
    cases reply putcId 0 (Py.land O (maskOf s.addrWidth)) (some v) <;> rfl
  · simp only [Py65.Model.ObsMem.set, h, if_false, writeLoop]

open Py65.Spec.MonIO (SState deliver storesTo loadsFrom)

def toSpec (st : MState) : SState := { cells := st.cells, pending := st.io.pending, output := st.io.output }

/-- Physical size of the session's memory: 64 K, or 256 K for a device with more than 16 address bits. -/
def physSize (s : Sess) : Int := maskOf s.addrWidth + 1

theorem io_step (s : Sess) (I O : Int) (ho : s.observed = true) (hI : s.getcAddr = some I)
    (hO : s.putcAddr = some O) (st : MState) (e : MemEv) :
    (access s st e).1 = (Py65.Spec.MonIO.step (physSize s) I O (toSpec st) e).1 ∧
    toSpec (access s st e).2 = (Py65.Spec.MonIO.step (physSize s) I O (toSpec st) e).2 := by
  cases e with
  | r a =>
    simp only [access, ho, if_true, get_installed ho hI hO, Py65.Spec.MonIO.step, toSpec, physSize,
      land_maskOf]
    by_cases hp : a % (maskOf s.addrWidth + 1) = I % (maskOf s.addrWidth + 1)
    · cases hpend : st.io.pending <;>
        simp [hp, replyOf, getcVal, hpend, absorb, getcId, getchByte_eq, memOf_installed ho hI hO]
    · simp [hp, absorb, memOf_installed ho hI hO]
  | w a v =>
    simp only [access, ho, if_true, set_installed ho hI hO, Py65.Spec.MonIO.step, toSpec, physSize,
      land_maskOf]
    by_cases hp : a % (maskOf s.addrWidth + 1) = O % (maskOf s.addrWidth + 1)
    · simp [hp, replyOf, absorb, getcId, putcId, memOf_installed ho hI hO]
      rfl
    · simp [hp, absorb, memOf_installed ho hI hO]
      rfl

theorem replay_spec (s : Sess) (I O : Int) (ho : s.observed = true) (hI : s.getcAddr = some I)
    (hO : s.putcAddr = some O) (st : MState) (evs : List MemEv) :
    (replay s st evs).1 = (Py65.Spec.MonIO.replay (physSize s) I O (toSpec st) evs).1 ∧
    toSpec (replay s st evs).2 = (Py65.Spec.MonIO.replay (physSize s) I O (toSpec st) evs).2 := by
  induction evs generalizing st with
  | nil => exact ⟨rfl, rfl⟩
  | cons e es ih =>
    obtain ⟨h1, h2⟩ := io_step s I O ho hI hO st e
    obtain ⟨i1, i2⟩ := ih (access s st e).2
    simp only [replay, Py65.Spec.MonIO.replay]
    rw [h1, i1, i2, h2]
    exact ⟨rfl, rfl⟩

theorem spec_closed (size I O : Int) (sp : SState) (evs : List MemEv) :
    (Py65.Spec.MonIO.replay size I O sp evs).2.output = sp.output ++ storesTo size O evs ∧
    (Py65.Spec.MonIO.replay size I O sp evs).2.pending = sp.pending.drop (loadsFrom size I evs) := by
  induction evs generalizing sp with
  | nil => simp [Py65.Spec.MonIO.replay, storesTo, loadsFrom]
  | cons e es ih =>
    obtain ⟨ih1, ih2⟩ := ih (Py65.Spec.MonIO.step size I O sp e).2
    simp only [Py65.Spec.MonIO.replay]
    rw [ih1, ih2]
    cases e with
    | r a =>
      by_cases hp : a % size = I % size
      · cases hpend : sp.pending with
        | nil => simp [Py65.Spec.MonIO.step, hp, hpend, storesTo, loadsFrom]
        | cons b rest => simp [Py65.Spec.MonIO.step, hp, hpend, storesTo, loadsFrom]
      · simp [Py65.Spec.MonIO.step, hp, storesTo, loadsFrom]
    | w a v =>
      by_cases hp : a % size = O % size
      · simp [Py65.Spec.MonIO.step, hp, storesTo, loadsFrom]
      · simp [Py65.Spec.MonIO.step, hp, storesTo, loadsFrom]

/-- The address the constructor ends up with: the keyword argument, overridden by the option text
parsed as hexadecimal (`int(value, 16)`). -/
def chosen (kw : Option Int) (opt : Option Py65.Model.PyStr.Str) : Option Int :=
  match opt with
  | none => kw
  | some t => Py65.Model.PyStr.pyIntL t 16

/-- One address argument of the constructor: the keyword argument, or the option text through
`int(value, 16)`; the outer `none` is the `ValueError`. -/
def optAddr (kw : Option Int) (opt : Option Py65.Model.PyStr.Str) : Option (Option Int) :=
  match opt with
  | none => some kw
  | some t => (Py65.Model.PyStr.pyIntL t 16).map some

theorem chosen_of_optAddr {kw : Option Int} {opt : Option Py65.Model.PyStr.Str} {g : Option Int}
    (h : optAddr kw opt = some g) : chosen kw opt = g := by
  cases opt with
  | none => exact Option.some.inj h
  | some t =>
    obtain ⟨v, hv, rfl⟩ := Option.map_eq_some_iff.1 h
    exact hv

theorem construct_eq (aw : Int) (kg kp : Option Int) (i o : Option Py65.Model.PyStr.Str) :
    construct aw kg kp i o =
      (optAddr kg i).bind fun g => (optAddr kp o).map fun p =>
        resetWith { addrWidth := aw, getcAddr := g, putcAddr := p, observed := false } aw g p := by
  unfold construct
  show (match optAddr kg i, optAddr kp o with | some g, some p => _ | _, _ => none) = _
  cases optAddr kg i <;> cases optAddr kp o <;> rfl

end Py65.Proofs.MonIO
