/-
Tie by regeneration, C20: the GENERATED commands `do_assemble`, `_interactive_assemble`,
`do_help`, `do_version`, `do_cd`, `do_pwd` and the `help_*` texts (`Py65/Gen/MonAsmGen.lean`, translated from
`py65/monitor.py` by `harness/py2lean_monasm.py` on every run) equal the hand-written model
`Py65.Model.MonAsm`, for ALL argument strings, states, worlds and for ALL values of the parameters that stand
for other translated code (`asm`, `iat`, `fmtdis`, `dis`) or for the standard library (`cmdhelp`).

These are the proof obligations a change of those methods breaks.  No hypothesis anywhere: the loop of
`_interactive_assemble` is fuel-bounded on both sides with the same accounting (one unit per prompt).
-/
import Py65.Gen.MonAsmGen
import Py65.Model.MonAsm
import Py65.Proofs.PyDataLemmas
import Mathlib.Tactic.SplitIfs

namespace Py65.Proofs.MonAsmGenEq
open Py65 Py65.Model Py65.Model.PyStr Py65.Model.ObsMem Py65.Model.AddrParser Py65.Model.MonMem
open Py65.Model.MonGenRt Py65.Model.ShowRt Py65.Model.MonAsmRt Py65.Model.MonAsm Py65.Gen

variable (w : AWorld) (asm : Parser → Str → Int → Except AExc (List Int))
  (iat : AsmSt → Int → Except AExc (Int × Str)) (fmtdis : AsmSt → Int → Int → Str → Except AExc Str)
  (dis : Str → AsmSt → AFlow AsmSt Unit) (cmdhelp : Str → AsmSt → AFlow AsmSt Unit) (reply : Reply) (d : Dev)

theorem shortcuts_eq : MonAsmGen._shortcuts = MonCmd.shortcuts := rfl

def helpAssemble : List Str :=
  ["assemble\t\t\tStart interactive assembly at the program counter.\n".toList,
   "assemble <address>\t\tStart interactive assembly at the address.\n".toList,
   "assemble <address> <statement>\tAssemble a statement at the address.\n".toList]

theorem help_assemble_eq (σ : AsmSt) :
    MonAsmGen.help_assemble w asm iat fmtdis dis cmdhelp reply d σ = .ok () { σ with out := σ.out ++ helpAssemble } := by
  simp only [MonAsmGen.help_assemble, helpAssemble, ← String.toList_append, String.reduceAppend, List.append_assoc,
    List.cons_append, List.nil_append]

theorem help_cd_eq (σ : AsmSt) :
    MonAsmGen.help_cd w asm iat fmtdis dis cmdhelp reply d σ = .ok () (helpCd σ) := rfl

theorem help_pwd_eq (σ : AsmSt) :
    MonAsmGen.help_pwd w asm iat fmtdis dis cmdhelp reply d σ =
      .ok () (print σ "Show the current working directory.".toList) := rfl

theorem help_version_eq (σ : AsmSt) :
    MonAsmGen.help_version w asm iat fmtdis dis cmdhelp reply d σ =
      .ok () (print σ "version\t\tDisplay Py65 version information.".toList) := rfl

theorem help_help_eq (σ : AsmSt) :
    MonAsmGen.help_help w asm iat fmtdis dis cmdhelp reply d σ =
      .ok () (print (print σ "help\t\tPrint a list of available actions.".toList)
        "help <action>\tPrint help for <action>.".toList) := rfl

theorem do_version_eq (args : Str) (σ : AsmSt) :
    MonAsmGen.do_version w asm iat fmtdis dis cmdhelp reply d args σ = doVersion σ := rfl

theorem do_pwd_eq (args : Option Str) (σ : AsmSt) :
    MonAsmGen.do_pwd w asm iat fmtdis dis cmdhelp reply d args σ = doPwd σ := rfl

theorem do_cd_join1_eq (args : Str) (σ : AsmSt) :
    MonAsmGen.do_cd_join1 w asm iat fmtdis dis cmdhelp reply d args σ = doPwd σ := by
  simp [MonAsmGen.do_cd_join1, do_pwd_eq, doPwd]

theorem do_cd_eq (args : Str) (σ : AsmSt) :
    MonAsmGen.do_cd w asm iat fmtdis dis cmdhelp reply d args σ = doCd w args σ := by
  unfold MonAsmGen.do_cd doCd
  have e : "".toList = ([] : Str) := rfl
  rw [e]
  by_cases h : args = []
  · simp only [h, if_true, help_cd_eq]
  · simp only [h, if_false]
    unfold MonAsmGen.do_cd_try1 pyChdir
    cases hc : w.chdir σ.cwd args with
    | ok nd => simp only [do_cd_join1_eq]
    | error e =>
      cases e <;> simp only [do_cd_join1_eq, print]

/-- `do_help`: only the shortcut lookup is Monitor's own; the rest is the parameter `cmdhelp` -/
theorem do_help_eq (args : Str) (σ : AsmSt) :
    MonAsmGen.do_help w asm iat fmtdis dis cmdhelp reply d args σ = doHelp cmdhelp args σ := by
  simp [MonAsmGen.do_help, doHelp, shortcuts_eq]

/-- `memory[a:b] = v` never raises (the step is 1) and is `setMany` over the clipped range -/
theorem setSlice_eq (m : OM) (a b : Int) (v : List Int) :
    ObsMem.setSlice reply m (some a) (some b) none v =
      some (setMany reply (pyRange (clip m a) (clip m b) 1) v m) := by
  simp [ObsMem.setSlice, sliceIndices, sliceTriple, clip]

theorem setSlice_store (m : OM) (start : Int) (bytes : List Int) :
    ObsMem.setSlice reply m (some start) (some (start + (bytes.length : Int))) none bytes =
      some (sliceStore reply m start bytes) := by
  rw [setSlice_eq]; rfl

theorem promptPad_eq : pyStrMul (pyStrMul " ".toList
    (GenRt.fracToInt (GenRt.fracAddInt 1 (GenRt.fracOfDiv (d.BW : Int) 4)))) 3 = promptPad d := by
  unfold promptPad GenRt.fracToInt GenRt.fracAddInt GenRt.fracOfDiv
  have h : Int.tdiv (1 * 4 + (d.BW : Int)) 4 = 1 + (d.BW : Int) / 4 := by
    rw [Int.tdiv_eq_ediv_of_nonneg (by omega)]
    omega
  simp only [h]

theorem interactive_try1_eq (fuel : Nat) (start : Int) (pr line : Str) (σ : AsmSt) :
    (MonAsmGen._interactive_assemble_try1 w asm iat fmtdis dis cmdhelp reply d fuel start pr line σ).bind
        (fun r σ' => AFlow.ok r.2.2.2.2.2.2.2 σ') =
      iaTry asm iat fmtdis reply d start pr line σ := by
  unfold MonAsmGen._interactive_assemble_try1 iaTry
  cases ha : asm σ.parser line start with
  | error e => rfl
  | ok bytes =>
    simp only [setSlice_store, iaAccept]
    cases hi : iat { σ with memory := sliceStore reply σ.memory start bytes } start with
    | error e => rfl
    | ok r =>
      simp only []
      cases hf : fmtdis { σ with memory := sliceStore reply σ.memory start bytes } start (bytes.length : Int) r.2 with
      | error e => rfl
      | ok text => simp [wrapTop, MonAsm.write, eraseLine]

/-- the `while True:` loop is the model's loop: same prompts, same stores, same addresses, same fuel -/
theorem interactive_while1_eq (fuel : Nat) (start : Int) (σ : AsmSt) :
    MonAsmGen._interactive_assemble_while1 w asm iat fmtdis dis cmdhelp reply d fuel start σ =
      iaLoop asm iat fmtdis reply d fuel start σ := by
  induction fuel generalizing start σ with
  | zero => rfl
  | succ n ih =>
    unfold MonAsmGen._interactive_assemble_while1 iaLoop
    simp only [promptPad_eq]
    unfold pyLineInput
    cases hinp : σ.inp with
    | nil => rfl
    | cons line rest =>
      simp only []
      have hp : (("\r$".toList ++ pyFmtX d.addrFmtW start) ++ "   ".toList) ++ promptPad d = prompt d start := rfl
      rw [hp]
      by_cases hb : MonCmd.pyStrip line = []
      · simp [hb, MonAsm.write]
      · simp only [hb, if_false]
        have ht := interactive_try1_eq w asm iat fmtdis dis cmdhelp reply d n start (prompt d start) line
          { σ with inp := rest, out := σ.out ++ [prompt d start, line] }
        unfold iaLine
        rw [← ht]
        cases hr : MonAsmGen._interactive_assemble_try1 w asm iat fmtdis dis cmdhelp reply d n start (prompt d start) line
            { σ with inp := rest, out := σ.out ++ [prompt d start, line] } with
        | ok r s => simp only [AFlow.bind_ok, ih]
        | nofuel => rfl
        | raise e s =>
          cases e <;> simp only [AFlow.bind_raise, iaMark, AFlow.bind_ok, ih, MonAsm.write, List.append_assoc] <;> rfl

theorem interactive_join1_eq (fuel : Nat) (args : Str) (start : Int) (σ : AsmSt) :
    MonAsmGen._interactive_assemble_join1 w asm iat fmtdis dis cmdhelp reply d fuel args start σ =
      (iaLoop asm iat fmtdis reply d fuel start σ).bind fun _ σ' => .ok () σ' := by
  unfold MonAsmGen._interactive_assemble_join1
  rw [interactive_while1_eq]

theorem interactive_assemble_eq (fuel : Nat) (args : Str) (σ : AsmSt) :
    MonAsmGen._interactive_assemble w asm iat fmtdis dis cmdhelp reply d fuel args σ =
      interactiveAssemble asm iat fmtdis reply d fuel args σ := by
  unfold MonAsmGen._interactive_assemble interactiveAssemble
  have e : "".toList = ([] : Str) := rfl
  rw [e]
  by_cases h : args = []
  · simp only [h, if_true, interactive_join1_eq]
  · simp only [h, if_false]
    unfold MonAsmGen._interactive_assemble_try2
    cases hn : parseNumberA σ.parser args with
    | ok start => simp only [interactive_join1_eq]
    | error e => cases e <;> simp only [print]

/-- `args.split(None, 1)` has at most two pieces -/
theorem pySplitWs1_cases (args : Str) :
    pySplitWs1 args = [] ∨ (∃ a, pySplitWs1 args = [a]) ∨ (∃ a b, pySplitWs1 args = [a, b]) := by
  unfold pySplitWs1
  split
  · exact Or.inl rfl
  · simp only []
    split_ifs
    · exact Or.inr (Or.inl ⟨_, rfl⟩)
    · exact Or.inr (Or.inr ⟨_, _, rfl⟩)

/-- `do_assemble`, for every argument string, fuel, state and all parameters: the model with the
generated `_interactive_assemble` (itself equal to the model's, `interactive_assemble_eq`) plugged in -/
theorem do_assemble_eq (fuel : Nat) (args : Str) (σ : AsmSt) :
    MonAsmGen.do_assemble w asm iat fmtdis dis cmdhelp reply d fuel args σ =
      doAssemble asm dis (interactiveAssemble asm iat fmtdis reply d fuel) reply d args σ := by
  unfold MonAsmGen.do_assemble doAssemble
  rcases pySplitWs1_cases args with h | ⟨a, h⟩ | ⟨a, st, h⟩
  · simp [h, interactive_assemble_eq]
  · simp [h, interactive_assemble_eq]
  · simp only [h, List.length_cons, List.length_nil, pyGetItem_one]
    have h2 : ¬ (((0 + 1 + 1 : Nat) : Int) ≠ 2) := by simp
    simp only [h2, if_false]
    unfold MonAsmGen.do_assemble_try1
    simp only [pyGetItem_zero]
    cases hn : parseNumberA σ.parser a with
    | error e => cases e <;> simp only [asmHandlers, print]
    | ok start =>
      simp only []
      cases has : asm σ.parser st start with
      | error e => cases e <;> simp only [asmHandlers, print]
      | ok bytes =>
        simp only [setSlice_store]
        cases hd : dis ("$".toList ++ pyFmtX d.addrFmtW start)
            { σ with memory := sliceStore reply σ.memory start bytes } with
        | ok u s => rfl
        | nofuel => rfl
        | raise e s => cases e <;> simp only [AFlow.bind_raise, catchAsm, asmHandlers, print]

end Py65.Proofs.MonAsmGenEq
