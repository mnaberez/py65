/-
Histories: lists of device operations (`step()`, `irq()`, `nmi()`, `reset(start)`) folded over the
generated device operations of `Py65/Gen/Devices.lean` (`dev6502.step`, `dev65c02.irq`, ... : exactly
what the compiled driver runs and what the translation validation compares with the real classes;
nothing is re-modelled here).  The history-level property theorems (`Props/C13h`, `C06h`, `C05h`)
are inductions over these lists.
-/
import Py65.Proofs.CpuBase

namespace Py65.Proofs.Hist
open Py65 Py65.Gen Py65.Spec Py65.Proofs

inductive Dev where
  | nmos      -- py65.devices.mpu6502.MPU
  | cmos      -- py65.devices.mpu65c02.MPU
  | org16     -- py65.devices.mpu65org16.MPU
  deriving DecidableEq, Repr

inductive Op where
  | step
  | irq
  | nmi
  | reset (start : Option Int)
  deriving DecidableEq, Repr

namespace Dev

def cfg : Dev → Cfg
  | .nmos => dev6502.cfg
  | .cmos => dev65c02.cfg
  | .org16 => dev65org16.cfg

def tbl : Dev → Tbl
  | .nmos => dev6502.tbl
  | .cmos => dev65c02.tbl
  | .org16 => dev65org16.tbl

def W : Dev → Nat
  | .nmos => 8
  | .cmos => 8
  | .org16 => 16

/-- Which documented instruction table the device implements. -/
def variant : Dev → Variant
  | .nmos => .nmos
  | .cmos => .cmos
  | .org16 => .nmos

def step : Dev → St → St
  | .nmos => dev6502.step
  | .cmos => dev65c02.step
  | .org16 => dev65org16.step

def irq : Dev → St → St
  | .nmos => dev6502.irq
  | .cmos => dev65c02.irq
  | .org16 => dev65org16.irq

def nmi : Dev → St → St
  | .nmos => dev6502.nmi
  | .cmos => dev65c02.nmi
  | .org16 => dev65org16.nmi

def reset : Dev → Option Int → St → St
  | .nmos => dev6502.reset
  | .cmos => dev65c02.reset
  | .org16 => dev65org16.reset

theorem isDev (d : Dev) : IsDev d.cfg := by
  cases d
  · exact Or.inl rfl
  · exact Or.inl rfl
  · exact Or.inr rfl

theorem W_eq (d : Dev) : d.cfg.BYTE_WIDTH = d.W := by cases d <;> rfl

theorem hW (d : Dev) : d.W = 8 ∨ d.W = 16 := by cases d <;> simp [W]

theorem byteMask_eq (d : Dev) : d.cfg.byteMask = 2 ^ d.W - 1 := by cases d <;> rfl

theorem addrMask_eq (d : Dev) : d.cfg.addrMask = 2 ^ (2 * d.W) - 1 := by cases d <;> rfl

theorem variant_nmos {d : Dev} (h : d ≠ .cmos) : d.variant = .nmos := by
  cases d <;> first | rfl | exact absurd rfl h

end Dev

def apply (d : Dev) : Op → St → St
  | .step => d.step
  | .irq => d.irq
  | .nmi => d.nmi
  | .reset a => d.reset a

/-- A history: the operations are applied left to right. -/
def run (d : Dev) : List Op → St → St
  | [], s => s
  | o :: ops, s => run d ops (apply d o s)

@[simp] theorem run_nil (d : Dev) (s : St) : run d [] s = s := rfl
@[simp] theorem run_cons (d : Dev) (o : Op) (ops : List Op) (s : St) :
    run d (o :: ops) s = run d ops (apply d o s) := rfl

theorem run_append (d : Dev) (ops₁ ops₂ : List Op) (s : St) :
    run d (ops₁ ++ ops₂) s = run d ops₂ (run d ops₁ s) := by
  induction ops₁ generalizing s with
  | nil => rfl
  | cons o ops ih => simp only [List.cons_append, run_cons, ih]

/-- The states a history passes through BEFORE each of its operations (the state each operation is
applied to), in order. -/
def states (d : Dev) : List Op → St → List St
  | [], _ => []
  | o :: ops, s => s :: states d ops (apply d o s)

def Op.isReset : Op → Bool
  | .reset _ => true
  | _ => false

def NoReset (ops : List Op) : Prop := ∀ o ∈ ops, Op.isReset o = false

theorem NoReset.tail {o : Op} {ops : List Op} (h : NoReset (o :: ops)) : NoReset ops :=
  fun o' ho' => h o' (List.mem_cons_of_mem _ ho')
theorem NoReset.head {o : Op} {ops : List Op} (h : NoReset (o :: ops)) : Op.isReset o = false :=
  h o List.mem_cons_self

/-- A property of (operation, state it is applied to) holds all along the history. -/
def Along (d : Dev) (P : Op → St → Prop) : List Op → St → Prop
  | [], _ => True
  | o :: ops, s => P o s ∧ Along d P ops (apply d o s)

theorem Along.mono {d : Dev} {P Q : Op → St → Prop} (h : ∀ o s, P o s → Q o s) :
    ∀ (ops : List Op) (s : St), Along d P ops s → Along d Q ops s
  | [], _, _ => trivial
  | _ :: ops, _, ⟨h1, h2⟩ => ⟨h _ _ h1, Along.mono h ops _ h2⟩

theorem Along.of_forall {d : Dev} {P : Op → St → Prop} (h : ∀ o s, P o s) :
    ∀ (ops : List Op) (s : St), Along d P ops s
  | [], _ => trivial
  | _ :: ops, _ => ⟨h _ _, Along.of_forall h ops _⟩

theorem Along.append {d : Dev} {P : Op → St → Prop} (ops₁ ops₂ : List Op) (s : St) :
    Along d P (ops₁ ++ ops₂) s ↔ Along d P ops₁ s ∧ Along d P ops₂ (run d ops₁ s) := by
  induction ops₁ generalizing s with
  | nil => simp [Along]
  | cons o ops ih => simp only [List.cons_append, Along, run_cons, ih, and_assoc]

/-- A value given by an if-chain (the memories of the non-vacuity examples) lies in a range if every
entry does. -/
theorem ite_range {lo hi : Int} {c : Prop} [Decidable c] {a b : Int} (ha : lo ≤ a ∧ a ≤ hi)
    (hb : lo ≤ b ∧ b ≤ hi) : lo ≤ (if c then a else b) ∧ (if c then a else b) ≤ hi := by
  split <;> assumption

end Py65.Proofs.Hist
