/-
Aspect *cyc*: where the cycle counter comes from.  `step()` adds `cycletime[op] + excycles`;
`excycles` is bumped only by the three indexed-read helpers (when the opcode's `extracycles`
entry is non-zero and the index crosses a page) and by the branch helper.
-/
import Py65.Proofs.Interrupts
import Py65.Proofs.Shapes

namespace Py65.Proofs
open Py65 Py65.Gen Py65.Spec Py

theorem step_cycles (c : Cfg) (t : Tbl) (s : St) :
    (Mpu6502.step c t s).cycles =
      (t.instruct (s.mem s.pc) (afterFetch c t s)).cycles + t.cycletime (s.mem s.pc) +
        (t.instruct (s.mem s.pc) (afterFetch c t s)).excycles := by
  simp only [step_unfold]; omega

/-- The model compares the high address bits of two addresses, the specification their pages. -/
theorem land_high_ne {c : Cfg} (hc : IsDev c) (x y : Int) :
    (land x c.addrHighMask ≠ land y c.addrHighMask) =
      (page c.BYTE_WIDTH (x % AM c.BYTE_WIDTH) ≠ page c.BYTE_WIDTH (y % AM c.BYTE_WIDTH)) := by
  rcases hc with rfl | rfl <;>
  · constfold [page]
    simp only [pyarith]
    apply propext; constructor <;> intro h <;> omega

theorem cross_cycle {c : Cfg} (hc : IsDev c) (A i e : Int) (hA : A % AM c.BYTE_WIDTH = A) :
    (if land A c.addrHighMask ≠ land (land (A + i) c.addrMask) c.addrHighMask then e + 1 else e) =
      e + if page c.BYTE_WIDTH A ≠ page c.BYTE_WIDTH ((A + i) % AM c.BYTE_WIDTH) then 1 else 0 := by
  have hm : land (A + i) c.addrMask % AM c.BYTE_WIDTH = (A + i) % AM c.BYTE_WIDTH := by
    rcases hc with rfl | rfl <;> (constfold; simp only [pyarith]; omega)
  simp only [land_high_ne hc, hA, hm]
  split <;> simp

def ModeCyc (c : Cfg) (x : St → Int × St) (mo : Mode) : Prop :=
  ∀ s, WF c s → (x s).2.cycles = s.cycles ∧
    (x s).2.excycles = s.excycles + (if s.addcycles ≠ 0 ∧ readCrosses c.BYTE_WIDTH mo (core s) = true then 1 else 0)

/-- The common shape of abs,X / abs,Y / (zp),Y: base address `A` read through state `t`, index `i`;
the extra cycle is counted only when the opcode's `extracycles` entry (`addcycles`) is non-zero. -/
theorem indexed_cyc {c : Cfg} (hc : IsDev c) (s t : St) (A i : Int) (cross : Bool)
    (hA : A % AM c.BYTE_WIDTH = A) (htc : t.cycles = s.cycles) (ht : t.excycles = s.excycles)
    (hcross : cross = decide (page c.BYTE_WIDTH A ≠ page c.BYTE_WIDTH ((A + i) % AM c.BYTE_WIDTH))) :
    let r := if s.addcycles ≠ 0 then
        (land (A + i) c.addrMask,
          if land A c.addrHighMask ≠ land (land (A + i) c.addrMask) c.addrHighMask then
            { t with excycles := t.excycles + 1 } else t)
      else (land (A + i) c.addrMask, t)
    r.2.cycles = s.cycles ∧
      r.2.excycles = s.excycles + (if s.addcycles ≠ 0 ∧ cross then 1 else 0) := by
  intro r
  by_cases hadd : s.addcycles ≠ 0
  · simp only [r, if_pos hadd, apply_ite St.excycles, apply_ite St.cycles, ite_self,
      cross_cycle hc _ _ _ hA, htc, ht, and_iff_right hadd, hcross, decide_eq_true_eq, and_self]
  · simp only [r, if_neg hadd, if_neg fun h : _ ∧ _ => hadd h.1, htc, ht, Int.add_zero, and_self]

theorem AbsoluteXAddr_cyc (c : Cfg) (hc : IsDev c) : ModeCyc c (Mpu6502.AbsoluteXAddr c) .abx :=
  fun s hs => indexed_cyc hc s (Mpu6502.WordAt c s.pc s).2 (Mpu6502.WordAt c s.pc s).1 _ _
    (by rw [WordAt_val c hc]; exact word_mod hc _ _ (hs.mem _) (hs.mem _)) (WordAt_cycles ..)
    (WordAt_excycles ..) (by rw [WordAt_val c hc, WordAt_x]; rfl)

theorem AbsoluteYAddr_cyc (c : Cfg) (hc : IsDev c) : ModeCyc c (Mpu6502.AbsoluteYAddr c) .aby :=
  fun s hs => indexed_cyc hc s (Mpu6502.WordAt c s.pc s).2 (Mpu6502.WordAt c s.pc s).1 _ _
    (by rw [WordAt_val c hc]; exact word_mod hc _ _ (hs.mem _) (hs.mem _)) (WordAt_cycles ..)
    (WordAt_excycles ..) (by rw [WordAt_val c hc, WordAt_y]; rfl)

theorem IndirectYAddr_cyc (c : Cfg) (hc : IsDev c) : ModeCyc c (Mpu6502.IndirectYAddr c) .iny := by
  intro s hs
  have h0 := hs.mem s.pc
  have hw : 0 ≤ s.mem s.pc ∧ s.mem s.pc ≤ c.addrMask := by
    rcases hc with rfl | rfl <;> (constfold at h0 ⊢; omega)
  -- the pointer's high byte: `WrapAt` stays in the page of the low byte, which is page zero
  have hz : s.mem s.pc - s.mem s.pc % BM c.BYTE_WIDTH + (s.mem s.pc + 1) % BM c.BYTE_WIDTH =
      (s.mem s.pc + 1) % BM c.BYTE_WIDTH := by
    have := byte_mod hc _ h0; omega
  have hv := WrapAt_val c hc (s.mem s.pc) (Mpu6502.ByteAt c s.pc s).2 hw
  rw [hz] at hv
  exact indexed_cyc hc s (Mpu6502.WrapAt c (s.mem s.pc) (Mpu6502.ByteAt c s.pc s).2).2
    (Mpu6502.WrapAt c (s.mem s.pc) (Mpu6502.ByteAt c s.pc s).2).1 _ _
    (by rw [hv]; exact word_mod hc _ _ (hs.mem _) (hs.mem _)) (WrapAt_cycles ..)
    (WrapAt_excycles ..) (by rw [hv, WrapAt_y]; rfl)

/-- Taken branch: one cycle, plus one when the target is in another page than the next instruction. -/
theorem BranchRelAddr_cyc (c : Cfg) (hc : IsDev c) (s : St) (hs : WF c s) :
    (Mpu6502.BranchRelAddr c s).excycles =
      s.excycles + 1 +
        (if page c.BYTE_WIDTH (branchTarget c.BYTE_WIDTH (core s)) ≠
            page c.BYTE_WIDTH (nextPc c.BYTE_WIDTH .rel (core s)) then 1 else 0) := by
  -- the specification's target is the helper's new PC
  have hpc := (core_eq (BranchRelAddr_core c hc s hs)).2.2.2.2.2.1
  have hm : ∀ x, land x c.addrMask = x % AM c.BYTE_WIDTH := by
    intro x; rcases hc with rfl | rfl <;> (constfold; simp only [pyarith])
  rw [BranchRelAddr_eq] at hpc ⊢
  simp only [hm] at hpc
  simp only [land_high_ne hc, hpc, ne_comm (a := page c.BYTE_WIDTH ((s.pc + 1) % AM c.BYTE_WIDTH))]
  rfl
end Py65.Proofs
