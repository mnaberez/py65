/-
The access log of the generated model, WITH the values written (C12's `acl` erases them).  One relation,
`Eff c s s'`, says what the accesses between two states did: they were appended to the log, the writes
among them are the only change of the memory, and all of them are fine (`LogOK`: address inside the
address space, written value inside the byte) if the registers and cells of `s` were.  It is extended one
access at a time (`Eff.read`, `Eff.write`, and from them the helpers `ByteAt` .. `stPopWord`); the
addressing modes are here, the operations and handlers in `HistLogHandlers.lean`.  Used by C05h (range of the
accesses) and, through `Proofs/IoProgCoh.lean`, by C11h / C18h (the memory changes only by logged writes).
-/
import Py65.Proofs.HistArith

namespace Py65.Proofs
open Py65 Py65.Gen Py65.Spec Py

/-- One logged access is fine: the address is an address; a written value fits the byte. -/
def EvOK (W : Nat) : MemEv → Prop
  | .r a => InA W a
  | .w a v => InA W a ∧ InB W v

def LogOK (W : Nat) (l : List MemEv) : Prop := ∀ ev ∈ l, EvOK W ev

theorem LogOK_nil (W : Nat) : LogOK W [] := fun _ h => by cases h

theorem LogOK_cons {W : Nat} {ev : MemEv} {l : List MemEv} :
    LogOK W (ev :: l) ↔ EvOK W ev ∧ LogOK W l := by
  simp [LogOK]

theorem LogOK_append {W : Nat} {l₁ l₂ : List MemEv} :
    LogOK W (l₁ ++ l₂) ↔ LogOK W l₁ ∧ LogOK W l₂ := by
  simp only [LogOK, List.mem_append]
  constructor
  · intro h; exact ⟨fun ev he => h ev (Or.inl he), fun ev he => h ev (Or.inr he)⟩
  · rintro ⟨h1, h2⟩ ev (he | he)
    · exact h1 ev he
    · exact h2 ev he

theorem EvOK_r {W : Nat} {a : Int} : EvOK W (.r a) ↔ InA W a := Iff.rfl
theorem EvOK_w {W : Nat} {a v : Int} : EvOK W (.w a v) ↔ InA W a ∧ InB W v := Iff.rfl

/-- Memory `b` after the writes of a (newest-first) access log. -/
def wr : List MemEv → (Int → Int) → (Int → Int)
  | [], b => b
  | .r _ :: l, b => wr l b
  | .w a v :: l, b => fun k => if k = a then v else wr l b k

theorem wr_append (l1 l2 : List MemEv) (b : Int → Int) : wr (l1 ++ l2) b = wr l1 (wr l2 b) := by
  induction l1 with
  | nil => rfl
  | cons e es ih => cases e <;> simp [wr, ih]

section addr
variable {c : Cfg}

theorem inA_of_inB {W : Nat} (hW : W = 8 ∨ W = 16) {v : Int} (h : InB W v) : InA W v := by
  rcases hW with rfl | rfl <;> (simp only [InA, InB, AM, BM] at *; omega)

theorem inA_land_addrMask (hc : IsDev c) (v : Int) : InA c.BYTE_WIDTH (land v c.addrMask) := by
  rw [inA_iff hc]
  have h1 : 0 ≤ c.addrMask := by rcases hc with rfl | rfl <;> decide
  exact ⟨land_nonneg _ _ h1, land_le_right _ _ h1⟩

theorem inB_land_byteMask (hc : IsDev c) (v : Int) : InB c.BYTE_WIDTH (land v c.byteMask) :=
  inB_land_right _ (inB_consts hc).2.2.2.2.2.2.2.2

theorem inB_byteMask_land (hc : IsDev c) (v : Int) : InB c.BYTE_WIDTH (land c.byteMask v) := by
  rw [land_comm]; exact inB_land_byteMask hc v

theorem inB_255_land (hc : IsDev c) (v : Int) : InB c.BYTE_WIDTH (land 255 v) := by
  rw [land_comm]
  refine inB_land_right _ ?_
  rcases hc with rfl | rfl <;> (simp only [InB, BM]; constfold; decide)

/-- the two addresses `WrapAt` reads -/
theorem inA_wrap (hc : IsDev c) {z : Int} (hz : InA c.BYTE_WIDTH z) :
    InA c.BYTE_WIDTH (land z c.addrHighMask + land (z + 1) c.byteMask) := by
  rcases hc with rfl | rfl <;>
  · simp only [InA, AM] at *
    constfold at hz ⊢
    simp only [pyarith]
    omega

theorem inA_wordval (hc : IsDev c) {lo hi : Int} (h1 : InB c.BYTE_WIDTH lo) (h2 : InB c.BYTE_WIDTH hi) :
    InA c.BYTE_WIDTH (lo + shl hi c.BYTE_WIDTH) := by
  have := inA_word hc.W h1 h2
  simpa [shl, BM] using this

theorem inA_stack (hc : IsDev c) {sp : Int} (h : InB c.BYTE_WIDTH sp) : InA c.BYTE_WIDTH (sp + c.spBase) := by
  rcases hc with rfl | rfl <;> (simp only [InA, InB, AM, BM] at *; constfold at h ⊢; omega)

theorem inB_shr1 {W : Nat} {v : Int} (h : InB W v) : InB W (shr v 1) := by
  simp only [InB, shr] at *; omega

theorem inB_small {W : Nat} (hW : W = 8 ∨ W = 16) (v : Int) (h0 : 0 ≤ v) (h1 : v ≤ 255) : InB W v := by
  rcases hW with rfl | rfl <;> (simp only [InB, BM]; omega)

theorem inA_vectors (hc : IsDev c) :
    InA c.BYTE_WIDTH c.IRQ ∧ InA c.BYTE_WIDTH c.NMI ∧ InA c.BYTE_WIDTH c.RESET := by
  rcases hc with rfl | rfl <;> (simp only [InA, AM]; constfold; decide)

end addr

/-- An addressing-mode helper: leaves the observable state alone, returns an address, appends only fine
events. -/
def ModeLog (c : Cfg) (x : St → Int × St) : Prop :=
  ∀ s, WF c s → core (x s).2 = core s ∧ InA c.BYTE_WIDTH (x s).1 ∧
    (LogOK c.BYTE_WIDTH s.log → LogOK c.BYTE_WIDTH (x s).2.log)

/-- A handler (or any state transformer run on a well-formed state): appends only fine events. -/
def HandlerLog (c : Cfg) (h : St → St) : Prop :=
  ∀ s, WF c s → LogOK c.BYTE_WIDTH s.log → LogOK c.BYTE_WIDTH (h s).log

theorem reset_at_log (c : Cfg) (a : Int) : HandlerLog c (Mpu6502.reset_at c a) := fun _ _ hl => hl

/-- What the accesses of a handler are computed from: the registers that get stored or index an address,
the PC, and the cells (a byte read becomes a pointer, or is written back shifted).  The status register is
not among them: it reaches the memory only through `stPush`, which masks what it writes. -/
structure Rng (c : Cfg) (s : St) : Prop where
  a : InB c.BYTE_WIDTH s.a
  x : InB c.BYTE_WIDTH s.x
  y : InB c.BYTE_WIDTH s.y
  sp : InB c.BYTE_WIDTH s.sp
  pc : InA c.BYTE_WIDTH s.pc
  mem : ∀ k, InB c.BYTE_WIDTH (s.mem k)

theorem WF.rng {c : Cfg} (hc : IsDev c) {s : St} (hs : WF c s) : Rng c s :=
  have hr := hs.toWFr hc
  ⟨hr.a, hr.x, hr.y, hr.sp, (inA_iff hc _).2 hs.pc, hr.mem⟩

/-- From `s` to `s'`: some accesses `E` (newest first) were appended to the log, the memory is that of `s`
with the writes of `E` applied, and `E` is fine provided `s` is in range. -/
def Eff (c : Cfg) (s s' : St) : Prop :=
  ∃ E, s'.log = E ++ s.log ∧ s'.mem = wr E s.mem ∧ (Rng c s → LogOK c.BYTE_WIDTH E)

def HandlerEff (c : Cfg) (h : St → St) : Prop := ∀ s, Eff c s (h s)

/-- An addressing-mode helper: as `ModeLog`, and its reads are all the memory object sees of it. -/
structure ModeEff (c : Cfg) (x : St → Int × St) : Prop where
  eff : ∀ s, Eff c s (x s).2
  core : ∀ s, core (x s).2 = core s
  addr : ∀ s, Rng c s → InA c.BYTE_WIDTH (x s).1

section eff
variable {c : Cfg} {s s' : St}

theorem Eff.refl (c : Cfg) (s : St) : Eff c s s := ⟨[], rfl, rfl, fun _ => LogOK_nil _⟩

/-- For a `t` whose log and memory agree with those of `s'` only propositionally (conditionals in between). -/
theorem Eff.congr {t : St} (h : Eff c s s') (hlm : t.log = s'.log ∧ t.mem = s'.mem) : Eff c s t := by
  obtain ⟨E, e, m, ok⟩ := h
  exact ⟨E, hlm.1.trans e, hlm.2.trans m, ok⟩

/-- Registers, flags and cycle counts may change on the way.  The new values are implicit: they are read
off the handler's text when the result is matched against it.  (Stating this as `t.log = s'.log` and closing
that by `rfl` would make Lean compare `t` and `s'` field by field first, the memory cells behind a PC fetched
from memory included.) -/
theorem Eff.regs (h : Eff c s s') {a x y sp p pc ex ad cy : Int} {w : Bool} :
    Eff c s ⟨a, x, y, sp, p, pc, ex, ad, cy, w, s'.mem, s'.log⟩ :=
  h.congr ⟨rfl, rfl⟩

theorem Eff.ite {p : Prop} [Decidable p] {t e : St} (ht : Eff c s t) (he : Eff c s e) :
    Eff c s (if p then t else e) := by
  split <;> assumption

theorem Eff.read (h : Eff c s s') (a : Int) (ha : Rng c s → InA c.BYTE_WIDTH a) :
    Eff c s (memGet a s').2 := by
  obtain ⟨E, e, m, ok⟩ := h
  exact ⟨.r a :: E, congrArg (MemEv.r a :: ·) e, m, fun hr => LogOK_cons.2 ⟨ha hr, ok hr⟩⟩

theorem Eff.write (h : Eff c s s') (a v : Int)
    (hav : Rng c s → InA c.BYTE_WIDTH a ∧ InB c.BYTE_WIDTH v) : Eff c s (memSet a v s') := by
  obtain ⟨E, e, m, ok⟩ := h
  refine ⟨.w a v :: E, congrArg (MemEv.w a v :: ·) e, ?_, fun hr => LogOK_cons.2 ⟨hav hr, ok hr⟩⟩
  show (fun k => if k = a then v else s'.mem k) = _
  rw [m]; rfl

theorem Eff.trans {s'' : St} (h : Eff c s s') (hk : Rng c s → Rng c s') (h' : Eff c s' s'') :
    Eff c s s'' := by
  obtain ⟨E, e, m, ok⟩ := h
  obtain ⟨E', e', m', ok'⟩ := h'
  exact ⟨E' ++ E, by rw [e', e, List.append_assoc], by rw [m', m, wr_append],
    fun hr => LogOK_append.2 ⟨ok' (hk hr), ok hr⟩⟩

theorem Eff.logOK (hc : IsDev c) (h : Eff c s s') (hs : WF c s) (hl : LogOK c.BYTE_WIDTH s.log) :
    LogOK c.BYTE_WIDTH s'.log := by
  obtain ⟨E, e, -, ok⟩ := h
  rw [e]
  exact LogOK_append.2 ⟨ok (hs.rng hc), hl⟩

theorem HandlerEff.log (hc : IsDev c) {h : St → St} (hh : HandlerEff c h) : HandlerLog c h :=
  fun s hs hl => (hh s).logOK hc hs hl

theorem ModeEff.log (hc : IsDev c) {x : St → Int × St} (hx : ModeEff c x) : ModeLog c x :=
  fun s hs => ⟨hx.core s, hx.addr s (hs.rng hc), (hx.eff s).logOK hc hs⟩

theorem ModeEff.ite {x y : St → Int × St} (p : St → Prop) [DecidablePred p] (hx : ModeEff c x)
    (hy : ModeEff c y) : ModeEff c fun s => if p s then x s else y s where
  eff s := by split; exacts [hx.eff s, hy.eff s]
  core s := by split; exacts [hx.core s, hy.core s]
  addr s hr := by split; exacts [hx.addr s hr, hy.addr s hr]

/-- What the indexed modes do when `addcycles` is set: a page crossing (`q`) is charged to `excycles`. -/
theorem ModeEff.crossing {a : St → Int} {t : St → St} (q : St → Prop) [DecidablePred q] (e : St → Int)
    (ht : ∀ s, Eff c s (t s)) (hcore : ∀ s, Proofs.core (t s) = Proofs.core s)
    (ha : ∀ s, Rng c s → InA c.BYTE_WIDTH (a s)) :
    ModeEff c fun s => (a s, if q s then { t s with excycles := e s } else t s) where
  eff s := Eff.ite (ht s).regs (ht s)
  core s := by dsimp only; split <;> exact hcore s
  addr s hr := ha s hr

theorem Eff.wordAt (hc : IsDev c) (h : Eff c s s') (a : Int) (ha : Rng c s → InA c.BYTE_WIDTH a) :
    Eff c s (Mpu6502.WordAt c a s').2 :=
  (h.read a ha).read _ fun _ => inA_land_addrMask hc _

theorem Eff.wrapAt (hc : IsDev c) (h : Eff c s s') (a : Int) (ha : Rng c s → InA c.BYTE_WIDTH a) :
    Eff c s (Mpu6502.WrapAt c a s').2 :=
  (h.read a ha).read _ fun hr => inA_wrap hc (ha hr)

theorem Eff.push (hc : IsDev c) (h : Eff c s s') (z : Int) (hsp : Rng c s → InB c.BYTE_WIDTH s'.sp) :
    Eff c s (Mpu6502.stPush c z s') :=
  (h.write _ _ fun hr => ⟨inA_stack hc (hsp hr), inB_land_byteMask hc _⟩).regs.regs

theorem Eff.pushWord (hc : IsDev c) (h : Eff c s s') (z : Int)
    (hsp : Rng c s → InB c.BYTE_WIDTH s'.sp) : Eff c s (Mpu6502.stPushWord c z s') :=
  (h.push hc _ hsp).push hc _ fun _ => inB_land_byteMask hc _

theorem stPush_pc (z : Int) (s : St) : (Mpu6502.stPush c z s).pc = s.pc := rfl

/- Not `rfl`: to compare the PCs Lean would first compare the two states field by field, and fail on the
stack pointers only after unfolding their arithmetic. -/
theorem stPushWord_pc (z : Int) (s : St) : (Mpu6502.stPushWord c z s).pc = s.pc :=
  (stPush_pc _ _).trans (stPush_pc _ _)

theorem Eff.pop (hc : IsDev c) (h : Eff c s s') : Eff c s (Mpu6502.stPop c s').2 :=
  h.regs.regs.read _ fun _ => inA_stack hc (inB_land_byteMask hc _)

theorem Eff.popWord (hc : IsDev c) (h : Eff c s s') : Eff c s (Mpu6502.stPopWord c s').2 :=
  (h.pop hc).pop hc

theorem Rng.wordAt (hc : IsDev c) (hr : Rng c s) (a : Int) : InA c.BYTE_WIDTH (Mpu6502.WordAt c a s).1 :=
  inA_wordval hc (hr.mem _) (hr.mem _)

theorem Rng.wrapAt (hc : IsDev c) (hr : Rng c s) (a : Int) : InA c.BYTE_WIDTH (Mpu6502.WrapAt c a s).1 :=
  inA_wordval hc (hr.mem _) (hr.mem _)

end eff

section modes
variable {c : Cfg} (hc : IsDev c)
include hc

omit hc in
theorem ProgramCounter_eff : ModeEff c (Mpu6502.ProgramCounter c) where
  eff s := Eff.refl c s
  core _ := rfl
  addr _ hr := hr.pc

theorem ZeroPageAddr_eff : ModeEff c (Mpu6502.ZeroPageAddr c) where
  eff s := (Eff.refl c s).read s.pc (·.pc)
  core _ := rfl
  addr s hr := inA_of_inB hc.W (hr.mem s.pc)

theorem ZeroPageXAddr_eff : ModeEff c (Mpu6502.ZeroPageXAddr c) where
  eff s := (Eff.refl c s).read s.pc (·.pc)
  core _ := rfl
  addr _ _ := inA_of_inB hc.W (inB_byteMask_land hc _)

theorem ZeroPageYAddr_eff : ModeEff c (Mpu6502.ZeroPageYAddr c) where
  eff s := (Eff.refl c s).read s.pc (·.pc)
  core _ := rfl
  addr _ _ := inA_of_inB hc.W (inB_byteMask_land hc _)

theorem AbsoluteAddr_eff : ModeEff c (Mpu6502.AbsoluteAddr c) where
  eff s := (Eff.refl c s).wordAt hc s.pc (·.pc)
  core _ := WordAt_core c _ _
  addr s hr := hr.wordAt hc s.pc

/- The three indexed modes branch on `addcycles`; both branches read the same bytes and return the same
address. -/

theorem AbsoluteXAddr_eff : ModeEff c (Mpu6502.AbsoluteXAddr c) :=
  have ht s := (Eff.refl c s).wordAt hc s.pc (·.pc)
  .ite _
    (.crossing (t := fun s => (Mpu6502.WordAt c s.pc s).2) _ _ ht (fun _ => WordAt_core c _ _) fun _ _ =>
      inA_land_addrMask hc _)
    ⟨ht, fun _ => WordAt_core c _ _, fun _ _ => inA_land_addrMask hc _⟩

theorem AbsoluteYAddr_eff : ModeEff c (Mpu6502.AbsoluteYAddr c) :=
  have ht s := (Eff.refl c s).wordAt hc s.pc (·.pc)
  .ite _
    (.crossing (t := fun s => (Mpu6502.WordAt c s.pc s).2) _ _ ht (fun _ => WordAt_core c _ _) fun _ _ =>
      inA_land_addrMask hc _)
    ⟨ht, fun _ => WordAt_core c _ _, fun _ _ => inA_land_addrMask hc _⟩

theorem IndirectXAddr_eff : ModeEff c (Mpu6502.IndirectXAddr c) where
  eff s := ((Eff.refl c s).read s.pc (·.pc)).wrapAt hc _ fun _ => inA_of_inB hc.W (inB_byteMask_land hc _)
  core _ := (WrapAt_core c _ _).trans (ByteAt_core c _ _)
  addr _ hr := hr.wrapAt hc _

theorem IndirectYAddr_eff : ModeEff c (Mpu6502.IndirectYAddr c) :=
  have ht s := ((Eff.refl c s).read s.pc (·.pc)).wrapAt hc (s.mem s.pc) fun hr => inA_of_inB hc.W (hr.mem s.pc)
  have hcore s : core (Mpu6502.WrapAt c (s.mem s.pc) (Mpu6502.ByteAt c s.pc s).2).2 = core s :=
    (WrapAt_core c _ _).trans (ByteAt_core c _ _)
  .ite _
    (.crossing (t := fun s => (Mpu6502.WrapAt c (s.mem s.pc) (Mpu6502.ByteAt c s.pc s).2).2) _ _ ht hcore
      fun _ _ => inA_land_addrMask hc _)
    ⟨ht, hcore, fun _ _ => inA_land_addrMask hc _⟩

theorem ZeroPageIndirectAddr_eff : ModeEff c (Mpu65c02.ZeroPageIndirectAddr c) where
  eff s := ((Eff.refl c s).read s.pc (·.pc)).wrapAt hc _ fun _ => inA_of_inB hc.W (inB_255_land hc _)
  core _ := (WrapAt_core c _ _).trans (ByteAt_core c _ _)
  addr _ hr := hr.wrapAt hc _

theorem IndirectAbsXAddr_eff : ModeEff c (Mpu65c02.IndirectAbsXAddr c) where
  eff s := (Eff.refl c s).wordAt hc s.pc (·.pc)
  core _ := WordAt_core c _ _
  addr _ _ := inA_land_addrMask hc _

end modes

theorem ProgramCounter_log (c : Cfg) (hc : IsDev c) : ModeLog c (Mpu6502.ProgramCounter c) :=
  ProgramCounter_eff.log hc
theorem ZeroPageAddr_log (c : Cfg) (hc : IsDev c) : ModeLog c (Mpu6502.ZeroPageAddr c) :=
  (ZeroPageAddr_eff hc).log hc
theorem ZeroPageXAddr_log (c : Cfg) (hc : IsDev c) : ModeLog c (Mpu6502.ZeroPageXAddr c) :=
  (ZeroPageXAddr_eff hc).log hc
theorem ZeroPageYAddr_log (c : Cfg) (hc : IsDev c) : ModeLog c (Mpu6502.ZeroPageYAddr c) :=
  (ZeroPageYAddr_eff hc).log hc
theorem AbsoluteAddr_log (c : Cfg) (hc : IsDev c) : ModeLog c (Mpu6502.AbsoluteAddr c) :=
  (AbsoluteAddr_eff hc).log hc
theorem AbsoluteXAddr_log (c : Cfg) (hc : IsDev c) : ModeLog c (Mpu6502.AbsoluteXAddr c) :=
  (AbsoluteXAddr_eff hc).log hc
theorem AbsoluteYAddr_log (c : Cfg) (hc : IsDev c) : ModeLog c (Mpu6502.AbsoluteYAddr c) :=
  (AbsoluteYAddr_eff hc).log hc
theorem IndirectXAddr_log (c : Cfg) (hc : IsDev c) : ModeLog c (Mpu6502.IndirectXAddr c) :=
  (IndirectXAddr_eff hc).log hc
theorem IndirectYAddr_log (c : Cfg) (hc : IsDev c) : ModeLog c (Mpu6502.IndirectYAddr c) :=
  (IndirectYAddr_eff hc).log hc
theorem ZeroPageIndirectAddr_log (c : Cfg) (hc : IsDev c) : ModeLog c (Mpu65c02.ZeroPageIndirectAddr c) :=
  (ZeroPageIndirectAddr_eff hc).log hc
theorem IndirectAbsXAddr_log (c : Cfg) (hc : IsDev c) : ModeLog c (Mpu65c02.IndirectAbsXAddr c) :=
  (IndirectAbsXAddr_eff hc).log hc

end Py65.Proofs
