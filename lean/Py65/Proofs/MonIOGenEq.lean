/-
Tie by regeneration for C18: the definitions GENERATED from `py65/monitor.py`
(`Py65/Gen/MonIOGen.lean`: `Microprocessors`, `_get_mpu`, `_install_mpu_observers` with the closures
`putc` / `getc`, `_reset`, `do_reset`, `do_mpu`, `_parse_args`, `__init__`) are the hand model
`Py65/Model/MonIO.lean`, for all arguments.
-/
import Py65.Gen.MonIOGen
import Py65.Gen.Devices
import Py65.Proofs.MonIOLemmas

namespace Py65.Proofs.MonIOGenEq
open Py65 Py65.Model.PyStr Py65.Model.ObsMem Py65.Model.MonIO Py65.Model.MonIORt Py65.Gen.MonIOGen
open Py65.Spec.ObsMem Py65.Proofs.MonIO

theorem cls_widths :
    MpuCls.mpu6502.ADDR_WIDTH = Py65.Gen.dev6502.cfg.ADDR_WIDTH ∧
    MpuCls.mpu6502.BYTE_WIDTH = Py65.Gen.dev6502.cfg.BYTE_WIDTH ∧
    MpuCls.mpu6502.addrMask = Py65.Gen.dev6502.cfg.addrMask ∧
    MpuCls.mpu6502.byteMask = Py65.Gen.dev6502.cfg.byteMask ∧
    MpuCls.mpu65c02.ADDR_WIDTH = Py65.Gen.dev65c02.cfg.ADDR_WIDTH ∧
    MpuCls.mpu65c02.BYTE_WIDTH = Py65.Gen.dev65c02.cfg.BYTE_WIDTH ∧
    MpuCls.mpu65c02.addrMask = Py65.Gen.dev65c02.cfg.addrMask ∧
    MpuCls.mpu65c02.byteMask = Py65.Gen.dev65c02.cfg.byteMask ∧
    MpuCls.mpu65org16.ADDR_WIDTH = Py65.Gen.dev65org16.cfg.ADDR_WIDTH ∧
    MpuCls.mpu65org16.BYTE_WIDTH = Py65.Gen.dev65org16.cfg.BYTE_WIDTH ∧
    MpuCls.mpu65org16.addrMask = Py65.Gen.dev65org16.cfg.addrMask ∧
    MpuCls.mpu65org16.byteMask = Py65.Gen.dev65org16.cfg.byteMask := by
  decide

theorem microprocessors_eq :
    Microprocessors = [(MpuCls.mpu6502.name, .mpu6502), (MpuCls.mpu65c02.name, .mpu65c02),
                       (MpuCls.mpu65org16.name, .mpu65org16)] := by
  decide

/-- `_get_mpu(name)` picks the FIRST class whose key equals `name` case-insensitively. -/
theorem get_mpu_spec (E : Env) (name : Str) :
    _get_mpu E name =
      if pyLower name = ['6', '5', '0', '2'] then some .mpu6502
      else if pyLower name = ['6', '5', 'c', '0', '2'] then some .mpu65c02
      else if pyLower name = ['6', '5', 'o', 'r', 'g', '1', '6'] then some .mpu65org16
      else none := by
  have h1 : pyLower "6502".toList = ['6', '5', '0', '2'] := by decide
  have h2 : pyLower "65C02".toList = ['6', '5', 'c', '0', '2'] := by decide
  have h3 : pyLower "65Org16".toList = ['6', '5', 'o', 'r', 'g', '1', '6'] := by decide
  simp only [_get_mpu, Microprocessors, _get_mpu_for1, h1, h2, h3]
  generalize pyLower name = n
  simp only [eq_comm (b := n)]

/-- `_get_mpu` = the hand model's `devAddrWidth` (which knows a class by its address width). -/
theorem get_mpu_eq (E : Env) (name : Str) :
    (_get_mpu E name).map MpuCls.ADDR_WIDTH = devAddrWidth name := by
  rw [get_mpu_spec]
  unfold devAddrWidth
  have hl : pyLower name = name.map lower := rfl
  rw [hl]
  dsimp only
  split_ifs <;> rfl

/-- Every class is found under its own name, in any capitalisation of it. -/
theorem get_mpu_own_name (E : Env) (c : MpuCls) (name : Str) (h : pyLower name = pyLower c.name) :
    _get_mpu E name = some c := by
  rw [get_mpu_spec, h]
  cases c <;> decide

def ioOf (σ : IoSt) : IO := { pending := σ.stdin, output := σ.stdout.written }

/-- A value the observer can print: a code point (`chr` does not raise) the stream can encode. -/
def okVal (E : Env) (v : Int) : Prop := 0 ≤ v ∧ v < 0x110000 ∧ E.enc v = true

/-- `console.getch_noblock` as modelled = the hand model's `getchByte` on the head of the queue. -/
theorem getchNoblock_eq (p : List Int) :
    getchNoblock p = ((match p with | [] => [] | b :: _ => [getchByte b]), p.tail) := by
  cases p <;> rfl

/-- GENERATED `getc(address)`: always ends normally, answers the hand model's `getcVal` (next pending byte,
LF as CR, or 0) and removes exactly that byte from the queue; nothing else changes. -/
theorem getc_eq (E : Env) (address : Int) (σ : IoSt) :
    _install_mpu_observers.getc E address σ =
      .ok (some (getcVal (ioOf σ))) { σ with stdin := σ.stdin.tail } := by
  unfold _install_mpu_observers.getc
  cases h : σ.stdin with
  | nil => simp [getchNoblock, getcVal, ioOf, h]
  | cons b rest => simp [getchNoblock, getcVal, ioOf, h, pyOrd, getchByte]

/-- GENERATED `putc(address, value)` for a printable value: ends normally with `None`, appends exactly
`value` to the stream, once, and has flushed it; nothing else changes. -/
theorem putc_eq (E : Env) (address value : Int) (σ : IoSt) (hv : okVal E value) :
    _install_mpu_observers.putc E address value σ =
      .ok none { σ with stdout := { written := σ.stdout.written ++ [value],
                                    flushed := σ.stdout.written.length + 1 } } := by
  obtain ⟨h0, h1, he⟩ := hv
  unfold _install_mpu_observers.putc
  simp [pyChr, h0, h1, stdoutWrite, he, stdoutFlush]

/-- ... and for a code point the stream cannot encode (the `UnicodeEncodeError` branch): `?` instead. -/
theorem putc_unencodable (E : Env) (address value : Int) (σ : IoSt) (h0 : 0 ≤ value) (h1 : value < 0x110000)
    (he : E.enc value = false) (hq : E.enc 63 = true) :
    _install_mpu_observers.putc E address value σ =
      .ok none { σ with stdout := { written := σ.stdout.written ++ [63],
                                    flushed := σ.stdout.written.length + 1 } } := by
  unfold _install_mpu_observers.putc
  simp [pyChr, h0, h1, stdoutWrite, he, hq, stdoutFlush]

/-- `chr(value)` raises for anything that is not a code point: the `ValueError` leaves the observer. -/
theorem putc_not_a_code_point (E : Env) (address value : Int) (σ : IoSt) (h : value < 0 ∨ 0x110000 ≤ value) :
    _install_mpu_observers.putc E address value σ = .raise .ValueError σ := by
  unfold _install_mpu_observers.putc
  have : ¬ (0 ≤ value ∧ value < 0x110000) := by omega
  simp [pyChr, this]

theorem call_putc (E : Env) (a v : Int) (σ : IoSt) :
    _install_mpu_observers.call E putcId a (some v) σ = _install_mpu_observers.putc E a v σ := rfl

theorem call_getc (E : Env) (a : Int) (σ : IoSt) :
    _install_mpu_observers.call E getcId a none σ = _install_mpu_observers.getc E a σ := rfl

/-! ### a device access on the monitor's memory object, through the GENERATED closures

(hand-written glue, the counterpart of `MonIO.replyOf / absorb / access / replay`: the
`ObservableMemory` model calls a callback by its identity and asks the oracle `Reply` for its answer;
here the oracle and the effect of the calls come from running the generated closures.  As in the hand
model the callbacks of ONE access are answered from the state at the beginning of the access, which is
exact because an access of this memory calls at most one callback: `mem_subscribers`.) -/

def replyG (E : Env) (σ : IoSt) : Reply := fun cb _ a v =>
  match _install_mpu_observers.call E cb a v σ with
  | .ok r _ => r
  | _ => none

def absorbG (E : Env) : IoSt → List Ev → IoSt
  | σ, [] => σ
  | σ, e :: es =>
    absorbG E (match _install_mpu_observers.call E e.cb e.addr e.val σ with
               | .ok _ σ' => σ'
               | .raise _ σ' => σ'
               | .nofuel => σ) es

def setMem (σ : IoSt) (m : MemObj) : IoSt := { σ with _mpu := { σ._mpu with memory := m } }

def accessG (E : Env) (σ : IoSt) : MemEv → Option Int × IoSt
  | .r a =>
    match σ._mpu.memory with
    | .obs m =>
      let r := get (replyG E σ) { m with log := [] } a
      (some r.1, absorbG E (setMem σ (.obs { r.2 with log := [] })) r.2.log)
    | .plain cells => (some (cells a), σ)
  | .w a v =>
    match σ._mpu.memory with
    | .obs m =>
      let m' := set (replyG E σ) { m with log := [] } a v
      (none, absorbG E (setMem σ (.obs { m' with log := [] })) m'.log)
    | .plain cells => (none, setMem σ (.plain fun k => if k = a then v else cells k))

def replayG (E : Env) : IoSt → List MemEv → List (Option Int) × IoSt
  | σ, [] => ([], σ)
  | σ, e :: es =>
    let r := accessG E σ e
    let r2 := replayG E r.2 es
    (r.1 :: r2.1, r2.2)

/-- The values a program stores must be printable for `putc` to end normally. -/
def okEv (E : Env) : MemEv → Prop
  | .r _ => True
  | .w _ v => okVal E v

def r0 : Reply := fun _ _ _ _ => none

/-- The memory object of a monitor whose observers are installed at `I` / `O` over cells `cells`:
`ObservableMemory(addrWidth=w)` + the two subscriptions, spelled with the hand model's `memOf`. -/
def obsMem (w I O : Int) (cells : Int → Int) : OM :=
  memOf { addrWidth := w, getcAddr := some I, putcAddr := some O, observed := true } r0 cells

theorem obsMem_def (w I O : Int) (cells : Int → Int) :
    obsMem w I O cells = subscribeRead (subscribeWrite (init w cells) [O] putcId) [I] getcId := rfl

theorem memOf_obsMem (reply : Reply) (s : Sess) (I O : Int) (cells : Int → Int) (ho : s.observed = true)
    (hI : s.getcAddr = some I) (hO : s.putcAddr = some O) :
    memOf s reply cells = obsMem s.addrWidth I O cells := by
  cases s; simp only at ho hI hO; subst ho hI hO; rfl

/-- The monitor's observers are installed at `I` / `O` and its memory object is the one
`_install_mpu_observers` builds, over some cells. -/
structure Good (σ : IoSt) (I O : Int) (cells : Int → Int) : Prop where
  hI : σ.getc_addr = some I
  hO : σ.putc_addr = some O
  hm : σ._mpu.memory = .obs (obsMem σ.addrWidth I O cells)

def sessOf (σ : IoSt) : Sess :=
  { addrWidth := σ.addrWidth, getcAddr := σ.getc_addr, putcAddr := σ.putc_addr, observed := σ._mpu.memory.isObs }

theorem sessOf_good {σ : IoSt} {I O : Int} {cells : Int → Int} (g : Good σ I O cells) :
    sessOf σ = { addrWidth := σ.addrWidth, getcAddr := some I, putcAddr := some O, observed := true } := by
  simp [sessOf, g.hI, g.hO, g.hm, MemObj.isObs]

theorem get_obsMem (reply : Reply) (w I O : Int) (c : Int → Int) (a : Int) :
    Py65.Model.ObsMem.get reply { obsMem w I O c with log := [] } a =
      if Py.land a (maskOf w) = Py.land I (maskOf w) then
        ((match reply getcId 0 (Py.land a (maskOf w)) none with
          | some v => v
          | none => c (Py.land a (maskOf w))),
         { obsMem w I O c with log := [⟨getcId, Py.land a (maskOf w), none⟩] })
      else (c (Py.land a (maskOf w)), obsMem w I O c) :=
  get_installed (s := ⟨w, some I, some O, true⟩) rfl rfl rfl reply r0 c a

theorem set_obsMem (reply : Reply) (w I O : Int) (c : Int → Int) (a v : Int) :
    Py65.Model.ObsMem.set reply { obsMem w I O c with log := [] } a v =
      if Py.land a (maskOf w) = Py.land O (maskOf w) then
        { obsMem w I O (fun k => if k = Py.land a (maskOf w) then
            (match reply putcId 0 (Py.land a (maskOf w)) (some v) with | some r => r | none => v) else c k)
          with log := [⟨putcId, Py.land a (maskOf w), some v⟩] }
      else obsMem w I O (fun k => if k = Py.land a (maskOf w) then v else c k) :=
  set_installed (s := ⟨w, some I, some O, true⟩) rfl rfl rfl reply r0 c a v

def core (σ : IoSt) : IoSt :=
  { σ with stdin := [], stdout := ⟨[], 0⟩, _mpu := { σ._mpu with memory := .plain fun _ => 0 } }

def Frame (σ σ' : IoSt) : Prop := core σ' = core σ

theorem Frame.refl (σ : IoSt) : Frame σ σ := rfl
theorem Frame.trans {a b c : IoSt} (h1 : Frame a b) (h2 : Frame b c) : Frame a c := Eq.trans h2 h1
theorem Frame.addrWidth {a b : IoSt} (h : Frame a b) : b.addrWidth = a.addrWidth :=
  show (core b).addrWidth = (core a).addrWidth from congrArg IoSt.addrWidth h
theorem Frame.getc_addr {a b : IoSt} (h : Frame a b) : b.getc_addr = a.getc_addr :=
  show (core b).getc_addr = (core a).getc_addr from congrArg IoSt.getc_addr h
theorem Frame.putc_addr {a b : IoSt} (h : Frame a b) : b.putc_addr = a.putc_addr :=
  show (core b).putc_addr = (core a).putc_addr from congrArg IoSt.putc_addr h
theorem Frame.cls {a b : IoSt} (h : Frame a b) : b._mpu.cls = a._mpu.cls :=
  show (core b)._mpu.cls = (core a)._mpu.cls from congrArg (fun s => s._mpu.cls) h

open Py65.Spec.MonIO (SState) in
def specOf (σ : IoSt) (cells : Int → Int) : SState :=
  { cells := cells, pending := σ.stdin, output := σ.stdout.written }

open Py65.Spec.MonIO (SState) in
/-- `σ` shows the Spec state `sp` through the installed observers: its memory object is the installed one
over `sp.cells`, its pending input and its output text are `sp`'s. -/
structure IoSim (σ : IoSt) (I O : Int) (sp : SState) : Prop where
  good : Good σ I O sp.cells
  stdin : σ.stdin = sp.pending
  written : σ.stdout.written = sp.output

theorem Good.ioSim {σ : IoSt} {I O : Int} {cells : Int → Int} (g : Good σ I O cells) :
    IoSim σ I O (specOf σ cells) := ⟨g, rfl, rfl⟩

theorem IoSim.mem {σ σ' : IoSt} {I O : Int} {sp : Py65.Spec.MonIO.SState} (h : IoSim σ' I O sp)
    (f : Frame σ σ') : σ'._mpu.memory = .obs (obsMem σ.addrWidth I O sp.cells) :=
  f.addrWidth ▸ h.good.hm

theorem replyG_getc (E : Env) (σ : IoSt) (i : Nat) (a : Int) :
    replyG E σ getcId i a none = some (getcVal (ioOf σ)) := by
  simp only [replyG, call_getc, getc_eq]

theorem replyG_putc (E : Env) (σ : IoSt) (i : Nat) (a v : Int) :
    replyG E σ putcId i a (some v) = none := by
  simp only [replyG, call_putc]
  unfold _install_mpu_observers.putc
  cases pyChr v with
  | none => rfl
  | some t =>
    dsimp only
    cases stdoutWrite E.enc t σ.stdout with
    | none => dsimp only; cases stdoutWrite E.enc [63] σ.stdout <;> rfl
    | some _ => rfl

/-- One access through the GENERATED closures on the memory the GENERATED `_install_mpu_observers`
builds is the hand model's `access`. -/
theorem accessG_good (E : Env) (σ : IoSt) (I O : Int) (cells : Int → Int) (g : Good σ I O cells)
    (e : MemEv) (he : okEv E e) :
    let r := accessG E σ e
    let h := access (sessOf σ) { cells := cells, io := ioOf σ } e
    r.1 = h.1 ∧ Good r.2 I O h.2.cells ∧ ioOf r.2 = h.2.io ∧ Frame σ r.2 ∧
    (σ.stdout.flushed = σ.stdout.written.length → r.2.stdout.flushed = r.2.stdout.written.length) := by
  intro r h
  have hs := sessOf_good g
  have hmem : ∀ rp, memOf { addrWidth := σ.addrWidth, getcAddr := some I, putcAddr := some O, observed := true }
      rp cells = { obsMem σ.addrWidth I O cells with log := [] } := fun _ => rfl
  cases e with
  | r a =>
    simp only [r, h, accessG, access, g.hm, hs, if_true, hmem, get_obsMem]
    by_cases hp : Py.land a (maskOf σ.addrWidth) = Py.land I (maskOf σ.addrWidth)
    · simp only [hp, if_true, replyG_getc, absorbG, call_getc, getc_eq, replyOf, absorb]
      exact ⟨trivial, ⟨g.hI, g.hO, rfl⟩, rfl, rfl, fun hf => hf⟩
    · simp only [hp, if_false]
      exact ⟨trivial, ⟨g.hI, g.hO, rfl⟩, rfl, rfl, fun hf => hf⟩
  | w a v =>
    have hv : okVal E v := he
    simp only [r, h, accessG, access, g.hm, hs, if_true, hmem, set_obsMem]
    by_cases hp : Py.land a (maskOf σ.addrWidth) = Py.land O (maskOf σ.addrWidth)
    · simp only [hp, if_true, replyG_putc, absorbG, call_putc, putc_eq _ _ _ _ hv, replyOf, absorb]
      refine ⟨trivial, ⟨g.hI, g.hO, ?_⟩, ?_, rfl, fun _ => ?_⟩
      · simp [setMem, putcId, getcId]
        rfl
      · simp [ioOf, setMem, putcId, getcId]
      · simp [setMem]
    · simp only [hp, if_false]
      exact ⟨trivial, ⟨g.hI, g.hO, rfl⟩, rfl, rfl, fun hf => hf⟩

/-- Replaying ANY access log of printable stores through the generated closures is the hand model's
`replay`. -/
theorem replayG_good (E : Env) (I O : Int) (evs : List MemEv) :
    ∀ (σ : IoSt) (cells : Int → Int), Good σ I O cells → (∀ e ∈ evs, okEv E e) →
    let r := replayG E σ evs
    let h := replay (sessOf σ) { cells := cells, io := ioOf σ } evs
    r.1 = h.1 ∧ Good r.2 I O h.2.cells ∧ ioOf r.2 = h.2.io ∧ Frame σ r.2 ∧
    (σ.stdout.flushed = σ.stdout.written.length → r.2.stdout.flushed = r.2.stdout.written.length) := by
  induction evs with
  | nil => intro σ cells g _; exact ⟨rfl, g, rfl, Frame.refl σ, fun hf => hf⟩
  | cons e es ih =>
    intro σ cells g hev
    obtain ⟨a1, a2, a3, a4, a5⟩ := accessG_good E σ I O cells g e (hev e (List.mem_cons_self ..))
    obtain ⟨b1, b2, b3, b4, b5⟩ := ih (accessG E σ e).2 _ a2 (fun x hx => hev x (List.mem_cons_of_mem _ hx))
    have hsame : sessOf (accessG E σ e).2 = sessOf σ := by
      rw [sessOf_good a2, sessOf_good g, a4.addrWidth]
    simp only [replayG, replay]
    rw [hsame, a3] at b1 b2 b3
    exact ⟨by rw [a1, b1], b2, b3, a4.trans b4, fun hf => b5 (a5 hf)⟩

open Py65.Spec.MonIO (SState) in
/-- Replaying ANY access log of printable stores through the generated closures is the Spec's replay, state
included (`replayG_good`, then `MonIO.replay_spec`). -/
theorem replayG_spec (E : Env) (I O : Int) (evs : List MemEv) (σ : IoSt) (sp : SState) (h : IoSim σ I O sp)
    (hev : ∀ e ∈ evs, okEv E e) :
    let r := replayG E σ evs
    let t := Py65.Spec.MonIO.replay (maskOf σ.addrWidth + 1) I O sp evs
    r.1 = t.1 ∧ IoSim r.2 I O t.2 ∧ Frame σ r.2 ∧
    (σ.stdout.flushed = σ.stdout.written.length → r.2.stdout.flushed = r.2.stdout.written.length) := by
  obtain ⟨r1, r2, r3, r4, r5⟩ := replayG_good E I O evs σ sp.cells h.good hev
  have hs := sessOf_good h.good
  obtain ⟨t1, t2⟩ := replay_spec (sessOf σ) I O (by rw [hs]) (by rw [hs]) (by rw [hs])
    { cells := sp.cells, io := ioOf σ } evs
  have hsp : toSpec { cells := sp.cells, io := ioOf σ } = sp := by
    cases sp; simp only [toSpec, ioOf, h.stdin, h.written]
  rw [hsp] at t1 t2
  exact ⟨r1.trans t1, ⟨congrArg SState.cells t2 ▸ r2,
    (congrArg IO.pending r3).trans (congrArg SState.pending t2),
    (congrArg IO.output r3).trans (congrArg SState.output t2)⟩, r4, r5⟩

open Py65.Spec.MonIO (storesTo loadsFrom) in
/-- `IoSim` with the Spec's replay of `evs` from the state `σ` shows, in closed form: the output grew by the
stores to `O`, the input shrank by the number of loads from `I`; the memory object is the installed one over
the Spec's cells. -/
theorem IoSim.replay_closed {σ σ' : IoSt} {I O : Int} {cells : Int → Int} {evs : List MemEv}
    (h : IoSim σ' I O (Py65.Spec.MonIO.replay (maskOf σ.addrWidth + 1) I O (specOf σ cells) evs).2)
    (f : Frame σ σ') :
    σ'._mpu.memory = .obs (obsMem σ.addrWidth I O
      (Py65.Spec.MonIO.replay (maskOf σ.addrWidth + 1) I O (specOf σ cells) evs).2.cells) ∧
    σ'.stdout.written = σ.stdout.written ++ storesTo (maskOf σ.addrWidth + 1) O evs ∧
    σ'.stdin = σ.stdin.drop (loadsFrom (maskOf σ.addrWidth + 1) I evs) :=
  ⟨h.mem f, h.written.trans (spec_closed _ I O (specOf σ cells) evs).1,
    h.stdin.trans (spec_closed _ I O (specOf σ cells) evs).2⟩

/-- The cells a new device / a new `ObservableMemory` starts from: the constructor's `memory`, or zeros. -/
def cellsOf (σ : IoSt) : Int → Int := σ.memory.getD fun _ => 0

/-- GENERATED `_install_mpu_observers`: whatever its two PARAMETERS are, the observers go to the
ATTRIBUTES `self.putc_addr` / `self.getc_addr` of a new `ObservableMemory(addrWidth=self.addrWidth)`:
the result is the hand model's `memOf` (`obsMem`), put in the device's place; nothing else changes.
With an attribute that is `None` the subscription raises `TypeError` (`None & mask`). -/
theorem install_spec (E : Env) (g p : Option Int) (σ : IoSt) :
    _install_mpu_observers E g p σ =
      match σ.putc_addr, σ.getc_addr with
      | some O, some I => .ok () (setMem σ (.obs (obsMem σ.addrWidth I O (cellsOf σ))))
      | _, _ => .raise .TypeError σ := by
  unfold _install_mpu_observers setMem
  cases σ.putc_addr <;> cases σ.getc_addr <;> rfl

theorem install_eq (E : Env) (g p : Option Int) (σ : IoSt) (I O : Int)
    (hI : σ.getc_addr = some I) (hO : σ.putc_addr = some O) :
    _install_mpu_observers E g p σ = .ok () (setMem σ (.obs (obsMem σ.addrWidth I O (cellsOf σ)))) := by
  rw [install_spec, hI, hO]

theorem install_none (E : Env) (g p : Option Int) (σ : IoSt) (h : σ.putc_addr = none ∨ σ.getc_addr = none) :
    _install_mpu_observers E g p σ = .raise .TypeError σ := by
  rw [install_spec]
  rcases h with h | h
  · rw [h]
  · rw [h]; cases σ.putc_addr <;> rfl

/-- The state after `_reset(cls, …)`, in closed form: a new device of class `cls` (fresh identity) whose
memory is the observed one iff `install`, the six width / format / mask attributes copied from it, a
new parser of that width, a new disassembler and a new assembler bound to the NEW device and the NEW
parser.  The configured addresses, the two streams and the printed lines are untouched. -/
def resetSt (cls : MpuCls) (install : Bool) (σ : IoSt) : IoSt :=
  let n := σ.nextId
  let mem : MemObj :=
    match install, σ.getc_addr, σ.putc_addr with
    | true, some I, some O => .obs (obsMem cls.ADDR_WIDTH I O (cellsOf σ))
    | _, _, _ => .plain (cellsOf σ)
  { σ with
    _mpu := { id := n, cls := cls, memory := mem },
    addrWidth := cls.ADDR_WIDTH, byteWidth := cls.BYTE_WIDTH, addrFmt := cls.ADDR_FORMAT,
    byteFmt := cls.BYTE_FORMAT, addrMask := cls.addrMask, byteMask := cls.byteMask,
    _address_parser := { id := n + 1, maxwidth := cls.ADDR_WIDTH },
    _disassembler := { id := n + 2, mpu := n, parser := n + 1 },
    _assembler := { id := n + 3, mpu := n, parser := n + 1 },
    nextId := n + 4 }

/-- GENERATED `_reset(cls, getc_addr, putc_addr)` = `resetSt`: the observers are installed exactly when
BOTH PARAMETERS are not `None` (0 is an address) -- provided the attributes are integers then, which
every caller guarantees by passing the attributes themselves. -/
theorem reset_eq (E : Env) (cls : MpuCls) (g p : Option Int) (σ : IoSt)
    (h : (g.isSome && p.isSome) = true → σ.getc_addr.isSome = true ∧ σ.putc_addr.isSome = true) :
    _reset E cls g p σ = .ok () (resetSt cls (g.isSome && p.isSome) σ) := by
  unfold _reset
  cases g with
  | none => simp [resetSt, mpuNew, parserNew, toolNew, cellsOf]
  | some gv =>
    cases p with
    | none => simp [resetSt, mpuNew, parserNew, toolNew, cellsOf]
    | some pv =>
      obtain ⟨h1, h2⟩ := h rfl
      obtain ⟨I, hI⟩ := Option.isSome_iff_exists.mp h1
      obtain ⟨O, hO⟩ := Option.isSome_iff_exists.mp h2
      simp only [ne_eq, reduceCtorEq, not_false_eq_true, and_self, if_true, install_spec, hI, hO]
      simp [resetSt, mpuNew, parserNew, toolNew, cellsOf, setMem, hI, hO]

/-- What `_reset` establishes and every modelled operation keeps: the monitor's width is the device's,
and the device's memory object is the observed one (over some cells) exactly when both configured
addresses are integers, the device's own plain list otherwise. -/
structure Inv (σ : IoSt) : Prop where
  width : σ.addrWidth = σ._mpu.cls.ADDR_WIDTH
  mem : ∃ cells, σ._mpu.memory =
    match σ.getc_addr, σ.putc_addr with
    | some I, some O => .obs (obsMem σ.addrWidth I O cells)
    | _, _ => .plain cells

def both (σ : IoSt) : Bool := σ.getc_addr.isSome && σ.putc_addr.isSome

theorem Inv.good {σ : IoSt} (h : Inv σ) {I O : Int} (hI : σ.getc_addr = some I) (hO : σ.putc_addr = some O) :
    ∃ cells, Good σ I O cells := by
  obtain ⟨cells, hm⟩ := h.mem
  rw [hI, hO] at hm
  exact ⟨cells, hI, hO, hm⟩

/-- An operation that leaves everything but memory object and streams alone (`Frame`) and ends with the
observers installed keeps `Inv`. -/
theorem Inv.of_frame {σ σ' : IoSt} (h : Inv σ) (f : Frame σ σ') {I O : Int} {cells : Int → Int}
    (g : Good σ' I O cells) : Inv σ' :=
  ⟨by rw [f.addrWidth, f.cls]; exact h.width, ⟨cells, by rw [g.hI, g.hO]; exact g.hm⟩⟩

theorem Inv.observed {σ : IoSt} (h : Inv σ) : (sessOf σ).observed = both σ := by
  obtain ⟨cells, hm⟩ := h.mem
  unfold sessOf both
  cases hg : σ.getc_addr <;> cases hp : σ.putc_addr <;> simp [hg, hp] at hm ⊢ <;> rw [hm] <;> rfl

theorem inv_resetSt (cls : MpuCls) (σ : IoSt) : Inv (resetSt cls (both σ) σ) := by
  refine ⟨rfl, cellsOf σ, ?_⟩
  unfold resetSt both
  cases hg : σ.getc_addr <;> cases hp : σ.putc_addr <;> simp

theorem sessOf_resetSt (cls : MpuCls) (g p : Option Int) (σ : IoSt)
    (h : (g.isSome && p.isSome) = true → σ.getc_addr.isSome = true ∧ σ.putc_addr.isSome = true) :
    sessOf (resetSt cls (g.isSome && p.isSome) σ) = resetWith (sessOf σ) cls.ADDR_WIDTH g p := by
  unfold resetSt sessOf resetWith
  cases hb : (g.isSome && p.isSome)
  · simp [MemObj.isObs]
  · obtain ⟨h1, h2⟩ := h hb
    obtain ⟨I, hI⟩ := Option.isSome_iff_exists.mp h1
    obtain ⟨O, hO⟩ := Option.isSome_iff_exists.mp h2
    simp [hI, hO, MemObj.isObs]

/-- GENERATED `do_reset`: `_reset` with the class of the CURRENT device and the configured ATTRIBUTES. -/
theorem do_reset_eq (E : Env) (args : Str) (σ : IoSt) :
    do_reset E args σ = .ok () (resetSt σ._mpu.cls (both σ) σ) := by
  unfold do_reset
  simp only [reset_eq E σ._mpu.cls σ.getc_addr σ.putc_addr σ (by simp), Flow.bind_ok]
  rfl

def availLine : Str := "Available MPUs: 6502, 65C02, 65Org16".toList

theorem names_eq :
    pyJoin ", ".toList (pySorted (pyKeys Microprocessors)) = "6502, 65C02, 65Org16".toList := by decide

theorem available_mpus_eq (E : Env) (σ : IoSt) :
    do_mpu.available_mpus E σ = .ok () { σ with out := σ.out ++ [availLine] } := by
  unfold do_mpu.available_mpus availLine
  -- the two halves of the line are joined as strings (literal folding), not as character lists
  simp only [show pyList (pyKeys Microprocessors) = pyKeys Microprocessors from rfl, names_eq,
    ← String.toList_append, String.reduceAppend]

/-- GENERATED `do_mpu`: without an argument it only prints; an unknown name only prints; a known name
(any capitalisation) is `_reset` with that class and the configured ATTRIBUTES, then one line. -/
theorem do_mpu_eq (E : Env) (args : Str) (σ : IoSt) :
    do_mpu E args σ =
      if args = [] then
        .ok () { σ with out := σ.out ++ ["Current MPU is ".toList ++ σ._mpu.cls.name, availLine] }
      else
        match _get_mpu E args with
        | none => .ok () { σ with out := σ.out ++ ["Unknown MPU: ".toList ++ args, availLine] }
        | some c =>
          .ok () { resetSt c (both σ) σ with out := σ.out ++ ["Reset with new MPU ".toList ++ c.name] } := by
  unfold do_mpu
  have he : "".toList = ([] : Str) := rfl
  rw [he]
  by_cases h : args = []
  · simp [h, available_mpus_eq]
  · simp only [h, if_false]
    cases hc : _get_mpu E args with
    | none => simp [available_mpus_eq]
    | some c =>
      simp only [reset_eq E c σ.getc_addr σ.putc_addr σ (by simp), Flow.bind_ok]
      rfl

def applyCmdG (E : Env) (σ : IoSt) : Cmd → Flow IoSt Unit
  | .reset => do_reset E [] σ
  | .mpu name => do_mpu E name σ

def applyCmdsG (E : Env) : IoSt → List Cmd → Flow IoSt Unit
  | σ, [] => .ok () σ
  | σ, c :: cs => (applyCmdG E σ c).bind fun _ σ => applyCmdsG E σ cs

/-- What a command leaves alone: the configured addresses, the constructor's memory argument and the
two streams. -/
def IoKept (σ σ' : IoSt) : Prop :=
  σ'.getc_addr = σ.getc_addr ∧ σ'.putc_addr = σ.putc_addr ∧ σ'.memory = σ.memory ∧
  σ'.stdin = σ.stdin ∧ σ'.stdout = σ.stdout

theorem IoKept.refl (σ : IoSt) : IoKept σ σ := ⟨rfl, rfl, rfl, rfl, rfl⟩
theorem IoKept.trans {a b c : IoSt} (h1 : IoKept a b) (h2 : IoKept b c) : IoKept a c :=
  ⟨h2.1.trans h1.1, h2.2.1.trans h1.2.1, h2.2.2.1.trans h1.2.2.1, h2.2.2.2.1.trans h1.2.2.2.1,
   h2.2.2.2.2.trans h1.2.2.2.2⟩

theorem kept_resetSt (cls : MpuCls) (b : Bool) (σ : IoSt) : IoKept σ (resetSt cls b σ) := ⟨rfl, rfl, rfl, rfl, rfl⟩

/-- One GENERATED command is the hand model's `applyCmd`; it always ends normally. -/
theorem applyCmdG_eq (E : Env) (σ : IoSt) (hi : Inv σ) (c : Cmd) :
    ∃ σ', applyCmdG E σ c = .ok () σ' ∧ Inv σ' ∧ sessOf σ' = applyCmd (sessOf σ) c ∧ IoKept σ σ' := by
  have hw := hi.width
  have hreset : ∀ cls, sessOf (resetSt cls (both σ) σ) =
      resetWith (sessOf σ) cls.ADDR_WIDTH (sessOf σ).getcAddr (sessOf σ).putcAddr :=
    fun cls => sessOf_resetSt cls σ.getc_addr σ.putc_addr σ (by simp)
  cases c with
  | reset =>
    refine ⟨_, do_reset_eq E [] σ, inv_resetSt _ σ, ?_, kept_resetSt _ _ σ⟩
    rw [hreset]
    show _ = resetWith (sessOf σ) (sessOf σ).addrWidth _ _
    rw [show (sessOf σ).addrWidth = σ._mpu.cls.ADDR_WIDTH from hw]
  | mpu name =>
    simp only [applyCmdG, do_mpu_eq, applyCmd, ← get_mpu_eq E name]
    by_cases hn : name = []
    · simp only [hn, if_true]
      exact ⟨_, rfl, ⟨hi.width, hi.mem⟩, rfl, IoKept.refl σ⟩
    · simp only [hn, if_false]
      cases hc : _get_mpu E name with
      | none => exact ⟨_, rfl, ⟨hi.width, hi.mem⟩, rfl, IoKept.refl σ⟩
      | some c =>
        refine ⟨_, rfl, ?_, ?_, ?_⟩
        · exact ⟨(inv_resetSt c σ).width, (inv_resetSt c σ).mem⟩
        · simp only [Option.map_some]
          rw [← hreset]
          rfl
        · exact ⟨rfl, rfl, rfl, rfl, rfl⟩

/-- ANY sequence of `reset` / `mpu` commands through the GENERATED methods is the hand model's
`applyCmds`; every command ends normally. -/
theorem applyCmdsG_eq (E : Env) (cmds : List Cmd) :
    ∀ σ, Inv σ → ∃ σ', applyCmdsG E σ cmds = .ok () σ' ∧ Inv σ' ∧
      sessOf σ' = applyCmds (sessOf σ) cmds ∧ IoKept σ σ' := by
  induction cmds with
  | nil => intro σ hi; exact ⟨σ, rfl, hi, rfl, IoKept.refl σ⟩
  | cons c cs ih =>
    intro σ hi
    obtain ⟨σ1, e1, i1, s1, k1⟩ := applyCmdG_eq E σ hi c
    obtain ⟨σ2, e2, i2, s2, k2⟩ := ih σ1 i1
    refine ⟨σ2, ?_, i2, ?_, k1.trans k2⟩
    · simp only [applyCmdsG, e1, Flow.bind_ok, e2]
    · rw [s2, s1]; rfl

inductive OptKind where
  | input | output | mpu | help | load | rom | goto | other
  deriving DecidableEq, Repr

/-- Which one an option string (as `getopt` delivers it: `-x` or `--long`) is. -/
def optKind (opt : Str) : OptKind :=
  if opt = "-i".toList ∨ opt = "--input".toList then .input
  else if opt = "-o".toList ∨ opt = "--output".toList then .output
  else if opt = "-m".toList ∨ opt = "--mpu".toList then .mpu
  else if opt = "-h".toList ∨ opt = "--help".toList then .help
  else if opt = "-l".toList ∨ opt = "--load".toList then .load
  else if opt = "-r".toList ∨ opt = "--rom".toList then .rom
  else if opt = "-g".toList ∨ opt = "--goto".toList then .goto
  else .other

structure PAcc where
  load : Option Str
  rom : Option Str
  goto : Option Str

def fatalLine : Str := "Fatal: no such MPU. Available MPUs: 6502, 65C02, 65Org16".toList

/-- One option, as the documentation of `py65mon` has it: `-i X` / `-o X` set the input / output address
to `int(X, 16)` (a `ValueError` leaves the constructor), `-m NAME` selects the device class
(`SystemExit(1)` after one line for an unknown name), `-h` prints the usage and exits with 0,
`-l / -r / -g` remember their value, anything else is ignored. -/
def optStep (E : Env) (opt value : Str) (acc : PAcc) (σ : IoSt) : Flow IoSt PAcc :=
  match optKind opt with
  | .input =>
    match pyIntL value 16 with
    | none => .raise .ValueError σ
    | some v => .ok acc { σ with getc_addr := some v }
  | .output =>
    match pyIntL value 16 with
    | none => .raise .ValueError σ
    | some v => .ok acc { σ with putc_addr := some v }
  | .mpu =>
    match _get_mpu E value with
    | none => .raise (.SystemExit 1) { σ with out := σ.out ++ [fatalLine] }
    | some c => .ok acc { σ with mpu_type := c }
  | .help => .raise (.SystemExit 0) { σ with out := σ.out ++ [E.usage] }
  | .load => .ok { acc with load := some value } σ
  | .rom => .ok { acc with rom := some value } σ
  | .goto => .ok { acc with goto := some value } σ
  | .other => .ok acc σ

def parseOpts (E : Env) : List (Str × Str) → PAcc → IoSt → Flow IoSt PAcc
  | [], acc, σ => .ok acc σ
  | (o, v) :: rest, acc, σ => (optStep E o v acc σ).bind fun acc σ => parseOpts E rest acc σ

/-- The seven tests of the loop body are mutually exclusive: each is "the option is of this kind". -/
theorem conds_of_kind (opt : Str) :
    ((opt = "-i".toList ∨ opt = "--input".toList) ↔ (optKind opt = .input)) ∧
    ((opt = "-o".toList ∨ opt = "--output".toList) ↔ (optKind opt = .output)) ∧
    ((opt = "-m".toList ∨ opt = "--mpu".toList) ↔ (optKind opt = .mpu)) ∧
    ((opt = "-h".toList ∨ opt = "--help".toList) ↔ (optKind opt = .help)) ∧
    ((opt = "-l".toList ∨ opt = "--load".toList) ↔ (optKind opt = .load)) ∧
    ((opt = "-r".toList ∨ opt = "--rom".toList) ↔ (optKind opt = .rom)) ∧
    ((opt = "-g".toList ∨ opt = "--goto".toList) ↔ (optKind opt = .goto)) := by
  -- the tests compare with fourteen different literals: check each of them; any other string fails every test
  by_cases hmem : opt ∈ ["-i".toList, "--input".toList, "-o".toList, "--output".toList, "-m".toList, "--mpu".toList,
      "-h".toList, "--help".toList, "-l".toList, "--load".toList, "-r".toList, "--rom".toList, "-g".toList,
      "--goto".toList]
  · revert opt
    decide +kernel
  · simp only [List.mem_cons, List.not_mem_nil, or_false, not_or] at hmem
    obtain ⟨a1, a2, b1, b2, c1, c2, d1, d2, e1, e2, f1, f2, g1, g2⟩ := hmem
    simp only [optKind, a1, a2, b1, b2, c1, c2, d1, d2, e1, e2, f1, f2, g1, g2, or_self, if_false, reduceCtorEq]
    trivial

theorem fatal_eq :
    "Fatal: no such MPU. Available MPUs: ".toList ++ pyJoin ", ".toList (pySorted (pyKeys Microprocessors)) =
      fatalLine := by
  unfold fatalLine
  simp only [names_eq, ← String.toList_append, String.reduceAppend]

/-- The GENERATED `for opt, value in options:` loop of `_parse_args` is `parseOpts`, for every option
list. -/
theorem parse_loop_eq (E : Env) (opts : List (Str × Str)) :
    ∀ (load rom goto : Option Str) (σ : IoSt),
      _parse_args_for1 E opts load rom goto σ =
        (parseOpts E opts ⟨load, rom, goto⟩ σ).bind fun acc σ => .ok (acc.load, acc.rom, acc.goto) σ := by
  induction opts with
  | nil => intro _ _ _ _; rfl
  | cons ov rest ih =>
    obtain ⟨opt, value⟩ := ov
    intro load rom goto σ
    obtain ⟨c1, c2, c3, c4, c5, c6, c7⟩ := conds_of_kind opt
    simp only [_parse_args_for1, parseOpts, ih, c1, c2, c3, c4, c5, c6, c7, fatal_eq, optStep]
    cases hk : optKind opt
    · cases pyIntL value 16 <;> simp
    · cases pyIntL value 16 <;> simp
    · cases _get_mpu E value <;> simp
    all_goals simp

def shortopts : Str := "hi:o:m:l:r:g:".toList
def longopts : List Str :=
  ["help".toList, "mpu=".toList, "input=".toList, "output=".toList, "load=".toList, "rom=".toList, "goto=".toList]

/-- GENERATED `_parse_args(argv)`: `getopt.getopt(argv[1:], shortopts, longopts)`; a `GetoptError` prints
its message and the usage and exits with 1; otherwise the options are processed in order by `parseOpts`
and the values of `-l / -r / -g` are returned. -/
theorem parse_args_eq (E : Env) (argv : List Str) (σ : IoSt) :
    _parse_args E argv σ =
      match E.getopt (pySliceFrom argv 1) shortopts longopts with
      | .error msg => .raise (.SystemExit 1) { σ with out := σ.out ++ [msg, E.usage] }
      | .ok r => (parseOpts E r.1 ⟨none, none, none⟩ σ).bind fun acc σ => .ok (acc.load, acc.rom, acc.goto) σ := by
  unfold _parse_args
  simp only [parse_loop_eq]
  show (match E.getopt (pySliceFrom argv 1) shortopts longopts with | .error m => _ | .ok r => _) = _
  cases E.getopt (pySliceFrom argv 1) shortopts longopts with
  | error msg => simp
  | ok r =>
    simp only
    cases parseOpts E r.1 ⟨none, none, none⟩ σ <;> rfl

/-- The start-up actions of `__init__` (uninterpreted), in the order load, goto, rom; each runs only
when its option was given. -/
def startups (E : Env) (load goto rom : Option Str) (σ : IoSt) : Flow IoSt Unit :=
  (match load with | some x => E.startup 0 x σ | none => .ok () σ).bind fun _ σ =>
  (match goto with | some x => E.startup 1 x σ | none => .ok () σ).bind fun _ σ =>
  (match rom with | some x => E.startup 2 x σ | none => .ok () σ)

theorem startups_none (E : Env) (σ : IoSt) : startups E none none none σ = .ok () σ := rfl

/-- GENERATED `__init__`: store the four keyword arguments, parse `argv` (default `sys.argv`), `_reset`
with the ATTRIBUTES `mpu_type / getc_addr / putc_addr` as they are after the options, then the start-up
actions.  The pre-state `σ` only passes its streams, printed lines and allocation counter on: no
attribute is read before it is set. -/
theorem init_eq (E : Env) (argv : Option (List Str)) (cls : MpuCls) (mem : Option (Int → Int))
    (kp kg : Option Int) (σ : IoSt) :
    __init__ E argv cls mem kp kg σ =
      (_parse_args E (argv.getD E.sys_argv)
          { σ with mpu_type := cls, memory := mem, putc_addr := kp, getc_addr := kg }).bind fun r σ2 =>
        startups E r.1 r.2.2 r.2.1 (resetSt σ2.mpu_type (both σ2) σ2) := by
  have bind_unit : ∀ x : Flow IoSt Unit, (x.bind fun _ σ => .ok () σ) = x := by
    intro x; cases x <;> rfl
  unfold __init__
  cases argv <;>
  · dsimp only [Option.getD]
    congr 1
    funext r σ2
    simp only [reset_eq E σ2.mpu_type σ2.getc_addr σ2.putc_addr σ2 (by simp), Flow.bind_ok]
    obtain ⟨load, rom, goto⟩ := r
    unfold startups
    cases load <;> cases goto <;> cases rom <;> simp only [Flow.bind_ok, both, bind_unit]

/-- The option list of `py65mon [-m NAME] [-i X] [-o Y]` as `getopt` delivers it. -/
def optsOf (m i o : Option Str) : List (Str × Str) :=
  (m.toList.map fun n => ("-m".toList, n)) ++ (i.toList.map fun t => ("-i".toList, t)) ++
  (o.toList.map fun t => ("-o".toList, t))

theorem kind_m : optKind ['-', 'm'] = .mpu := by decide +kernel
theorem kind_i : optKind ['-', 'i'] = .input := by decide +kernel
theorem kind_o : optKind ['-', 'o'] = .output := by decide +kernel

/-- The device class the constructor ends up with: the keyword argument `mpu_type`, or what `-m NAME` names
(`none`: an unknown name). -/
def clsOf (E : Env) (cls : MpuCls) (m : Option Str) : Option MpuCls :=
  match m with
  | none => some cls
  | some n => _get_mpu E n

theorem parse_optsOf (E : Env) (m i o : Option Str) (cls cls' : MpuCls) (mem : Option (Int → Int))
    (kp kg : Option Int) (σ : IoSt)
    (hm : clsOf E cls m = some cls') :
    parseOpts E (optsOf m i o) ⟨none, none, none⟩
        { σ with mpu_type := cls, memory := mem, putc_addr := kp, getc_addr := kg } =
      match optAddr kg i with
      | none => .raise .ValueError { σ with mpu_type := cls', memory := mem, putc_addr := kp, getc_addr := kg }
      | some g =>
        match optAddr kp o with
        | none => .raise .ValueError { σ with mpu_type := cls', memory := mem, putc_addr := kp, getc_addr := g }
        | some p => .ok ⟨none, none, none⟩ { σ with mpu_type := cls', memory := mem, putc_addr := p, getc_addr := g } := by
  rcases m with _ | n <;> rcases i with _ | t <;> rcases o with _ | u <;>
    simp only [clsOf, Option.some.injEq] at hm <;> (try subst hm) <;>
    (try cases ht : pyIntL t 16) <;> (try cases hu : pyIntL u 16) <;>
    simp [optsOf, parseOpts, optStep, optAddr, kind_m, kind_i, kind_o, *]

/-- GENERATED constructor = the hand model's `construct`.  For a command line on which `getopt` finds
`[-m NAME] [-i X] [-o Y]` (each optional; `NAME` a known device name in any capitalisation, `cls'` the
class it names, or the keyword argument `mpu_type` without `-m`), keyword arguments `putc_addr = kp`,
`getc_addr = kg`, and ANY pre-state: if the hand model's `construct` (keyword arguments overridden by
`-i` / `-o` parsed as hexadecimal) gives `s0`, the generated `__init__` ends normally in a state whose
session is `s0`, which satisfies `Inv`, runs a device of class `cls'` and has the streams of the
pre-state; if it gives `none` (`int(X, 16)` fails), `__init__` raises `ValueError`. -/
theorem init_construct (E : Env) (argv rest : List Str) (m i o : Option Str) (cls cls' : MpuCls)
    (mem : Option (Int → Int)) (kp kg : Option Int) (σ : IoSt)
    (hget : E.getopt (pySliceFrom argv 1) shortopts longopts = .ok (optsOf m i o, rest))
    (hm : clsOf E cls m = some cls') :
    match construct cls'.ADDR_WIDTH kg kp i o with
    | some s0 =>
      ∃ σ', __init__ E (some argv) cls mem kp kg σ = .ok () σ' ∧ Inv σ' ∧ sessOf σ' = s0 ∧
        σ'._mpu.cls = cls' ∧ σ'.memory = mem ∧ σ'.stdin = σ.stdin ∧ σ'.stdout = σ.stdout
    | none => ∃ σ', __init__ E (some argv) cls mem kp kg σ = .raise .ValueError σ' := by
  rw [init_eq, Option.getD_some, parse_args_eq, hget, construct_eq]
  simp only [parse_optsOf E m i o cls cls' mem kp kg σ hm]
  cases optAddr kg i with
  | none => exact ⟨_, rfl⟩
  | some g =>
    cases optAddr kp o with
    | none => exact ⟨_, rfl⟩
    | some p =>
      simp only [Flow.bind_ok, startups_none, Option.bind_some, Option.map_some]
      refine ⟨_, rfl, inv_resetSt _ _, ?_, rfl, rfl, rfl, rfl⟩
      rw [show both { σ with mpu_type := cls', memory := mem, putc_addr := p, getc_addr := g } =
          (g.isSome && p.isSome) from rfl, sessOf_resetSt _ g p _ (by simp)]
      rfl

end Py65.Proofs.MonIOGenEq
