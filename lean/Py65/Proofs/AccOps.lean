/-
Aspect *access log*, handlers: `HandlerAcc` (the appended events are `Spec.instrAccesses` as a
multiset) and its ordered form `HandlerExact`; a handler made of a mode helper and an operation helper
logs the helper's trace and then the operation's read and/or write of the effective address.
-/
import Py65.Proofs.AccLog
set_option linter.unusedSimpArgs false
namespace Py65.Proofs
open Py65 Py65.Gen Py65.Spec Py

/-- What the properties demand of a handler, aspect *log*: the events it appends are, as a multiset,
the operand fetches and data accesses of the instruction's definition. -/
def HandlerAcc (c : Cfg) (v : Variant) (h : St → St) (mn : Mn) (mo : Mode) : Prop :=
  ∀ s, WF c s → ∃ T : List Acc, acl (h s) = T.reverse ++ acl s ∧
    T.Perm (instrAccesses c.BYTE_WIDTH v mn mo (core s))

def Mode.isData : Mode → Bool
  | .imm | .zpg | .zpx | .zpy | .abs | .abx | .aby | .inx | .iny | .zpi => true
  | _ => false

/-- The ordered form: the events a handler appends are exactly `Spec.instrAccesses`, in that order. -/
def HandlerExact (c : Cfg) (v : Variant) (h : St → St) (mn : Mn) (mo : Mode) : Prop :=
  ∀ s, WF c s → acl (h s) = (instrAccesses c.BYTE_WIDTH v mn mo (core s)).reverse ++ acl s

theorem HandlerExact.toAcc {c : Cfg} {v : Variant} {h : St → St} {mn : Mn} {mo : Mode}
    (hh : HandlerExact c v h mn mo) : HandlerAcc c v h mn mo :=
  fun s hs => ⟨_, hh s hs, List.Perm.refl _⟩

/-- `step()` logs the opcode fetch, then what its handler logs on the state after that fetch. -/
theorem step_acl (c : Cfg) (t : Tbl) (s : St) (L : List Acc)
    (h : acl (t.instruct (s.mem s.pc) (afterFetch c t s)) = L.reverse ++ acl (afterFetch c t s)) :
    acl (Mpu6502.step c t s) = (Acc.r s.pc :: L).reverse ++ acl s := by
  have e : acl (Mpu6502.step c t s) = acl (t.instruct (s.mem s.pc) (afterFetch c t s)) := rfl
  rw [e, h]
  simp [acl, afterFetch, accOf]

/-! The data accesses of a load, store or read-modify-write instruction depend on the mnemonic only
through its class, so one representative of each class is compared with the mode helper's trace. -/

theorem dataAccesses_read (W : Nat) (v : Variant) {mn : Mn} (mo : Mode) (s : AState)
    (hmn : mn.isRead = true) : dataAccesses W v mn mo s = dataAccesses W v .LDA mo s := by
  cases mn <;> first | exact Bool.noConfusion hmn | rfl

theorem dataAccesses_store (W : Nat) (v : Variant) {mn : Mn} (mo : Mode) (s : AState)
    (hmn : mn.isStore = true) : dataAccesses W v mn mo s = dataAccesses W v .STA mo s := by
  cases mn <;> first | exact Bool.noConfusion hmn | rfl

theorem dataAccesses_rmw (W : Nat) (v : Variant) {mn : Mn} (mo : Mode) (s : AState)
    (hmn : mn.isRmw = true) : dataAccesses W v mn mo s = dataAccesses W v .ASL mo s := by
  cases mn <;> first | exact Bool.noConfusion hmn | rfl

theorem trace_read (W : Nat) (v : Variant) (mn : Mn) (mo : Mode) (s : AState)
    (hmn : mn.isRead = true) (hmo : Mode.isData mo = true) :
    modeTrace W mo s ++ [Acc.r (ea W mo s)] = instrAccesses W v mn mo s := by
  rw [instrAccesses, dataAccesses_read W v mo s hmn]
  cases mo <;> first | exact Bool.noConfusion hmo | rfl

theorem trace_store (W : Nat) (v : Variant) (mn : Mn) (mo : Mode) (s : AState)
    (hmn : mn.isStore = true) (hmo : Mode.isData mo = true) (hi : mo ≠ .imm) :
    modeTrace W mo s ++ [Acc.w (ea W mo s)] = instrAccesses W v mn mo s := by
  rw [instrAccesses, dataAccesses_store W v mo s hmn]
  cases mo <;> first | exact absurd rfl hi | exact Bool.noConfusion hmo | rfl

theorem trace_rmw (W : Nat) (v : Variant) (mn : Mn) (mo : Mode) (s : AState)
    (hmn : mn.isRmw = true) (hmo : Mode.isData mo = true) (hi : mo ≠ .imm) :
    modeTrace W mo s ++ [Acc.r (ea W mo s), Acc.w (ea W mo s)] = instrAccesses W v mn mo s := by
  rw [instrAccesses, dataAccesses_rmw W v mo s hmn]
  cases mo <;> first | exact absurd rfl hi | exact Bool.noConfusion hmo | rfl

/-- A handler made of a mode helper `x`, an operation helper `f` that appends `tail` at the effective
address, and the PC bump: it logs the mode helper's trace, then `tail`. -/
theorem data_exact (c : Cfg) (v : Variant) (f : St → St) (x : St → Int × St) (mn : Mn) (mo : Mode) (k : Int)
    (tail : Int → List Acc) (hx : ModeSem c x mo) (hl : ModeAcc c x mo)
    (hop : ∀ s, acl (f s) = (tail (x s).1).reverse ++ acl (x s).2)
    (htr : ∀ a, modeTrace c.BYTE_WIDTH mo a ++ tail (ea c.BYTE_WIDTH mo a) = instrAccesses c.BYTE_WIDTH v mn mo a) :
    HandlerExact c v (fun s => bump k (f s)) mn mo := by
  intro s hs
  have e : acl (bump k (f s)) = acl (f s) := rfl
  rw [← htr, e, hop, (hx s hs).1, hl s hs, List.reverse_append, List.append_assoc]

theorem read_acc (c : Cfg) (v : Variant) (f : St → St) (x : St → Int × St) (mn : Mn) (mo : Mode) (k : Int)
    (hmn : mn.isRead = true) (hmo : Mode.isData mo = true)
    (hx : ModeSem c x mo) (hl : ModeAcc c x mo)
    (hop : ∀ s, acl (f s) = Acc.r (x s).1 :: acl (x s).2) :
    HandlerAcc c v (fun s => bump k (f s)) mn mo :=
  (data_exact c v f x mn mo k (fun e => [.r e]) hx hl hop fun a => trace_read _ v mn mo a hmn hmo).toAcc

theorem store_acc (c : Cfg) (v : Variant) (f : St → St) (x : St → Int × St) (mn : Mn) (mo : Mode) (k : Int)
    (hmn : mn.isStore = true) (hmo : Mode.isData mo = true) (hi : mo ≠ .imm)
    (hx : ModeSem c x mo) (hl : ModeAcc c x mo)
    (hop : ∀ s, acl (f s) = Acc.w (x s).1 :: acl (x s).2) :
    HandlerAcc c v (fun s => bump k (f s)) mn mo :=
  (data_exact c v f x mn mo k (fun e => [.w e]) hx hl hop
    fun a => trace_store _ v mn mo a hmn hmo hi).toAcc

theorem RegOnly.acl {h : St → St} (hr : RegOnly h) (s : St) : acl (h s) = acl s :=
  congrArg (List.map accOf) (hr s).1

/-- Instructions that touch no memory beyond their opcode. -/
theorem none_acc {c : Cfg} {v : Variant} {h : St → St} {mn : Mn} {mo : Mode}
    (hlog : ∀ s, acl (h s) = acl s)
    (hspec : ∀ s, instrAccesses c.BYTE_WIDTH v mn mo s = []) : HandlerAcc c v h mn mo := by
  intro s _
  exact ⟨[], by simp [hlog], by rw [hspec]⟩

set_option hygiene false in
macro "op_acl" "[" ls:Lean.Parser.Tactic.simpLemma,* "]" : tactic =>
  `(tactic| (
    intro s
    dsimp +instances only [$ls,*, Mpu6502.FlagsNZ, Mpu6502.ByteAt, memGet, memSet, acl]
    simp +instances only [apply_ite Prod.snd, apply_ite Prod.fst, apply_ite St.log, ite_self,
      List.map_cons, accOf]))

variable (c : Cfg) (x : St → Int × St)

theorem opORA_acl : ∀ s, acl (Mpu6502.opORA c x s) = Acc.r (x s).1 :: acl (x s).2 := by op_acl [Mpu6502.opORA]
theorem opAND_acl : ∀ s, acl (Mpu6502.opAND c x s) = Acc.r (x s).1 :: acl (x s).2 := by op_acl [Mpu6502.opAND]
theorem opEOR_acl : ∀ s, acl (Mpu6502.opEOR c x s) = Acc.r (x s).1 :: acl (x s).2 := by op_acl [Mpu6502.opEOR]
theorem opADC_acl : ∀ s, acl (Mpu6502.opADC c x s) = Acc.r (x s).1 :: acl (x s).2 := by op_acl [Mpu6502.opADC]
theorem opSBC_acl : ∀ s, acl (Mpu6502.opSBC c x s) = Acc.r (x s).1 :: acl (x s).2 := by op_acl [Mpu6502.opSBC]
theorem opLDA_acl : ∀ s, acl (Mpu6502.opLDA c x s) = Acc.r (x s).1 :: acl (x s).2 := by op_acl [Mpu6502.opLDA]
theorem opLDX_acl : ∀ s, acl (Mpu6502.opLDX c x s) = Acc.r (x s).1 :: acl (x s).2 := by op_acl [Mpu6502.opLDX]
theorem opLDY_acl : ∀ s, acl (Mpu6502.opLDY c x s) = Acc.r (x s).1 :: acl (x s).2 := by op_acl [Mpu6502.opLDY]
theorem opBIT_acl : ∀ s, acl (Mpu6502.opBIT c x s) = Acc.r (x s).1 :: acl (x s).2 := by op_acl [Mpu6502.opBIT]
theorem opCMPR_acl (r : St → Int) : ∀ s, acl (Mpu6502.opCMPR c x (r s) s) = Acc.r (x s).1 :: acl (x s).2 := by
  op_acl [Mpu6502.opCMPR]
theorem opSTA_acl : ∀ s, acl (Mpu6502.opSTA c x s) = Acc.w (x s).1 :: acl (x s).2 := by op_acl [Mpu6502.opSTA]
theorem opSTX_acl : ∀ s, acl (Mpu6502.opSTX c x s) = Acc.w (x s).1 :: acl (x s).2 := by op_acl [Mpu6502.opSTX]
theorem opSTY_acl : ∀ s, acl (Mpu6502.opSTY c x s) = Acc.w (x s).1 :: acl (x s).2 := by op_acl [Mpu6502.opSTY]
theorem opSTZ_acl : ∀ s, acl (Mpu65c02.opSTZ c x s) = Acc.w (x s).1 :: acl (x s).2 := by op_acl [Mpu65c02.opSTZ]
theorem opASL_mem_acl : ∀ s, acl (Mpu6502.opASL_mem c x s) = Acc.w (x s).1 :: Acc.r (x s).1 :: acl (x s).2 := by op_acl [Mpu6502.opASL_mem]
theorem opLSR_mem_acl : ∀ s, acl (Mpu6502.opLSR_mem c x s) = Acc.w (x s).1 :: Acc.r (x s).1 :: acl (x s).2 := by op_acl [Mpu6502.opLSR_mem]
theorem opROL_mem_acl : ∀ s, acl (Mpu6502.opROL_mem c x s) = Acc.w (x s).1 :: Acc.r (x s).1 :: acl (x s).2 := by op_acl [Mpu6502.opROL_mem]
theorem opROR_mem_acl : ∀ s, acl (Mpu6502.opROR_mem c x s) = Acc.w (x s).1 :: Acc.r (x s).1 :: acl (x s).2 := by op_acl [Mpu6502.opROR_mem]
theorem opINCR_mem_acl : ∀ s, acl (Mpu6502.opINCR_mem c x s) = Acc.w (x s).1 :: Acc.r (x s).1 :: acl (x s).2 := by op_acl [Mpu6502.opINCR_mem]
theorem opDECR_mem_acl : ∀ s, acl (Mpu6502.opDECR_mem c x s) = Acc.w (x s).1 :: Acc.r (x s).1 :: acl (x s).2 := by op_acl [Mpu6502.opDECR_mem]
theorem opTSB_acl : ∀ s, acl (Mpu65c02.opTSB c x s) = Acc.w (x s).1 :: Acc.r (x s).1 :: acl (x s).2 := by op_acl [Mpu65c02.opTSB]
theorem opTRB_acl : ∀ s, acl (Mpu65c02.opTRB c x s) = Acc.w (x s).1 :: Acc.r (x s).1 :: acl (x s).2 := by op_acl [Mpu65c02.opTRB]
theorem opRMB_acl (m : Int) : ∀ s, acl (Mpu65c02.opRMB c x m s) = Acc.w (x s).1 :: Acc.r (x s).1 :: acl (x s).2 := by op_acl [Mpu65c02.opRMB]
theorem opSMB_acl (m : Int) : ∀ s, acl (Mpu65c02.opSMB c x m s) = Acc.w (x s).1 :: Acc.r (x s).1 :: acl (x s).2 := by op_acl [Mpu65c02.opSMB]

theorem opASL_acc_acl : ∀ s, acl (Mpu6502.opASL_acc c s) = acl s := (opASL_acc_reg c).acl
theorem opLSR_acc_acl : ∀ s, acl (Mpu6502.opLSR_acc c s) = acl s := (opLSR_acc_reg c).acl
theorem opROL_acc_acl : ∀ s, acl (Mpu6502.opROL_acc c s) = acl s := (opROL_acc_reg c).acl
theorem opROR_acc_acl : ∀ s, acl (Mpu6502.opROR_acc c s) = acl s := (opROR_acc_reg c).acl
theorem opINCR_acc_acl : ∀ s, acl (Mpu6502.opINCR_acc c s) = acl s := (opINCR_acc_reg c).acl
theorem opDECR_acc_acl : ∀ s, acl (Mpu6502.opDECR_acc c s) = acl s := (opDECR_acc_reg c).acl

end Py65.Proofs
