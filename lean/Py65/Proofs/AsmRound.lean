/-
C08 helper lemmas: decode / encode are inverse on the documented tables (`spec_roundtrip`), the
operand text the disassembler prints is read back by `AddressParser.number` (`number_shown`), and
the two composed with `asm_text_*` and `asm_core_of_devOK` (`roundtrip_of_devOK`).
-/
import Py65.Proofs.AsmTables

namespace Py65.Proofs.Asm
open Py65.Model Py65.Model.PyStr Py65.Model.AddrParser Py65.Model.Asm Py65.Model.Disasm Py65.Proofs.Num
open Py65.Proofs.Fmt (pyIntL_fmtHexL)
open Py65.Spec (Mode Mn Variant decode)
open Py65.Spec.Asm (opcodeOf Shape Outcome Refusal Stmt encode encodeIn encodeAbs Documented disp isZp fits
  operandBytes mnText shapeOf operandValue instrBytes signed)

/-- What C08 allows as the result of re-assembling the instruction `op b1 b2`: the original bytes,
or -- for an absolute, absolute,X or absolute,Y operand below one page whose mnemonic has the
zero-page form -- that zero-page form. -/
def RoundTrip (v : Variant) (mn : Mn) (mo : Mode) (op b1 b2 : Int) (r : List Int) : Prop :=
  r = instrBytes mo op b1 b2 ∨
  ∃ zp opz, zpTwin mo = some zp ∧ b2 = 0 ∧ opcodeOf v (mnText mn) zp = some opz ∧ r = [(opz : Int), b1]

theorem disp_signed {W : Nat} (hW : W = 8 ∨ W = 16) (pc b1 : Int) (hb1 : 0 ≤ b1 ∧ b1 < 2 ^ W) :
    disp W ((pc + 2 + signed W b1) % 2 ^ (2 * W)) pc = signed W b1 := by
  unfold disp signed
  rcases hW with rfl | rfl
  · norm_num at hb1 ⊢
    split_ifs <;> omega
  · norm_num at hb1 ⊢
    split_ifs <;> omega

theorem signed_spec {W : Nat} (hW : W = 8 ∨ W = 16) {b : Int} (hb : 0 ≤ b ∧ b < 2 ^ W) :
    -(2 ^ (W - 1)) ≤ signed W b ∧ signed W b < 2 ^ (W - 1) ∧ signed W b % 2 ^ W = b := by
  unfold signed
  rcases hW with rfl | rfl
  · norm_num at hb ⊢; split_ifs <;> omega
  · norm_num at hb ⊢; split_ifs <;> omega

theorem instrBytes_eq (mo : Mode) (op b1 b2 : Int) :
    instrBytes mo op b1 b2 = op :: ([b1, b2] : List Int).take (mo.len.toNat - 1) := by
  cases mo <;> rfl

/-- The value that the operand bytes `b1 b2` of an instruction of mode `mo` denote is one the shape
of `mo` expresses, it fits the operand field of `mo`, and its operand bytes are `b1 b2` again. -/
theorem operandValue_spec {W : Nat} (hW : W = 8 ∨ W = 16) (mo : Mode) (pc b1 b2 : Int)
    (hb1 : 0 ≤ b1 ∧ b1 < 2 ^ W) (hb2 : 0 ≤ b2 ∧ b2 < 2 ^ W) :
    Shape.inRange W (shapeOf mo) (operandValue W mo pc b1 b2) = true ∧
    fits W mo (operandValue W mo pc b1 b2) = true ∧
    operandBytes W mo (operandValue W mo pc b1 b2) pc = some (([b1, b2] : List Int).take (mo.len.toNat - 1)) := by
  obtain ⟨hw, hlo, hhi, _⟩ := word_spec hW hb1 hb2
  have hb1w := byte_lt_addr hW hb1.2
  cases mo
  case rel =>
    have hd := disp_signed hW pc b1 hb1
    obtain ⟨r1, r2, r3⟩ := signed_spec hW hb1
    have hm0 := Int.emod_nonneg (pc + 2 + signed W b1) (show (2 : Int) ^ (2 * W) ≠ 0 by positivity)
    have hm1 := Int.emod_lt_of_pos (pc + 2 + signed W b1) (show (0 : Int) < 2 ^ (2 * W) by positivity)
    simp [shapeOf, Shape.inRange, operandValue, fits, isZp, operandBytes, Mode.len, hm0, hm1, hd, r1, r2, r3]
  all_goals
    simp [shapeOf, Shape.inRange, operandValue, fits, isZp, operandBytes, Mode.len, hb1, hb1w, hw, hlo, hhi]

/-- decode / encode are inverse: the documented encoding of the statement that the bytes
`op b1 b2` at `pc` denote is those bytes again, or their zero-page twin. -/
theorem spec_roundtrip (v : Variant) {W : Nat} (hW : W = 8 ∨ W = 16) (n : Nat) (hn : n < 256)
    (mn : Mn) (mo : Mode) (hdec : decode v (n : Int) = some (mn, mo)) (pc b1 b2 : Int)
    (hb1 : 0 ≤ b1 ∧ b1 < 2 ^ W) (hb2 : 0 ≤ b2 ∧ b2 < 2 ^ W) (hpc : pc + mo.len ≤ 2 ^ (2 * W)) :
    ∃ r, encode v W ⟨mnText mn, shapeOf mo, operandValue W mo pc b1 b2⟩ pc = .ok r ∧
      RoundTrip v mn mo n b1 b2 r := by
  obtain ⟨f1, _, _, fB⟩ := row_facts v hn hdec
  obtain ⟨hin, hfit, hops⟩ := operandValue_spec hW mo pc b1 b2 hb1 hb2
  obtain ⟨rest, hmodes⟩ := modes_shapeOf mo
  simp only [encode, hin, if_true, hmodes]
  by_cases htw : ∃ zp opz, zpTwin mo = some zp ∧ b2 = 0 ∧ opcodeOf v (mnText mn) zp = some opz
  · -- the zero-page twin is declared and takes the operand
    obtain ⟨zp, opz, hz, rfl, hoz⟩ := htw
    refine ⟨[(opz : Int), b1], ?_, Or.inr ⟨zp, opz, hz, rfl, hoz, rfl⟩⟩
    cases mo <;> cases hz
    all_goals
      have hnot : ¬ pc + 2 > 2 ^ (2 * W) := by simp only [Mode.len] at hpc; omega
      simp only [operandValue, Int.zero_mul, Int.add_zero, before, List.cons_append, List.nil_append]
      refine (encodeIn_pick [] _ _ opz (fun _ h => nomatch h) hoz (by simp [fits, isZp, hb1.2])).trans ?_
      simp [operandBytes, Mode.len, hnot]
  · refine ⟨instrBytes mo n b1 b2, ?_, Or.inl rfl⟩
    have hskip : ∀ p ∈ before mo,
        opcodeOf v (mnText mn) p = none ∨ fits W p (operandValue W mo pc b1 b2) = false := by
      intro p hp
      rcases fB p hp with ht | hnone
      · -- the twin: not declared, or the high byte is not zero
        cases hoz : opcodeOf v (mnText mn) p with
        | none => exact Or.inl rfl
        | some opz =>
          have hge := (word_spec hW hb1 hb2).2.2.2 fun e => htw ⟨p, opz, ht, e, hoz⟩
          right
          cases mo <;> cases ht <;> simp [fits, isZp, operandValue, hge]
      · exact Or.inl hnone
    have hnot : ¬ pc + mo.len > 2 ^ (2 * W) := by omega
    rw [encodeIn_pick (before mo) mo rest n hskip f1 hfit]
    simp only [hops, instrBytes_eq, if_neg hnot]

section round
variable {d : Dev} {v : Variant} {W : Nat}

/-- Label tables the round trip is claimed for: parser of the device's address width, in-range
values, and every label that `label_for` can return is an identifier-like word (no blank, comma or
parenthesis, not `A`/`a`, not starting with `# ( $ + %`) that `address_for` maps back to the
address. -/
structure GoodLabels (P : Parser) (W : Nat) : Prop where
  width : P.width = 2 * W
  wf : P.WF
  ident : ∀ a l, labelFor P a = some l → AddrWord l ∧ NoPrefix l ∧ lookup P.labels l = some a

/-- `AddressParser.number` reads `$` followed by `"%0kx" % n` back as `n`. -/
theorem numberL_dollar_hex (P : Parser) (k n : Nat) (hn : (n : Int) ≤ P.maxaddr) :
    numberL P ('$' :: fmtHexL k n) = .ok (n : Int) := by
  rw [(numberL_prefix P _).1, pyIntL_fmtHexL]
  exact constrain_in (Int.natCast_nonneg n) hn

theorem numberL_dollar_fmt {P : Parser} (hPw : P.width = 2 * W) (k : Nat) (a : Int)
    (ha : 0 ≤ a ∧ a < 2 ^ (2 * W)) : numberL P ('$' :: fmtHexL k a.toNat) = .ok a := by
  have hcast : ((a.toNat : Nat) : Int) = a := Int.toNat_of_nonneg ha.1
  have := numberL_dollar_hex P k a.toNat (by rw [hcast, maxaddr_eq P hPw]; omega)
  rwa [hcast] at this

/-- The operand text the disassembler shows for the address `a` is an operand word that
`AddressParser.number` values at `a` again -- as `$hex` and as a label. -/
theorem number_shown {P : Parser} (hg : GoodLabels P W) (k : Nat) (a : Int) (ha : 0 ≤ a ∧ a < 2 ^ (2 * W)) :
    AddrWord (shown P k a) ∧ numberL P (shown P k a) = .ok a := by
  unfold shown
  cases hl : labelFor P a with
  | some l =>
    obtain ⟨h1, h2, h3⟩ := hg.ident a l hl
    exact ⟨h1, numberL_label P h2 h3⟩
  | none =>
    exact ⟨⟨by simp, target_cons (by decide) (fmtHexL_target _ _), by simp, by simp, by simp, by simp⟩,
      numberL_dollar_fmt hg.width k a ha⟩

theorem afterOf_ok (sh : Shape) :
    (∀ c, (afterOf sh).head? = some c → isTargetChar c = false) ∧ inAfter (afterOf sh) = true ∧
    upperS (removeWs (afterOf sh)) = afterOf sh := by
  obtain ⟨hnb, hin, hhd⟩ := afterOf_facts sh (afterOf sh) (afterOf_upper sh)
  exact ⟨hhd, hin, by rw [removeWs_noBlank _ hnb, afterOf_upper]⟩

/-- re-assembling `MNE <lead><shown address><after>` -/
theorem reasm_addr (h : DevOK d v W) {P : Parser} (hg : GoodLabels P W) (M : Str) (hM : IsMnem M)
    (hMu : upperS M = M) (sh : Shape) (hsh : Shape.isAddr sh = true) (k : Nat) (a : Int)
    (ha : 0 ≤ a ∧ a < 2 ^ (2 * W)) (pc : Int) :
    assembleL d P (M ++ ' ' :: (leadOf sh ++ (shown P k a ++ afterOf sh))) pc =
      toARes (encode v W ⟨M, sh, a⟩ pc) := by
  obtain ⟨hw, hn⟩ := number_shown hg k a ha
  obtain ⟨a1, a2, a3⟩ := afterOf_ok sh
  have := asm_text_addr h P hg.width hg.wf sh hsh [] M [' '] [] (shown P k a) (afterOf sh) [] pc
    blank_nil blank_sp (by simp) blank_nil blank_nil hM hw a1 a2 a3
  simp only [List.nil_append, List.append_nil, List.singleton_append, hn, hMu] at this
  rw [this, asm_core_of_devOK h]

/-- re-assembling `MNE #$hh` -/
theorem reasm_imm (h : DevOK d v W) {P : Parser} (hg : GoodLabels P W) (M : Str) (hM : IsMnem M)
    (hMu : upperS M = M) (b : Int) (hb : 0 ≤ b ∧ b < 2 ^ W) (pc : Int) :
    assembleL d P (M ++ ' ' :: '#' :: '$' :: fmtHexL (W / 4) b.toNat) pc =
      toARes (encode v W ⟨M, .imm, b⟩ pc) := by
  have hn := numberL_dollar_fmt hg.width (W / 4) b ⟨hb.1, byte_lt_addr h.hW hb.2⟩
  have := asm_text_imm h P [] M [' '] ('$' :: fmtHexL (W / 4) b.toNat) [] pc blank_nil blank_sp (by simp)
    blank_nil hM (by simp) (target_cons (by decide) (fmtHexL_target _ _)) (by simp)
  simp only [List.nil_append, List.append_nil, hn, hMu, List.cons_append] at this
  rw [this, asm_core_of_devOK h]

theorem relTarget_eq (h : DevOK d v W) (pc b : Int) (hb : 0 ≤ b ∧ b < 2 ^ W) :
    relTarget d pc b = (pc + 2 + signed W b) % 2 ^ (2 * W) := by
  unfold relTarget Dev.addrMask Dev.byteMask signed
  rw [h.bw, h.aw]
  simp only [Py.shl, Int.one_mul, Py.land_mask, Py.land_two_pow]
  rcases h.hW with rfl | rfl
  · have hx := Py.lxor_mask b 8 hb.1 hb.2
    norm_num at hx hb ⊢
    rw [hx]
    split_ifs <;> omega
  · have hx := Py.lxor_mask b 16 hb.1 hb.2
    norm_num at hx hb ⊢
    rw [hx]
    split_ifs <;> omega

/-- `ByteAt` on a memory that spans the address space: the cell at the address modulo `2^AW`. -/
theorem byteAt_eq (h : DevOK d v W) (mem : Int → Int) (a : Int) : byteAt d mem a = mem (a % 2 ^ (2 * W)) := by
  unfold byteAt Dev.addrMask
  rw [h.aw]
  simp only [Py.shl, Int.one_mul, Py.land_mask]

theorem wordAt_eq (h : DevOK d v W) (mem : Int → Int) (a : Int) :
    wordAt d mem a = byteAt d mem a + byteAt d mem (a + 1) * 2 ^ W := by
  unfold wordAt byteAt Dev.addrMask
  rw [h.aw, h.bw]
  simp only [Py.shl, Int.one_mul, Py.land_mask, Int.emod_emod_of_dvd _ (dvd_refl _)]

/-- the disassembly of a mode with an address operand: mnemonic, blank, and the shown operand value
between the literal text of the shape -/
theorem disText_addr (h : DevOK d v W) (P : Parser) (M : Str) (mo : Mode)
    (hsh : Shape.isAddr (shapeOf mo) = true) (pc b1 b2 : Int) (hb1 : 0 ≤ b1 ∧ b1 < 2 ^ W) :
    disText d P W M mo pc b1 (b1 + b2 * 2 ^ W) =
      M ++ ' ' :: (leadOf (shapeOf mo) ++
        (shown P (if isZp mo then W / 4 else W / 2) (operandValue W mo pc b1 b2) ++ afterOf (shapeOf mo))) := by
  cases mo
  case imp | acc | imm => cases hsh
  all_goals simp [disText, shapeOf, operandValue, leadOf, afterOf, isZp, relTarget_eq h pc b1 hb1]

/-- C08, generic device: the text the disassembler produces for a declared opcode at `pc` (with
any label table of identifier-like names) re-assembles at `pc` to the original bytes or their
zero-page twin. -/
theorem roundtrip_of_devOK (h : DevOK d v W) {P : Parser} (hg : GoodLabels P W) (mem : Int → Int) (pc : Int)
    (n : Nat) (hn : n < 256) (hop : byteAt d mem pc = (n : Int)) (mn : Mn) (mo : Mode)
    (hdec : decode v (n : Int) = some (mn, mo))
    (hb1 : 0 ≤ byteAt d mem (pc + 1) ∧ byteAt d mem (pc + 1) < 2 ^ W)
    (hb2 : 0 ≤ byteAt d mem (pc + 2) ∧ byteAt d mem (pc + 2) < 2 ^ W)
    (hfit : pc + mo.len ≤ 2 ^ (2 * W)) :
    ∃ text r, instructionAt d P mem pc = .ok mo.len.toNat text ∧ assembleL d P text pc = .ok r ∧
      RoundTrip v mn mo n (byteAt d mem (pc + 1)) (byteAt d mem (pc + 2)) r := by
  have hopr : 0 ≤ byteAt d mem pc ∧ byteAt d mem pc < 256 := by rw [hop]; omega
  obtain ⟨_, fM, fU, _⟩ := row_facts v hn hdec
  have hM := isMnemB_sound fM
  obtain ⟨r, henc, hrt⟩ := spec_roundtrip v h.hW n hn mn mo hdec pc _ _ hb1 hb2 hfit
  refine ⟨disText d P W (mnText mn) mo pc (byteAt d mem (pc + 1)) (wordAt d mem (pc + 1)), r, ?_, ?_, hrt⟩
  · rw [dis_spec h P mem pc hopr, hop, hdec]
  · set b1 := byteAt d mem (pc + 1) with hb1d
    set b2 := byteAt d mem (pc + 2) with hb2d
    have hw : wordAt d mem (pc + 1) = b1 + b2 * 2 ^ W := by
      have e : pc + 1 + 1 = pc + 2 := by omega
      rw [wordAt_eq h, e]
    have hgoal : ARes.ok r = toARes (encode v W ⟨mnText mn, shapeOf mo, operandValue W mo pc b1 b2⟩ pc) := by
      rw [henc]; rfl
    rw [hgoal, hw]
    clear hgoal henc hrt
    by_cases hsh : Shape.isAddr (shapeOf mo) = true
    · have hin := (operandValue_spec h.hW mo pc b1 b2 hb1 hb2).1
      rw [inRange_addr hsh] at hin
      rw [disText_addr h P (mnText mn) mo hsh pc b1 b2 hb1]
      exact reasm_addr h hg _ hM fU _ hsh _ _ hin pc
    · cases mo
      case imp =>
        have := asm_text_none (d := d) P [] (mnText mn) [] pc blank_nil blank_nil hM
        simp only [List.nil_append, List.append_nil, fU] at this
        simp only [disText, this, asm_core_of_devOK h, shapeOf, operandValue]
      case acc =>
        have := asm_text_acc (d := d) P [] (mnText mn) [' '] [] 'A' pc blank_nil blank_sp (by simp) blank_nil hM
          (Or.inl rfl)
        simp only [List.nil_append, List.singleton_append, fU] at this
        have e : disText d P W (mnText mn) .acc pc b1 (b1 + b2 * 2 ^ W) = mnText mn ++ ' ' :: ['A'] := rfl
        rw [e, this, asm_core_of_devOK h]
        rfl
      case imm =>
        simp only [disText, shapeOf, operandValue]
        exact reasm_imm h hg _ hM fU b1 hb1 pc
      all_goals exact absurd rfl hsh

theorem lookup_of_mem_nodup (L : Labels) (l : Str) (a : Int) (hmem : (l, a) ∈ L)
    (hnd : (L.map Prod.fst).Nodup) : lookup L l = some a := by
  induction L with
  | nil => cases hmem
  | cons kv L ih =>
    obtain ⟨k, x⟩ := kv
    simp only [List.map_cons, List.nodup_cons] at hnd
    simp only [List.mem_cons, Prod.mk.injEq] at hmem
    rcases hmem with ⟨rfl, rfl⟩ | hmem
    · simp [lookup]
    · have hne : k ≠ l := by
        intro e
        subst e
        exact hnd.1 (List.mem_map.mpr ⟨(k, a), hmem, rfl⟩)
      simp only [lookup, hne, if_false]
      exact ih hmem hnd.2

/-- `GoodLabels` from what the monitor guarantees (dictionary: unique names; values constrained)
and the claim's restriction to identifier-like names. -/
theorem goodLabels_of {P : Parser} {W : Nat} (hw : P.width = 2 * W) (hwf : P.WF)
    (hnd : (P.labels.map Prod.fst).Nodup)
    (hid : ∀ kv ∈ P.labels, AddrWord kv.1 ∧ NoPrefix kv.1) : GoodLabels P W := by
  refine ⟨hw, hwf, ?_⟩
  intro a l hl
  unfold labelFor at hl
  cases hf : P.labels.find? (fun kv => kv.2 == a) with
  | none => rw [hf] at hl; cases hl
  | some kv =>
    rw [hf] at hl
    cases hl
    have hmem := List.mem_of_find?_eq_some hf
    have hv : kv.2 = a := by
      have := List.find?_some hf
      simpa using this
    obtain ⟨k, x⟩ := kv
    simp only at hv
    subst hv
    exact ⟨(hid _ hmem).1, (hid _ hmem).2, lookup_of_mem_nodup _ _ _ hmem hnd⟩

end round

end Py65.Proofs.Asm
