/-
Lemmas for the FULL "never mis-assembles" theorem of C07 (`Py65.Props.C07.asm_sound`): the inversion of
`normalize_and_split` -- the `Statement` scanner (inverted in AsmText), `before.split(" ", 1)`, the `target`
rewriting and the fall-back `statement.split(" ", 1)` -- against the documented token syntax
`Spec.Asm.parse`.
-/
import Py65.Proofs.AsmTables

namespace Py65.Proofs.Asm
open Py65.Model Py65.Model.PyStr Py65.Model.AddrParser Py65.Model.Asm Py65.Proofs.Num
open Py65.Spec (Mode Mn Variant decode)
open Py65.Spec.Asm (opcodeOf Shape Outcome Refusal Stmt encode encodeIn encodeAbs Documented mnText
  Tok tokens tokensAux parseOperand parse isBlank litOpen charLit isX isY isA fits isZp operandBytes)

/-- the Spec's white space is the white space of `str.split()` / `\s` -/
theorem isBlank_eq (c : Char) : isBlank c = isReSpace c := rfl

theorem spec_upperS_eq (s : Str) : Py65.Spec.Asm.upperS s = upperS s := rfl

def flush (cur : Str) : List Tok := if cur = [] then [] else [.word cur.reverse]

@[simp] theorem flush_nil : flush [] = [] := rfl
theorem flush_ne {cur : Str} (h : cur ≠ []) : flush cur = [.word cur.reverse] := by simp [flush, h]

theorem tokensAux_nil (cur : Str) : tokensAux [] cur = flush cur := rfl

theorem tokensAux_cons (c : Char) (cs cur : Str) :
    tokensAux (c :: cs) cur =
      if isBlank c then flush cur ++ tokensAux cs []
      else if litOpen cur then tokensAux cs (c :: cur)
      else if c = '(' then flush cur ++ .lparen :: tokensAux cs []
      else if c = ')' then flush cur ++ .rparen :: tokensAux cs []
      else if c = ',' then flush cur ++ .comma :: tokensAux cs []
      else tokensAux cs (c :: cur) := rfl

theorem tokensAux_blank {c : Char} (h : isReSpace c = true) (cs cur : Str) :
    tokensAux (c :: cs) cur = flush cur ++ tokensAux cs [] := by
  rw [tokensAux_cons, isBlank_eq, h, if_pos rfl]

theorem tokensAux_plain {c : Char} (h : Plain c) (cs cur : Str) :
    tokensAux (c :: cs) cur = tokensAux cs (c :: cur) := by
  rw [tokensAux_cons, isBlank_eq, h.1]
  simp only [Bool.false_eq_true, if_false, h.2.1, h.2.2.1, h.2.2.2, ite_self]

theorem tokensAux_lit {c : Char} (hb : isReSpace c = false) (cs : Str) {cur : Str} (hl : litOpen cur = true) :
    tokensAux (c :: cs) cur = tokensAux cs (c :: cur) := by
  rw [tokensAux_cons, isBlank_eq, hb]
  simp only [Bool.false_eq_true, if_false, hl, if_true]

theorem litOpen_nil : litOpen [] = false := rfl

theorem litOpen_length {cur : Str} (h : litOpen cur = true) : cur.length = 2 := by
  simp only [litOpen, Bool.or_eq_true, decide_eq_true_eq] at h
  rcases h with rfl | rfl <;> rfl

theorem litOpen_reverse {cur : Str} (h : litOpen cur = true) :
    cur.reverse = ['#', '\''] ∨ cur.reverse = ['#', '"'] := by
  simp only [litOpen, Bool.or_eq_true, decide_eq_true_eq] at h
  rcases h with rfl | rfl
  · left; rfl
  · right; rfl

theorem tokensAux_lparen (cs : Str) {cur : Str} (hl : litOpen cur = false) :
    tokensAux ('(' :: cs) cur = flush cur ++ .lparen :: tokensAux cs [] := by
  rw [tokensAux_cons, hl]
  have : isBlank '(' = false := by decide
  simp [this]

theorem tokensAux_rparen (cs : Str) {cur : Str} (hl : litOpen cur = false) :
    tokensAux (')' :: cs) cur = flush cur ++ .rparen :: tokensAux cs [] := by
  rw [tokensAux_cons, hl]
  have : isBlank ')' = false := by decide
  simp [this]

theorem tokensAux_comma (cs : Str) {cur : Str} (hl : litOpen cur = false) :
    tokensAux (',' :: cs) cur = flush cur ++ .comma :: tokensAux cs [] := by
  rw [tokensAux_cons, hl]
  have : isBlank ',' = false := by decide
  simp [this]

theorem tokensAux_plain_run (w rest cur : Str) (hw : ∀ c ∈ w, Plain c) :
    tokensAux (w ++ rest) cur = tokensAux rest (w.reverse ++ cur) := by
  induction w generalizing cur with
  | nil => rfl
  | cons c w ih =>
    rw [List.cons_append, tokensAux_plain (hw c (by simp)), ih _ (fun x hx => hw x (by simp [hx]))]
    simp

theorem tokensAux_blank_run (b rest : Str) (hb : Blank b) : tokensAux (b ++ rest) [] = tokensAux rest [] := by
  induction b with
  | nil => rfl
  | cons c b ih =>
    rw [List.cons_append, tokensAux_blank (hb c (by simp)), flush_nil, List.nil_append,
      ih (fun x hx => hb x (by simp [hx]))]

theorem tokensAux_all_blank (b : Str) (hb : Blank b) : tokensAux b [] = [] := by
  have := tokensAux_blank_run b [] hb
  rwa [List.append_nil] at this

/-- the word ends at the end of the text, at white space, at `,` and at `)` -/
theorem tokensAux_end (cur rest : Str) (hne : cur ≠ []) (hl : litOpen cur = false)
    (hr : ∀ c, rest.head? = some c → isTargetChar c = false) :
    tokensAux rest cur = .word cur.reverse :: tokensAux rest [] := by
  cases rest with
  | nil => simp [tokensAux_nil, flush_ne hne]
  | cons c r =>
    have hc := hr c rfl
    simp only [isTargetChar, Bool.not_eq_false', Bool.or_eq_true, decide_eq_true_eq] at hc
    rcases hc with (rfl | hc) | rfl
    · rw [tokensAux_comma r hl, tokensAux_comma r litOpen_nil, flush_ne hne]; rfl
    · rw [tokensAux_blank hc, tokensAux_blank hc, flush_ne hne]; rfl
    · rw [tokensAux_rparen r hl, tokensAux_rparen r litOpen_nil, flush_ne hne]; rfl

/-- `' '.join(s.split())` does not change the tokens -/
theorem tokensAux_nrm (u : Str) :
    (∀ cur, tokensAux (nrmAux false u) cur = tokensAux u cur) ∧
    (∀ cur, tokensAux (nrmAux true u) cur = flush cur ++ tokensAux u []) := by
  induction u with
  | nil =>
    refine ⟨fun cur => by rw [nrmAux_nil], fun cur => ?_⟩
    rw [nrmAux_nil, tokensAux_nil, tokensAux_nil, flush_nil, List.append_nil]
  | cons c u ih =>
    obtain ⟨ih1, ih2⟩ := ih
    by_cases hc : isReSpace c = true
    · constructor
      · intro cur
        simp only [nrmAux, hc, if_true]
        rw [ih2, tokensAux_blank hc]
      · intro cur
        simp only [nrmAux, hc, if_true]
        rw [ih2, tokensAux_blank hc, flush_nil, List.nil_append]
    · have hc' : isReSpace c = false := by simpa using hc
      have h1 : ∀ cur, tokensAux (c :: nrmAux false u) cur = tokensAux (c :: u) cur := by
        intro cur
        rw [tokensAux_cons, tokensAux_cons, isBlank_eq, hc']
        simp only [Bool.false_eq_true, if_false, ih1]
      constructor
      · intro cur
        simp only [nrmAux, hc', Bool.false_eq_true, if_false]
        exact h1 cur
      · intro cur
        simp only [nrmAux, hc', Bool.false_eq_true, if_false, if_true]
        rw [tokensAux_blank (c := ' ') (by decide), h1]

theorem tokens_dropWhile (s : Str) : tokensAux (s.dropWhile isReSpace) [] = tokensAux s [] := by
  induction s with
  | nil => rfl
  | cons c s ih =>
    by_cases hc : isReSpace c = true
    · rw [List.dropWhile_cons_of_pos hc, ih, tokensAux_blank hc, flush_nil, List.nil_append]
    · rw [List.dropWhile_cons_of_neg hc]

theorem tokens_normWs (s : Str) : tokens (normWs s) = tokens s := by
  unfold tokens
  rw [normWs_eq, (tokensAux_nrm _).1, tokens_dropWhile]

theorem parse_normWs (s : Str) : parse (normWs s) = parse s := by
  unfold parse
  rw [tokens_normWs]

def isDel (c : Char) : Bool := c = ',' || c = ')'

/-- no two neighbouring characters are both non-delimiters: without white space the text has the
same tokens -/
def sparse : Str → Bool
  | c :: d :: r => (isDel c || isDel d) && sparse (d :: r)
  | _ => true

theorem sparse_tail {c : Char} {r : Str} (h : sparse (c :: r) = true) : sparse r = true := by
  cases r with
  | nil => rfl
  | cons d r =>
    simp only [sparse, Bool.and_eq_true] at h
    exact h.2

theorem isDel_not_target {c : Char} (h : isDel c = true) : isTargetChar c = false := by
  simp only [isDel, Bool.or_eq_true, decide_eq_true_eq] at h
  rcases h with rfl | rfl <;> decide

theorem plain_of {c : Char} (h1 : isReSpace c = false) (h2 : c ≠ '(') (h3 : isDel c = false) : Plain c := by
  simp only [isDel, Bool.or_eq_false_iff, decide_eq_false_iff_not] at h3
  exact ⟨h1, h2, h3.2, h3.1⟩

/-- In a text without `(` whose non-blank characters are "sparse", white space does not matter for
the tokens.  (`cur`: nothing, or one character that is followed by a delimiter or the end.) -/
theorem tokensAux_removeWs (u : Str) (hno : ∀ c ∈ removeWs u, c ≠ '(') (hsp : sparse (removeWs u) = true) :
    ∀ cur, (cur = [] ∨ (cur.length = 1 ∧ ∀ c, (removeWs u).head? = some c → isDel c = true)) →
      tokensAux u cur = tokensAux (removeWs u) cur := by
  induction u with
  | nil => intro cur _; rfl
  | cons c u ih =>
    intro cur hcur
    have hlo : litOpen cur = false := by
      cases hl : litOpen cur with
      | false => rfl
      | true =>
        have := litOpen_length hl
        rcases hcur with rfl | ⟨h1, _⟩
        · cases this
        · omega
    by_cases hc : isReSpace c = true
    · rw [removeWs_cons_blank u hc] at hno hsp hcur ⊢
      rw [tokensAux_blank hc, ih hno hsp [] (Or.inl rfl)]
      rcases hcur with rfl | ⟨h1, h2⟩
      · rfl
      · have hne : cur ≠ [] := by intro e; rw [e] at h1; cases h1
        rw [tokensAux_end cur (removeWs u) hne hlo (fun x hx => isDel_not_target (h2 x hx)), flush_ne hne]
        rfl
    · have hc' : isReSpace c = false := by simpa using hc
      rw [removeWs_cons_word u hc'] at hno hsp hcur ⊢
      have hno' : ∀ x ∈ removeWs u, x ≠ '(' := fun x hx => hno x (by simp [hx])
      have hsp' := sparse_tail hsp
      have hcp : c ≠ '(' := hno c (by simp)
      by_cases hd : isDel c = true
      · have ih0 := ih hno' hsp' [] (Or.inl rfl)
        simp only [isDel, Bool.or_eq_true, decide_eq_true_eq] at hd
        rcases hd with rfl | rfl
        · rw [tokensAux_comma _ hlo, tokensAux_comma _ hlo, ih0]
        · rw [tokensAux_rparen _ hlo, tokensAux_rparen _ hlo, ih0]
      · have hd' : isDel c = false := by simpa using hd
        have hpl := plain_of hc' hcp hd'
        have hcur0 : cur = [] := by
          rcases hcur with rfl | ⟨_, h2⟩
          · rfl
          · have := h2 c rfl
            rw [hd'] at this; cases this
        subst hcur0
        rw [tokensAux_plain hpl, tokensAux_plain hpl]
        apply ih hno' hsp' [c]
        right
        refine ⟨rfl, ?_⟩
        intro x hx
        cases hr : removeWs u with
        | nil => rw [hr] at hx; cases hx
        | cons y r =>
          rw [hr] at hx hsp
          simp only [List.head?_cons, Option.some.injEq] at hx
          subst hx
          simp only [sparse, Bool.and_eq_true, Bool.or_eq_true, hd', Bool.false_eq_true, false_or] at hsp
          exact hsp.1

/-- No label name contains `(`.  (The `Statement` scanner lets `(` into the operand word; a label
named `a(b` would make `LDA a(b` assemble although its tokens `a ( b` denote nothing.) -/
def LabelsNoParen (P : Parser) : Prop := ∀ kv ∈ P.labels, '(' ∉ kv.1

instance (P : Parser) : Decidable (LabelsNoParen P) := by unfold LabelsNoParen; infer_instance

theorem pyIntL_lparen (s : Str) (b : Nat) (h : '(' ∈ s) : pyIntL s b = none := by
  cases hv : pyIntL s b with
  | none => rfl
  | some v => exact absurd (pyIntL_chars hv '(' h) (by decide)

theorem ofInt_ok_some {P : Parser} {o : Option Int} {n : Int} (h : ofInt P o = .ok n) : o ≠ none := by
  intro e; rw [e] at h; cases h

theorem numberL_no_lparen (P : Parser) (hlab : LabelsNoParen P) (t : Str) (n : Int)
    (h : numberL P t = .ok n) : '(' ∉ t := by
  intro hmem
  unfold numberL at h
  rw [numberF_succ] at h
  have hdrop : ∀ c, startsWithChar t c = true → c ≠ '(' → '(' ∈ t.drop 1 := by
    intro c hc hne
    cases t with
    | nil => cases hmem
    | cons y r =>
      obtain rfl : y = c := by simpa [startsWithChar] using hc
      simpa [hne.symm] using hmem
  split_ifs at h with h1 h2 h3
  · exact ofInt_ok_some h (pyIntL_lparen _ _ (hdrop _ h1 (by decide)))
  · exact ofInt_ok_some h (pyIntL_lparen _ _ (hdrop _ h2 (by decide)))
  · exact ofInt_ok_some h (pyIntL_lparen _ _ (hdrop _ h3 (by decide)))
  split at h
  · exact hlab _ (mem_of_lookup ‹_›) hmem
  split at h
  · rename_i label sign offset hmo
    split at h
    · cases h
    rename_i base hlb
    -- `(` is not in the label and cannot be a blank, the sign, the prefix, a digit or the newline
    obtain ⟨ws1, ws2, tail, rfl, hw1, hw2, htail, hsg, pre, ds, rfl, hpre, _, hdc⟩ := matchOffset_split hmo
    simp only [List.mem_append, List.mem_cons] at hmem
    rcases hmem with e | e | rfl | e | (e | e) | e
    · exact hlab _ (mem_of_lookup hlb) e
    · exact absurd (hw1 _ e) (by decide)
    · exact absurd hsg (by decide)
    · exact absurd (hw2 _ e) (by decide)
    · rcases hpre with rfl | ⟨p, rfl, hp⟩
      · cases e
      · exact absurd (List.mem_singleton.mp e ▸ hp) (by decide)
    · exact absurd (hdc _ e) (by decide)
    · rcases htail with rfl | rfl <;> simp at e
  · exact ofInt_ok_some h (pyIntL_lparen _ _ hmem)

/-- The value of the operand word `w` of a statement of shape `sh`: nothing to value for `none` / `A`;
a character literal `'c'` is `ord(c)`; everything else is `AddressParser.number`. -/
def value (P : Parser) : Shape → Str → Res
  | .none, _ => .ok 0
  | .acc, _ => .ok 0
  | .imm, w =>
    match charLit w with
    | some c => .ok (c.toNat : Int)
    | none => numberL P w
  | _, w => numberL P w

theorem isAz_of_upper {c : Char} (h : isAz (upper c) = true) : isAz c = true := by
  rcases upper_cases c with e | ⟨h1, h2, _⟩
  · rwa [e] at h
  · simp only [isAz, Bool.and_eq_true, decide_eq_true_eq]; omega

theorem isOct_of_upper {c : Char} (h : isOct (upper c) = true) : isOct c = true := by
  rcases upper_cases c with e | ⟨h1, h2, h3⟩
  · rwa [e] at h
  · simp only [isOct, Bool.and_eq_true, decide_eq_true_eq] at h; omega

theorem isMnem_of_upper {M : Str} (h : isMnemB (upperS M) = true) : IsMnem M := by
  rcases M with _ | ⟨a, _ | ⟨b, _ | ⟨c, _ | ⟨e, _ | ⟨f, r⟩⟩⟩⟩⟩ <;>
    simp only [upperS, List.map_cons, List.map_nil, isMnemB, Bool.and_eq_true, Bool.false_eq_true] at h
  · exact ⟨a, b, c, [], rfl, isAz_of_upper h.1.1, isAz_of_upper h.1.2, isAz_of_upper h.2, Or.inl rfl⟩
  · exact ⟨a, b, c, [e], rfl, isAz_of_upper h.1.1.1, isAz_of_upper h.1.1.2, isAz_of_upper h.1.2,
      Or.inr ⟨e, rfl, isOct_of_upper h.2⟩⟩

theorem opcodeOf_row {v : Variant} {m : Str} {mo : Mode} {op : Nat} (h : opcodeOf v m mo = some op) :
    op < 256 ∧ ∃ mn, decode v (op : Int) = some (mn, mo) ∧ mnText mn = m := by
  unfold opcodeOf at h
  simp only at h
  split_ifs at h with hlt
  cases h
  refine ⟨hlt, ?_⟩
  have hlt' : List.findIdx (Py65.Spec.Asm.rowIs v m mo) (List.range 256) < (List.range 256).length := by
    simpa using hlt
  have := List.findIdx_getElem (w := hlt')
  simp only [List.getElem_range, Py65.Spec.Asm.rowIs] at this
  cases hd : decode v ((List.findIdx (Py65.Spec.Asm.rowIs v m mo) (List.range 256) : Nat) : Int) with
  | none => rw [hd] at this; simp [Py65.Spec.Asm.isRow] at this
  | some r =>
    obtain ⟨mn, mo'⟩ := r
    rw [hd] at this
    simp only [Py65.Spec.Asm.isRow, Bool.and_eq_true, decide_eq_true_eq] at this
    exact ⟨mn, by rw [this.2], this.1⟩

theorem encodeIn_ok_opcode {v : Variant} {W : Nat} {m : Str} {x pc : Int} {bs : List Int} (modes : List Mode)
    (h : encodeIn v W m x pc modes = .ok bs) : ∃ mo op, opcodeOf v m mo = some op := by
  induction modes with
  | nil => simp [encodeIn] at h
  | cons mo rest ih =>
    cases ho : opcodeOf v m mo with
    | some op => exact ⟨mo, op, ho⟩
    | none =>
      rw [encodeIn, ho] at h
      exact ih h

/-- bytes are documented only for a mnemonic of the documented table: three `[A-z]` characters and
an optional digit -/
theorem encode_ok_mnem {v : Variant} {W : Nat} {m : Str} {sh : Shape} {x pc : Int} {bs : List Int}
    (h : encode v W ⟨m, sh, x⟩ pc = .ok bs) : isMnemB m = true := by
  unfold encode at h
  simp only at h
  split_ifs at h
  obtain ⟨mo, op, ho⟩ := encodeIn_ok_opcode _ h
  obtain ⟨hlt, mn, hd, hm⟩ := opcodeOf_row ho
  rw [← hm]
  exact (row_facts v hlt hd).2.1

theorem encode_none_val (v : Variant) (W : Nat) (m : Str) (x pc : Int) :
    encode v W ⟨m, .none, x⟩ pc = encode v W ⟨m, .none, 0⟩ pc := by
  simp [encode, Shape.inRange, Shape.modes, encodeIn, fits, isZp, operandBytes]

theorem encode_acc_val (v : Variant) (W : Nat) (m : Str) (x pc : Int) :
    encode v W ⟨m, .acc, x⟩ pc = encode v W ⟨m, .acc, 0⟩ pc := by
  simp [encode, Shape.inRange, Shape.modes, encodeIn, fits, isZp, operandBytes]

theorem digitVal_upper (c : Char) : digitVal (upper c) = digitVal c := by
  rcases upper_cases c with e | ⟨h1, h2, h3⟩
  · rw [e]
  · unfold digitVal
    simp only [h3]
    have a1 : ¬ (48 ≤ c.toNat - 32 ∧ c.toNat - 32 ≤ 57) := by omega
    have a2 : ¬ (97 ≤ c.toNat - 32 ∧ c.toNat - 32 ≤ 122) := by omega
    have a3 : (65 ≤ c.toNat - 32 ∧ c.toNat - 32 ≤ 90) := by omega
    have a4 : ¬ (48 ≤ c.toNat ∧ c.toNat ≤ 57) := by omega
    have a5 : (97 ≤ c.toNat ∧ c.toNat ≤ 122) := ⟨h1, h2⟩
    simp only [a1, a2, a3, a4, a5, if_false]
    simp only [and_self, if_true, Option.some.injEq]
    omega

theorem valAcc_upperS (b acc : Nat) (s : Str) : valAcc b acc (upperS s) = valAcc b acc s := by
  induction s generalizing acc with
  | nil => rfl
  | cons c s ih =>
    rw [upperS_cons, valAcc_cons, valAcc_cons, ih]
    simp only [dv, digitVal_upper]

theorem isDig_of_upper {b : Nat} {c : Char} (h : IsDig b (upper c)) : IsDig b c := by
  obtain ⟨dg, h1, h2⟩ := h
  exact ⟨dg, by rw [← digitVal_upper]; exact h1, h2⟩

theorem isDig_plain {b : Nat} {c : Char} (h : IsDig b c) : Plain c := by
  obtain ⟨dg, hd, _⟩ := h
  have := digitVal_range hd
  exact plain_of_ge (by omega)

instance (c : Char) : Decidable (Plain c) := by unfold Plain; infer_instance

/-- The text reads as one word for the tokeniser: put in front of `rest` it becomes the word being
read, and that word is not an open character literal. -/
structure WordLike (t : Str) : Prop where
  ne : t ≠ []
  run : ∀ rest, tokensAux (t ++ rest) [] = tokensAux rest t.reverse
  closed : litOpen t.reverse = false

theorem closed_of {t : Str} (h1 : t ≠ ['#', '\'']) (h2 : t ≠ ['#', '"']) : litOpen t.reverse = false := by
  cases hl : litOpen t.reverse with
  | false => rfl
  | true =>
    rcases litOpen_reverse hl with e | e <;> rw [List.reverse_reverse] at e
    · exact absurd e h1
    · exact absurd e h2

theorem wordLike_plain {t : Str} (hne : t ≠ []) (hp : ∀ c ∈ t, Plain c) (h1 : t ≠ ['#', '\''])
    (h2 : t ≠ ['#', '"']) : WordLike t :=
  ⟨hne, fun rest => by rw [tokensAux_plain_run t rest [] hp, List.append_nil], closed_of h1 h2⟩

/-- a character literal `#'c'`, `#"c"`, `#'c`: whatever the character `c` (white space excepted) -/
theorem wordLike_charlit (q ch : Char) (r3 : Str) (hq : q = '\'' ∨ q = '"') (hch : isReSpace ch = false)
    (hr3 : r3 = [] ∨ r3 = [q]) : WordLike ('#' :: q :: ch :: r3) := by
  have hqp : Plain q := by rcases hq with rfl | rfl <;> decide
  have hlo : litOpen [q, '#'] = true := by rcases hq with rfl | rfl <;> rfl
  refine ⟨by simp, ?_, ?_⟩
  · intro rest
    simp only [List.cons_append]
    rw [tokensAux_plain (by decide : Plain '#'), tokensAux_plain hqp, tokensAux_lit hch _ hlo]
    rcases hr3 with rfl | rfl
    · rfl
    · simp only [List.cons_append, List.nil_append]
      rw [tokensAux_plain hqp]
      rfl
  · cases hl : litOpen ('#' :: q :: ch :: r3).reverse with
    | false => rfl
    | true =>
      have := litOpen_length hl
      simp at this

theorem tokensAux_lead (L rest : Str) (hL : ∀ c ∈ L, isReSpace c = true ∨ c = '(') :
    tokensAux (L ++ rest) [] = (removeWs L).map (fun _ => Tok.lparen) ++ tokensAux rest [] := by
  induction L with
  | nil => rfl
  | cons c L ih =>
    have ih' := ih (fun x hx => hL x (by simp [hx]))
    rcases hL c (by simp) with hc | rfl
    · rw [List.cons_append, tokensAux_blank hc, flush_nil, List.nil_append, ih', removeWs_cons_blank L hc]
    · rw [List.cons_append, tokensAux_lparen _ litOpen_nil, flush_nil, List.nil_append, ih',
        removeWs_cons_word L (by decide)]
      rfl

def afterToksOK : Shape → List Tok → Bool
  | .dirX, [.comma, .word r] => isX r
  | .dirY, [.comma, .word r] => isY r
  | .ind, [.rparen] => true
  | .indX, [.comma, .word r, .rparen] => isX r
  | .indY, [.rparen, .comma, .word r] => isY r
  | .none, [] | .acc, [] | .imm, [] | .dir, [] => true
  | _, _ => false

/-- whatever the case of the register letter, the text after the operand word (without white
space) has no `(`, no two neighbouring non-delimiters, and the tokens of the shape (by evaluation of
the spellings) -/
theorem afterOf_tok_facts (sh : Shape) (cs : Str) (hcs : upperS cs = afterOf sh) :
    (∀ c ∈ cs, c ≠ '(') ∧ sparse cs = true ∧ afterToksOK sh (tokensAux cs []) = true := by
  have hall : ∀ sh : Shape, (spellings (afterOf sh)).all (fun cs =>
      cs.all (fun c => c != '(') && sparse cs && afterToksOK sh (tokensAux cs [])) = true := by
    intro sh; cases sh <;> decide
  have h := List.all_eq_true.mp (hall sh) cs (mem_spellings hcs)
  simpa only [Bool.and_eq_true, List.all_eq_true, bne_iff_ne, ne_eq, and_assoc] using h

/-- the operand tokens: for the four shapes without tokens besides the operand word it is the word
that decides, for the other five the tokens -/
theorem parseOperand_after (sh : Shape) (t : Str) (toks : List Tok) (h : afterToksOK sh toks = true) :
    parseOperand ((leadOf sh).map (fun _ => Tok.lparen) ++ .word t :: toks) =
      if afterOf sh = [] then parseOperand [.word t] else some (sh, t) := by
  unfold afterToksOK at h
  split at h
  case h_2 r =>
    have : isX r = false := by
      simp only [isY, Bool.or_eq_true, decide_eq_true_eq] at h
      rcases h with rfl | rfl <;> rfl
    simp [parseOperand, leadOf, afterOf, h, this]
  all_goals first | (cases h; done) | simp [parseOperand, leadOf, afterOf, h]

/-- The statement that a text written as mnemonic, white space, lead, operand word, rest denotes. -/
theorem parse_structured (sh : Shape) (M ws1 L t aft w : Str) (hM : IsMnem M) (hws : Blank ws1) (hws1 : ws1 ≠ [])
    (hLc : ∀ c ∈ L, isReSpace c = true ∨ c = '(') (hL : removeWs L = leadOf sh)
    (ht : WordLike t) (ha1 : ∀ c, aft.head? = some c → isTargetChar c = false)
    (ha : upperS (removeWs aft) = afterOf sh)
    (hp : afterOf sh = [] → parseOperand [.word t] = some (sh, w)) (hw : afterOf sh ≠ [] → w = t) :
    parse (M ++ (ws1 ++ (L ++ (t ++ aft)))) = some (upperS M, sh, w) := by
  obtain ⟨f1, f2, f3⟩ := afterOf_tok_facts sh _ ha
  obtain ⟨_, _, hMne⟩ := hM.noBlank
  have hMcl : litOpen M.reverse = false := by
    cases hl : litOpen M.reverse with
    | false => rfl
    | true =>
      have := litOpen_length hl
      rw [List.length_reverse] at this
      rcases hM.length with e | e <;> omega
  have hhead : ∀ c, (ws1 ++ (L ++ (t ++ aft))).head? = some c → isTargetChar c = false := by
    intro c hc
    obtain ⟨x, ws', rfl⟩ := List.exists_cons_of_ne_nil hws1
    simp only [List.cons_append, List.head?_cons, Option.some.injEq] at hc
    exact hc ▸ blank_not_target (hws x (by simp))
  have htok : tokens (M ++ (ws1 ++ (L ++ (t ++ aft)))) =
      .word M :: ((leadOf sh).map (fun _ => Tok.lparen) ++ .word t :: tokensAux (removeWs aft) []) := by
    unfold tokens
    rw [tokensAux_plain_run M _ [] hM.plain, List.append_nil,
      tokensAux_end M.reverse _ (by simpa using hMne) hMcl hhead, List.reverse_reverse,
      tokensAux_blank_run ws1 _ hws, tokensAux_lead L _ hLc, hL, ht.run,
      tokensAux_end t.reverse aft (by simpa using ht.ne) ht.closed ha1, List.reverse_reverse,
      tokensAux_removeWs aft f1 f2 [] (Or.inl rfl)]
  unfold parse
  rw [htok]
  simp only [parseOperand_after sh t _ f3]
  by_cases he : afterOf sh = []
  · simp only [he, if_true, hp he]; rfl
  · simp only [he, if_false, hw he]; rfl

theorem parseOperand_word_acc (w : Str) (h : isA w = true) : parseOperand [.word w] = some (.acc, []) := by
  simp [parseOperand, h]

theorem parseOperand_word_imm (r : Str) : parseOperand [.word ('#' :: r)] = some (.imm, r) := by
  simp [parseOperand, isA]

theorem parseOperand_word_dir (w : Str) (h1 : w ≠ ['A'] ∧ w ≠ ['a']) (h2 : ∀ r, w ≠ '#' :: r) :
    parseOperand [.word w] = some (.dir, w) := by
  have : isA w = false := by simp [isA, h1.1, h1.2]
  cases w with
  | nil => rfl
  | cons c r =>
    have hc : c ≠ '#' := fun e => h2 r (by rw [e])
    simp only [parseOperand, this, Bool.false_eq_true, if_false]

theorem parse_structured_addr (sh : Shape) (hsh : Shape.isAddr sh = true) (M ws1 L t aft : Str) (hM : IsMnem M)
    (hws : Blank ws1) (hws1 : ws1 ≠ []) (hLc : ∀ c ∈ L, isReSpace c = true ∨ c = '(')
    (hL : removeWs L = leadOf sh) (ht : WordLike t) (ha1 : ∀ c, aft.head? = some c → isTargetChar c = false)
    (ha : upperS (removeWs aft) = afterOf sh) (h1 : t ≠ ['A'] ∧ t ≠ ['a']) (h2 : ∀ r, t ≠ '#' :: r) :
    parse (M ++ (ws1 ++ (L ++ (t ++ aft)))) = some (upperS M, sh, t) := by
  refine parse_structured sh M ws1 L t aft t hM hws hws1 hLc hL ht ha1 ha (fun e => ?_) (fun _ => rfl)
  cases sh
  case dir => exact parseOperand_word_dir t h1 h2
  case none | acc | imm => cases hsh
  all_goals cases e

theorem parse_bare (M b : Str) (hM : IsMnem M) (hb : Blank b) : parse (M ++ b) = some (upperS M, .none, []) := by
  obtain ⟨_, _, hMne⟩ := hM.noBlank
  have htok : tokens (M ++ b) = [.word M] := by
    unfold tokens
    rw [tokensAux_plain_run M _ [] hM.plain, List.append_nil]
    cases b with
    | nil => rw [tokensAux_nil, flush_ne (by simpa using hMne), List.reverse_reverse]
    | cons c b' =>
      rw [tokensAux_blank (hb c (by simp)), flush_ne (by simpa using hMne), List.reverse_reverse,
        tokensAux_all_blank b' (fun x hx => hb x (by simp [hx]))]
      rfl
  unfold parse
  rw [htok]
  rfl

section canon
variable {d : Dev} {v : Variant} {W : Nat}

/-- what can follow the operand value in the operand text handed to the back end -/
def AfterAlpha (α : Str) : Prop := ∀ c ∈ α, c = ',' ∨ c = 'X' ∨ c = 'Y' ∨ c = ')'

theorem inAfter_chars {a : Str} (h : inAfter a = true) : ∀ c ∈ a, isAfterChar c = true ∨ c = ')' := by
  intro c hc
  rw [← List.takeWhile_append_dropWhile (p := isAfterChar) (l := a), List.mem_append] at hc
  rcases hc with hc | hc
  · left; exact mem_takeWhile_true hc
  · unfold inAfter at h
    cases hd : a.dropWhile isAfterChar with
    | nil => rw [hd] at hc; cases hc
    | cons y r2 =>
      rw [hd] at h hc
      simp only [Bool.and_eq_true, decide_eq_true_eq, List.all_eq_true] at h
      simp only [List.mem_cons] at hc
      rcases hc with rfl | hc
      · right; exact h.1
      · left; exact h.2 c hc

theorem afterAlpha_of {a : Str} (h : inAfter a = true) : AfterAlpha (upperS (removeWs a)) := by
  intro c hc
  simp only [upperS, List.mem_map] at hc
  obtain ⟨c0, hc0, rfl⟩ := hc
  simp only [removeWs, List.mem_filter, Bool.not_eq_true'] at hc0
  rcases inAfter_chars h c0 hc0.1 with h1 | rfl
  · simp only [isAfterChar, hc0.2, Bool.or_false, Bool.or_eq_true, decide_eq_true_eq] at h1
    rcases h1 with (((rfl | rfl) | rfl) | rfl) | rfl <;> decide
  · decide

theorem afterAlpha_head {α : Str} (h : AfterAlpha α) : ∀ c, α.head? = some c → isHexUpper c = false := by
  intro c hc
  rcases h c (List.mem_of_mem_head? hc) with rfl | rfl | rfl | rfl <;> decide

theorem afterOf_alpha (sh : Shape) : AfterAlpha (afterOf sh) := by
  cases sh <;> intro c hc <;> simp [afterOf] at hc <;> tauto

theorem hex_span_unique {h1 h2 α β : Str} (a1 : ∀ c ∈ h1, isHexUpper c = true) (a2 : ∀ c ∈ h2, isHexUpper c = true)
    (b1 : ∀ c, α.head? = some c → isHexUpper c = false) (b2 : ∀ c, β.head? = some c → isHexUpper c = false)
    (e : h1 ++ α = h2 ++ β) : h1 = h2 ∧ α = β := by
  have s1 := span_stop (p := isHexUpper) a1 b1
  have s2 := span_stop (p := isHexUpper) a2 b2
  rw [e] at s1
  exact ⟨s1.1.symm.trans s2.1, s1.2.symm.trans s2.2⟩

theorem hexFixU_mem_hexUpper (k n : Nat) : ∀ c ∈ hexFixU k n, isHexUpper c = true := by
  have := hexFixU_hexUpper k n
  rwa [List.all_eq_true] at this

theorem canonText_addr (W : Nat) (sh : Shape) (x : Int) (hsh : Shape.isAddr sh = true) :
    canonText W sh x = leadOf sh ++ '$' :: (hexFixU (W / 4 + W / 4) x.toNat ++ afterOf sh) := by
  rw [canonText_isAddr W hsh, hexFixU_split, List.append_assoc]

theorem canonText_nil {W : Nat} {sh : Shape} {x : Int} (h : canonText W sh x = []) : sh = .none := by
  cases sh <;> simp [canonText, leadOf] at h ⊢

theorem leadOf_cases (sh : Shape) : leadOf sh = [] ∨ leadOf sh = ['('] := by cases sh <;> simp [leadOf]
theorem leadOf_lparen (sh : Shape) : ∀ c ∈ leadOf sh, isReSpace c = true ∨ c = '(' := by
  cases sh <;> simp [leadOf]
theorem removeWs_leadOf (sh : Shape) : removeWs (leadOf sh) = leadOf sh := by cases sh <;> rfl

theorem hexFixU_inj (k a b : Nat) (ha : a < 16 ^ k) (hb : b < 16 ^ k) (e : hexFixU k a = hexFixU k b) : a = b := by
  have := congrArg (valL 16) e
  rwa [valL_hexFixU, valL_hexFixU, Nat.mod_eq_of_lt ha, Nat.mod_eq_of_lt hb] at this

theorem toNat_inj {a b : Int} (ha : 0 ≤ a) (hb : 0 ≤ b) (e : a.toNat = b.toNat) : a = b := by omega

theorem canon_inv_addr (h : DevOK d v W) (Lr α : Str) (n x : Int) (sh : Shape) (hn : 0 ≤ n ∧ n < 2 ^ (2 * W))
    (hin : Shape.inRange W sh x = true) (hL : Lr = [] ∨ Lr = ['(']) (hα : AfterAlpha α)
    (e : Lr ++ ('$' :: hexFixU (W / 4 + W / 4) n.toNat) ++ α = canonText W sh x) :
    Shape.isAddr sh = true ∧ Lr = leadOf sh ∧ α = afterOf sh ∧ x = n := by
  have hsh : Shape.isAddr sh = true := by
    cases sh
    case none => rcases hL with rfl | rfl <;> simp [canonText] at e
    case acc => rcases hL with rfl | rfl <;> simp [canonText] at e
    case imm => rcases hL with rfl | rfl <;> simp [canonText] at e
    all_goals rfl
  rw [canonText_addr W sh x hsh] at e
  have key : Lr = leadOf sh ∧
      hexFixU (W / 4 + W / 4) n.toNat ++ α = hexFixU (W / 4 + W / 4) x.toNat ++ afterOf sh := by
    rcases hL with rfl | rfl <;> rcases leadOf_cases sh with hl | hl <;> rw [hl] at e ⊢ <;> simp at e
    · exact ⟨rfl, e⟩
    · exact ⟨rfl, e⟩
  obtain ⟨k1, k2⟩ := key
  obtain ⟨e1, e2⟩ := hex_span_unique (hexFixU_mem_hexUpper _ _) (hexFixU_mem_hexUpper _ _)
    (afterAlpha_head hα) (afterAlpha_head (afterOf_alpha sh)) k2
  have hx := (inRange_addr hsh).mp hin
  have := hexFixU_inj _ _ _ (toNat_lt_pow h.hW n hn.2) (toNat_lt_pow h.hW x hx.2) e1
  exact ⟨hsh, k1, e2, (toNat_inj hn.1 hx.1 this).symm⟩

theorem canon_inv_imm (h : DevOK d v W) (Lr α : Str) (n x : Int) (sh : Shape) (hn : 0 ≤ n ∧ n < 2 ^ W)
    (hin : Shape.inRange W sh x = true) (hL : Lr = [] ∨ Lr = ['(']) (hα : AfterAlpha α)
    (e : Lr ++ ('#' :: '$' :: hexFixU (W / 4) n.toNat) ++ α = canonText W sh x) :
    sh = .imm ∧ Lr = [] ∧ α = [] ∧ x = n := by
  cases sh
  case none => rcases hL with rfl | rfl <;> simp [canonText] at e
  case acc => rcases hL with rfl | rfl <;> simp [canonText] at e
  case imm =>
    rcases hL with rfl | rfl
    · simp only [canonText, List.nil_append, List.cons_append, List.cons.injEq, true_and] at e
      have e' : hexFixU (W / 4) n.toNat ++ α = hexFixU (W / 4) x.toNat ++ [] := by rw [List.append_nil]; exact e
      obtain ⟨e1, e2⟩ := hex_span_unique (hexFixU_mem_hexUpper _ _) (hexFixU_mem_hexUpper _ _)
        (afterAlpha_head hα) (by simp) e'
      simp only [Shape.inRange, decide_eq_true_eq] at hin
      have b1 := toNat_lt_byte h n hn.1 hn.2
      have b2 := toNat_lt_byte h x hin.1 hin.2
      exact ⟨rfl, rfl, e2, (toNat_inj hn.1 hin.1 (hexFixU_inj _ _ _ b1 b2 e1)).symm⟩
    · simp [canonText] at e
  all_goals
    exfalso
    rw [canonText_addr W _ x rfl] at e
    rcases hL with rfl | rfl <;> simp [leadOf] at e

theorem canon_inv_acc (Lr α : Str) (x : Int) (sh : Shape) (hL : Lr = [] ∨ Lr = ['('])
    (e : Lr ++ ['A'] ++ α = canonText W sh x) : sh = .acc ∧ Lr = [] ∧ α = [] := by
  cases sh
  case none => rcases hL with rfl | rfl <;> simp [canonText] at e
  case acc =>
    rcases hL with rfl | rfl
    · simp only [canonText, List.nil_append, List.cons_append, List.cons.injEq, true_and] at e
      exact ⟨rfl, rfl, e⟩
    · simp [canonText] at e
  case imm => rcases hL with rfl | rfl <;> simp [canonText] at e
  all_goals
    exfalso
    rw [canonText_addr W _ x rfl] at e
    rcases hL with rfl | rfl <;> simp [leadOf] at e

/-- what `'#$' + BYTE_FORMAT % number` tells about `number` -/
theorem immText_ok_inv (h : DevOK d v W) (n : Int) (t : Str) (ht : immText d n = .ok t) :
    (0 ≤ n ∧ n < 2 ^ W) ∧ upperS t = '#' :: '$' :: hexFixU (W / 4) n.toNat := by
  by_cases hr : 0 ≤ n ∧ n < 2 ^ W
  · obtain ⟨t', h1, h2⟩ := immText_canon h n hr.1 hr.2
    rw [h1] at ht
    cases ht
    exact ⟨hr, h2⟩
  · rw [immText_out h n hr] at ht; cases ht

theorem addrText_ok_inv (h : DevOK d v W) (n : Int) (t : Str) (hn : 0 ≤ n ∧ n < 2 ^ (2 * W))
    (ht : addrText d n = .ok t) : upperS t = '$' :: hexFixU (W / 4 + W / 4) n.toNat := by
  obtain ⟨t', h1, h2⟩ := addrText_canon h n hn.1 hn.2
  rw [h1] at ht
  cases ht
  rw [h2, hexFixU_split]

theorem digStr_of_upper {H : Str} {K y : Nat} (hH : upperS H = hexFixU K y) : DigStr 16 H := by
  intro c hc
  apply isDig_of_upper
  apply hexFixU_digStr K y
  rw [← hH]
  exact List.mem_map_of_mem hc

theorem numberL_dollar_upper (P : Parser) (K : Nat) (H : Str) (y : Nat) (hK : 1 ≤ K)
    (hH : upperS H = hexFixU K y) (hy : y < 16 ^ K) (hmax : (y : Int) ≤ P.maxaddr) :
    numberL P ('$' :: H) = .ok (y : Int) := by
  have hdig := digStr_of_upper hH
  have hne : H ≠ [] := by
    intro e
    rw [e] at hH
    obtain ⟨k, rfl⟩ : ∃ k, K = k + 1 := ⟨K - 1, by omega⟩
    rw [hexFixU_succ] at hH
    simp [upperS] at hH
  have hv : valL 16 H = y := by
    have : valL 16 (upperS H) = valL 16 H := valAcc_upperS 16 0 H
    rw [← this, hH, valL_hexFixU, Nat.mod_eq_of_lt hy]
  rw [(numberL_prefix P H).1, pyIntL_digits (by decide) (by decide) hne hdig (Or.inl rfl), hv]
  exact constrain_in (Int.natCast_nonneg y) hmax

end canon

section paths
variable {d : Dev} {v : Variant} {W : Nat}

theorem blank_cons_sp {b : Str} (hb : Blank b) : Blank (' ' :: b) :=
  List.forall_mem_cons.mpr ⟨by decide, hb⟩

theorem blank_head {b : Str} (hb : Blank b) : ∀ c, b.head? = some c → isTargetChar c = false :=
  fun c hc => blank_not_target (hb c (List.mem_of_mem_head? hc))

theorem target_plain {c : Char} (h : isTargetChar c = true) (hp : c ≠ '(') : Plain c := by
  simp only [isTargetChar, Bool.not_eq_true', Bool.or_eq_false_iff, decide_eq_false_iff_not] at h
  exact ⟨h.1.2, hp, h.2, h.1.1⟩

theorem plain_of_number (P : Parser) (hlab : LabelsNoParen P) (t : Str) (n : Int)
    (htc : ∀ c ∈ t, isTargetChar c = true) (h : numberL P t = .ok n) : ∀ c ∈ t, Plain c := by
  have hno := numberL_no_lparen P hlab t n h
  intro c hc
  exact target_plain (htc c hc) (fun e => hno (e ▸ hc))

theorem upperS_eq_append {r a b : Str} (h : upperS r = a ++ b) :
    ∃ r1 r2, r = r1 ++ r2 ∧ upperS r1 = a ∧ upperS r2 = b := by
  unfold upperS at h
  obtain ⟨r1, r2, e, h1, h2⟩ := List.map_eq_append_iff.mp h
  exact ⟨r1, r2, e, h1, h2⟩

theorem upperS_leadOf {l : Str} {sh : Shape} (h : upperS l = leadOf sh) : l = leadOf sh := by
  rcases leadOf_cases sh with e | e <;> rw [e] at h ⊢
  · exact upperS_eq_nil h
  · obtain ⟨c, r, rfl, h1, h2⟩ := upperS_eq_cons h
    rw [upperS_eq_nil h2, upper_eq_punct (by decide) h1]

theorem value_imm_number (P : Parser) (q : Char) (r : Str) (hq : ¬ (q = '\'' ∨ q = '"')) :
    value P .imm (q :: r) = numberL P (q :: r) := by
  cases r with
  | nil => rfl
  | cons c r => simp only [value, charLit, hq, false_and, if_false]

theorem fallback_opcode (n o tl : Str) (hN1 : ∀ c ∈ n, isReSpace c = true → c = ' ') (hn : n = o ++ tl)
    (hosp : ' ' ∉ o) (sh : Shape) (x pc : Int) (bs : List Int)
    (henc : encode v W ⟨upperS (strip o), sh, x⟩ pc = .ok bs) :
    IsMnem o ∧ encode v W ⟨upperS o, sh, x⟩ pc = .ok bs := by
  have honb : NoBlank o := by
    intro c hc
    cases hs : isReSpace c with
    | false => rfl
    | true =>
      have := hN1 c (by rw [hn]; simp [hc]) hs
      exact absurd (this ▸ hc) hosp
  rw [strip_noBlank o honb] at henc
  exact ⟨isMnem_of_upper (encode_ok_mnem henc), henc⟩

theorem sound_bare (P : Parser) (o b : Str) (hM : IsMnem o) (hb : Blank b) (x pc : Int) (bs : List Int)
    (henc : encode v W ⟨upperS o, .none, x⟩ pc = .ok bs) :
    ∃ m sh' w x', parse (o ++ b) = some (m, sh', w) ∧ value P sh' w = .ok x' ∧
      encode v W ⟨m, sh', x'⟩ pc = .ok bs :=
  ⟨upperS o, .none, [], 0, parse_bare o b hM hb, rfl, by rw [← encode_none_val]; exact henc⟩

/-- mnemonic, white space, and a text `q` that upper-cased is the canonical text of `(sh, x)` -/
theorem sound_rest (h : DevOK d v W) (P : Parser) (hPw : P.width = 2 * W) (o b1 q b2 : Str)
    (hM : IsMnem o) (hb1 : Blank b1) (hb2 : Blank b2) (sh : Shape) (x pc : Int)
    (bs : List Int) (hin : Shape.inRange W sh x = true) (hod : upperS q = canonText W sh x)
    (henc : encode v W ⟨upperS o, sh, x⟩ pc = .ok bs) :
    ∃ m sh' w x', parse (o ++ ' ' :: (b1 ++ (q ++ b2))) = some (m, sh', w) ∧ value P sh' w = .ok x' ∧
      encode v W ⟨m, sh', x'⟩ pc = .ok bs := by
  have hws := blank_cons_sp hb1
  have hmax := maxaddr_eq (W := W) P hPw
  -- `$` and digits that upper-cased are those of `x`: a word for the tokeniser, valued at `x`
  have hex : ∀ (K : Nat) (H : Str), 1 ≤ K → upperS H = hexFixU K x.toNat → 0 ≤ x → x.toNat < 16 ^ K →
      x ≤ 2 ^ (2 * W) - 1 → (∀ c ∈ '$' :: H, Plain c) ∧ numberL P ('$' :: H) = .ok x := by
    intro K H hK hH h0 hlt hle
    have hcast : ((x.toNat : Nat) : Int) = x := Int.toNat_of_nonneg h0
    have hnum := numberL_dollar_upper P K H x.toNat hK hH hlt (by rw [hcast, hmax]; exact hle)
    rw [hcast] at hnum
    exact ⟨List.forall_mem_cons.mpr ⟨by decide, fun c hc => isDig_plain (digStr_of_upper hH c hc)⟩, hnum⟩
  cases sh
  case none =>
    have hq : q = [] := upperS_eq_nil (by rw [hod]; rfl)
    subst hq
    have hb : Blank (' ' :: (b1 ++ ([] ++ b2))) := by
      intro c hc
      simp only [List.mem_cons, List.mem_append, List.nil_append] at hc
      rcases hc with rfl | hc | hc
      · decide
      · exact hb1 c hc
      · exact hb2 c hc
    exact sound_bare P o _ hM hb x pc bs henc
  case acc =>
    obtain ⟨a0, q', rfl, ha0, hq'⟩ := upperS_eq_cons (show upperS q = 'A' :: [] from hod)
    have := upperS_eq_nil hq'
    subst this
    have haA : a0 = 'A' ∨ a0 = 'a' := upper_eq_const ha0
    have hwl : WordLike [a0] := by
      refine wordLike_plain (by simp) ?_ (by simp) (by simp)
      rcases haA with rfl | rfl <;> decide
    refine ⟨upperS o, .acc, [], 0, ?_, rfl, by rw [← encode_acc_val]; exact henc⟩
    have := parse_structured .acc o (' ' :: b1) [] [a0] b2 [] hM hws (by simp) (fun _ hc => nomatch hc) rfl hwl
      (blank_head hb2) (by rw [removeWs_blank b2 hb2]; rfl)
      (fun _ => parseOperand_word_acc _ (by rcases haA with rfl | rfl <;> rfl)) (fun e => absurd rfl e)
    simpa using this
  case imm =>
    simp only [canonText] at hod
    obtain ⟨c1, q1, rfl, hc1, hq1⟩ := upperS_eq_cons hod
    obtain ⟨c2, H, rfl, hc2, hH⟩ := upperS_eq_cons hq1
    have := upper_eq_punct (p := '#') (by decide) hc1; subst this
    have := upper_eq_punct (p := '$') (by decide) hc2; subst this
    simp only [Shape.inRange, decide_eq_true_eq] at hin
    obtain ⟨hpl, hnum⟩ := hex (W / 4) H h.n_pos hH hin.1 (toNat_lt_byte h x hin.1 hin.2)
      (by have := byte_lt_addr h.hW hin.2; omega)
    have hwl : WordLike ('#' :: '$' :: H) :=
      wordLike_plain (by simp) (List.forall_mem_cons.mpr ⟨by decide, hpl⟩) (by simp) (by simp)
    refine ⟨upperS o, .imm, '$' :: H, x, ?_, by rw [value_imm_number P _ _ (by decide)]; exact hnum, henc⟩
    have := parse_structured .imm o (' ' :: b1) [] ('#' :: '$' :: H) b2 ('$' :: H) hM hws (by simp)
      (fun _ hc => nomatch hc) rfl hwl (blank_head hb2) (by rw [removeWs_blank b2 hb2]; rfl)
      (fun _ => parseOperand_word_imm _) (fun e => absurd rfl e)
    simpa using this
  all_goals
    -- an address shape
    rw [canonText_addr W _ x rfl] at hod
    obtain ⟨l1, q1, rfl, hl1, hq1⟩ := upperS_eq_append hod
    obtain ⟨c2, q2, rfl, hc2, hq2⟩ := upperS_eq_cons hq1
    obtain ⟨H, A0, rfl, hH, hA0⟩ := upperS_eq_append hq2
    have := upperS_leadOf hl1; subst this
    have := upper_eq_punct (p := '$') (by decide) hc2; subst this
    have hx := (inRange_addr rfl).mp hin
    obtain ⟨hA0nb, _, hA0h⟩ := afterOf_facts _ A0 hA0
    obtain ⟨hpl, hnum⟩ := hex (W / 4 + W / 4) H (by have := h.n_pos; omega) hH hx.1 (toNat_lt_pow h.hW x hx.2)
      (by omega)
    have hah : ∀ c, (A0 ++ b2).head? = some c → isTargetChar c = false := by
      intro c hc
      cases A0 with
      | nil => exact blank_head hb2 c hc
      | cons a A' => exact hA0h c (by simpa using hc)
    have := parse_structured_addr _ rfl o (' ' :: b1) (leadOf _) ('$' :: H) (A0 ++ b2) hM hws (by simp)
      (leadOf_lparen _) (removeWs_leadOf _)
      (wordLike_plain (by simp) hpl (by simp) (by simp)) hah
      (by rw [removeWs_append, removeWs_blank b2 hb2, List.append_nil, removeWs_noBlank A0 hA0nb, hA0])
      (by simp) (by simp)
    refine ⟨upperS o, _, '$' :: H, x, ?_, ?_, henc⟩
    · simpa using this
    · exact hnum

/-- what became of the operand word `t` in `normalize_and_split` -/
inductive Retargeted (d : Dev) (P : Parser) (t t' : Str) : Prop
  | charlit (q ch : Char) (r3 : Str) (ht : t = '#' :: q :: ch :: r3) (hq : q = '\'' ∨ q = '"')
      (hr3 : r3 = [] ∨ r3 = [q]) (h : immText d (ch.toNat : Int) = .ok t')
  | imm (rest : Str) (n : Int) (ht : t = '#' :: rest) (hq : rest.head? ≠ some '\'' ∧ rest.head? ≠ some '"')
      (hne : rest ≠ []) (hn : numberL P rest = .ok n) (h : immText d n = .ok t')
  | acc (ht : t = ['a'] ∨ t = ['A']) (h : t' = t)
  | addr (hh : ∀ r, t ≠ '#' :: r) (ha : t ≠ ['A'] ∧ t ≠ ['a']) (n : Int) (hn : numberL P t = .ok n)
      (h : addrText d n = .ok t')

theorem retarget_inv (P : Parser) (t t' : Str) (h : retarget d P t = .ok t') : Retargeted d P t t' := by
  unfold retarget at h
  split at h
  · rename_i rest
    split at h
    · cases h
    · rename_i q rest2
      split_ifs at h with hq
      · split at h
        · cases h
        · rename_i ch rest3
          split_ifs at h with hr3
          exact .charlit q ch rest3 rfl hq hr3 h
      · obtain ⟨n, hn, hk⟩ := ofRes_ok h
        have hq' : q ≠ '\'' ∧ q ≠ '"' := by
          constructor <;> (intro e; exact hq (by simp [e]))
        exact .imm (q :: rest2) n rfl (by simp [hq'.1, hq'.2]) (by simp) hn hk
  · rename_i hns
    split_ifs at h with ha
    · cases h
      exact .acc ha rfl
    · obtain ⟨n, hn, hk⟩ := ofRes_ok h
      have ha' : t ≠ ['A'] ∧ t ≠ ['a'] := ⟨fun e => ha (Or.inr e), fun e => ha (Or.inl e)⟩
      exact .addr (fun r e => hns r e) ha' n hn hk

/-- The `Statement` path: the scanner matched `n = b ++ t ++ a`, the operand word `t` was rewritten
to `t'`, and the operand handed to the back end is the canonical text of `(sh, x)`.  `hn` is the rest
of `normalizeAndSplit` after the scanner and `retarget`, verbatim. -/
theorem sound_match (h : DevOK d v W) (P : Parser) (hPw : P.width = 2 * W) (hwf : P.WF) (hlab : LabelsNoParen P)
    (n b t a t' : Str) (hN1 : ∀ c ∈ n, isReSpace c = true → c = ' ') (hm : matchStatement n = some (b, t, a))
    (hr : retarget d P t = .ok t') (oc od : Str)
    (hn : (match splitSp1 b with
          | (opcode, some lead) => NRes.ok (upperS (strip opcode)) (upperS (strip (removeWs (lead ++ t' ++ a))))
          | (_, none) => NRes.other "unpack") = .ok oc od)
    (sh : Shape) (x pc : Int) (bs : List Int) (hin : Shape.inRange W sh x = true)
    (hod : od = canonText W sh x) (henc : encode v W ⟨oc, sh, x⟩ pc = .ok bs) :
    ∃ m sh' w x', parse n = some (m, sh', w) ∧ value P sh' w = .ok x' ∧ encode v W ⟨m, sh', x'⟩ pc = .ok bs := by
  obtain ⟨⟨M, ws1, L, hM, hws, hws1, hLf, hb⟩, hwhole, htne, htc, hah, hal⟩ := matchStatement_inv n b t a hm
  obtain ⟨hMnb, hMsp, hMne⟩ := hM.noBlank
  -- `before.split(" ", 1)`
  obtain ⟨w, ws1', rfl⟩ := List.exists_cons_of_ne_nil hws1
  have hw : w = ' ' := by
    apply hN1 w _ (hws w (by simp))
    rw [hwhole, hb]; simp
  subst hw
  have hsplit : splitSp1 b = (M, some (ws1' ++ L)) := by
    rw [hb]; exact splitSp1_word M (ws1' ++ L) hMsp
  rw [hsplit] at hn
  simp only [NRes.ok.injEq] at hn
  obtain ⟨hoc, hod'⟩ := hn
  rw [strip_noBlank M hMnb] at hoc
  subst hoc
  have hws' : Blank ws1' := fun c hc => hws c (by simp [hc])
  have hLc : ∀ c ∈ L, isReSpace c = true ∨ c = '(' := by
    intro c hc
    rcases hLf with rfl | ⟨ws2, rfl, hws2⟩
    · cases hc
    · simp only [List.mem_cons] at hc
      rcases hc with rfl | hc
      · right; rfl
      · left; exact hws2 c hc
  have hLr : removeWs L = [] ∨ removeWs L = ['('] := by
    rcases hLf with rfl | ⟨ws2, rfl, hws2⟩
    · left; rfl
    · right
      rw [removeWs_cons_word _ (by decide), removeWs_blank ws2 hws2]
  have hLu : upperS (removeWs L) = removeWs L := by rcases hLr with e | e <;> rw [e] <;> rfl
  have hα := afterAlpha_of hal
  have hnE : n = M ++ ((' ' :: ws1') ++ (L ++ (t ++ a))) := by rw [hwhole, hb]; simp
  have hopnd : ∀ (hnb : NoBlank t'), removeWs L ++ upperS t' ++ upperS (removeWs a) = canonText W sh x := by
    intro hnb
    rw [← hod, ← hod', strip_noBlank _ (noBlank_removeWs _), removeWs_append, removeWs_append, removeWs_append,
      removeWs_blank ws1' hws', removeWs_noBlank t' hnb, List.nil_append, upperS_append, upperS_append, hLu]
  -- the statement the tokens denote, once shape, lead and rest are known
  have hparse := fun sh0 w e1 wl e2 =>
    hnE ▸ parse_structured sh0 M (' ' :: ws1') L t a w hM hws (by simp) hLc e1 wl hah e2
  rcases retarget_inv P t t' hr with ⟨q, ch, r3, rfl, hq, hr3, hi⟩ | ⟨rest, nn, rfl, hq, hne, hnum, hi⟩ |
    ⟨hta, htt⟩ | ⟨hh, hta, nn, hnum, hi⟩
  · -- character literal
    obtain ⟨hrange, hu⟩ := immText_ok_inv h _ _ hi
    have e := hopnd (noBlank_of_target (immText_target h _ _ hi))
    rw [hu] at e
    obtain ⟨rfl, e1, e2, rfl⟩ := canon_inv_imm h _ _ _ x sh hrange hin hLr hα e
    have hchb : isReSpace ch = false := target_not_space (htc ch (by simp))
    exact ⟨upperS M, .imm, q :: ch :: r3, (ch.toNat : Int),
      hparse .imm _ e1 (wordLike_charlit q ch r3 hq hchb hr3) e2 (fun _ => parseOperand_word_imm _)
        (fun e => absurd rfl e),
      by simp only [value, charLit, hq, hr3, and_self, if_true], henc⟩
  · -- immediate number / label
    obtain ⟨hrange, hu⟩ := immText_ok_inv h _ _ hi
    have e := hopnd (noBlank_of_target (immText_target h _ _ hi))
    rw [hu] at e
    obtain ⟨rfl, e1, e2, rfl⟩ := canon_inv_imm h _ _ _ x sh hrange hin hLr hα e
    have hrp := plain_of_number P hlab rest x (fun c hc => htc c (by simp [hc])) hnum
    obtain ⟨q0, rest', rfl⟩ := List.exists_cons_of_ne_nil hne
    have hq1 : q0 ≠ '\'' := fun e => hq.1 (by simp [e])
    have hq2 : q0 ≠ '"' := fun e => hq.2 (by simp [e])
    have hwl : WordLike ('#' :: q0 :: rest') :=
      wordLike_plain (by simp) (List.forall_mem_cons.mpr ⟨by decide, hrp⟩) (by simp [hq1]) (by simp [hq2])
    exact ⟨upperS M, .imm, q0 :: rest', x,
      hparse .imm _ e1 hwl e2 (fun _ => parseOperand_word_imm _) (fun e => absurd rfl e),
      by rw [value_imm_number P _ _ (fun e => e.elim hq1 hq2)]; exact hnum, henc⟩
  · -- accumulator
    have htt' := htt.symm
    subst htt'
    have e := hopnd (noBlank_of_target htc)
    have hu : upperS t = ['A'] := by rcases hta with rfl | rfl <;> rfl
    rw [hu] at e
    obtain ⟨rfl, e1, e2⟩ := canon_inv_acc _ _ x sh hLr e
    have hwl : WordLike t := by
      refine wordLike_plain htne ?_ (by rcases hta with rfl | rfl <;> simp) (by rcases hta with rfl | rfl <;> simp)
      rcases hta with rfl | rfl <;> decide
    exact ⟨upperS M, .acc, [], 0,
      hparse .acc _ e1 hwl e2 (fun _ => parseOperand_word_acc _ (by rcases hta with rfl | rfl <;> rfl))
        (fun e => absurd rfl e),
      rfl, by rw [← encode_acc_val]; exact henc⟩
  · -- address
    have hbd := numberL_bounded hwf hnum
    have hrange : 0 ≤ nn ∧ nn < 2 ^ (2 * W) := by rw [maxaddr_eq P hPw] at hbd; omega
    have hu := addrText_ok_inv h nn t' hrange hi
    have e := hopnd (noBlank_of_target (addrText_target h _ _ hi))
    rw [hu] at e
    obtain ⟨hsh, e1, e2, rfl⟩ := canon_inv_addr h _ _ _ x sh hrange hin hLr hα e
    have hwl : WordLike t :=
      wordLike_plain htne (plain_of_number P hlab t x htc hnum) (fun e => hh _ e) (fun e => hh _ e)
    refine ⟨upperS M, sh, t, x, ?_, ?_, henc⟩
    · rw [hnE]
      exact parse_structured_addr sh hsh M (' ' :: ws1') L t a hM hws (by simp) hLc e1 hwl hah e2 hta hh
    · cases sh <;> first | exact hnum | cases hsh

/-- **Never mis-assembles, every text.**  If the model of `Assembler.assemble` returns bytes for a
statement text `s`, then the token sequence of `s` denotes a statement `(m, sh, w)` in the documented
syntax, the operand word `w` has a value `x`, and the bytes are the documented encoding of
`(m, sh, x)` at `pc`. -/
theorem asm_sound_of_devOK (h : DevOK d v W) (P : Parser) (hPw : P.width = 2 * W) (hwf : P.WF) (hlab : LabelsNoParen P)
    (s : Str) (pc : Int) (bs : List Int) (hb : assembleL d P s pc = .ok bs) :
    ∃ m sh w x, parse s = some (m, sh, w) ∧ value P sh w = .ok x ∧ encode v W ⟨m, sh, x⟩ pc = .ok bs := by
  unfold assembleL at hb
  cases hn : normalizeAndSplit d P s with
  | ok oc od =>
    rw [hn] at hb
    simp only at hb
    obtain ⟨sh, x, hin, hod, henc⟩ := backend_sound h oc od pc bs hb
    rw [← parse_normWs]
    have hN1 : ∀ c ∈ normWs s, isReSpace c = true → c = ' ' := by
      rw [normWs_eq]; exact nrmAux_blank_is_space _ _
    unfold normalizeAndSplit at hn
    simp only at hn
    generalize normWs s = n at hn hN1 ⊢
    cases hm : matchStatement n with
    | none =>
      rw [hm] at hn
      simp only at hn
      rcases hsp : splitSp1 n with ⟨o, _ | r⟩
      · rw [hsp] at hn
        simp only [NRes.ok.injEq] at hn
        obtain ⟨rfl, rfl⟩ := hn
        have hs := splitSp1_spec n
        rw [hsp, List.append_nil] at hs
        obtain ⟨hosp, e⟩ := hs
        subst e
        obtain ⟨hM, henc'⟩ := fallback_opcode n n [] hN1 (by simp) hosp sh x pc bs henc
        have hs := canonText_nil hod.symm
        subst hs
        have := sound_bare P n [] hM blank_nil x pc bs henc'
        rwa [List.append_nil] at this
      · rw [hsp] at hn
        simp only [NRes.ok.injEq] at hn
        obtain ⟨rfl, rfl⟩ := hn
        have hs := splitSp1_spec n
        rw [hsp] at hs
        obtain ⟨hosp, e⟩ := hs
        obtain ⟨hM, henc'⟩ := fallback_opcode n o (' ' :: r) hN1 e hosp sh x pc bs henc
        obtain ⟨b1, b2, hb1, hb2, hr⟩ := strip_decomp r
        have := sound_rest h P hPw o b1 (strip r) b2 hM hb1 hb2 sh x pc bs hin hod henc'
        rwa [← hr, ← e] at this
    | some m =>
      obtain ⟨b, t, a⟩ := m
      rw [hm] at hn
      simp only at hn
      cases hr : retarget d P t with
      | ok t' =>
        rw [hr] at hn
        simp only at hn
        exact sound_match h P hPw hwf hlab n b t a t' hN1 hm hr oc od hn sh x pc bs hin hod henc
      | «syntax» => rw [hr] at hn; simp at hn
      | overflow => rw [hr] at hn; simp at hn
      | key => rw [hr] at hn; simp at hn
      | other w => rw [hr] at hn; simp at hn
  | «syntax» => rw [hn] at hb; cases hb
  | overflow => rw [hn] at hb; cases hb
  | key => rw [hn] at hb; cases hb
  | other w => rw [hn] at hb; cases hb

end paths

end Py65.Proofs.Asm
