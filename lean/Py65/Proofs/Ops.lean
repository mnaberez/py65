/-
Operation helpers of the generated model meet `Spec.exec` (aspect *sem*), at both widths.
Each lemma is stated for an arbitrary addressing-mode helper satisfying `ModeSem`, so a handler
theorem is an instance `op-lemma (mode-lemma)`.
-/
import Py65.Proofs.Modes

namespace Py65.Proofs
open Py65 Py65.Gen Py65.Spec Py

/-- Forcing bits 4 and 5 commutes with writing any other bit. -/
theorem normP_setFlag_of_ne (p : Int) {k : Nat} (b : Bool) (h4 : k ≠ bitB) (h5 : k ≠ bitU) :
    normP (setFlag p k b) = setFlag (normP p) k b := by
  simp only [normP]
  rw [setFlag_comm _ (Ne.symm h4), setFlag_comm _ (Ne.symm h5)]

theorem flag_normP_of_ne (p : Int) {k : Nat} (h4 : k ≠ bitB) (h5 : k ≠ bitU) :
    flag (normP p) k = flag p k := by
  simp only [normP]
  rw [flag_setFlag_ne _ h5, flag_setFlag_ne _ h4]

/-- The same with the architectural flags of either width listed, so that `by decide` finds `k`. -/
theorem normP_setFlag (p : Int) (k : Nat) (b : Bool) (hk : k ∈ [0, 1, 2, 3, 6, 7, 14, 15]) :
    normP (setFlag p k b) = setFlag (normP p) k b :=
  normP_setFlag_of_ne p b (by rintro rfl; exact absurd hk (by decide))
    (by rintro rfl; exact absurd hk (by decide))

theorem flag_normP (p : Int) (k : Nat) (hk : k ∈ [0, 1, 2, 3, 6, 7, 14, 15]) :
    flag (normP p) k = flag p k :=
  flag_normP_of_ne p (by rintro rfl; exact absurd hk (by decide))
    (by rintro rfl; exact absurd hk (by decide))

theorem normP_setNZ (W : Nat) (hW : W = 8 ∨ W = 16) (p v : Int) :
    normP (setNZ W p v) = setNZ W (normP p) v := by
  rcases hW with rfl | rfl <;>
  · simp only [setNZ, bitN, bitZ]
    rw [normP_setFlag _ _ _ (by decide), normP_setFlag _ _ _ (by decide)]

theorem IsDev.W {c : Cfg} (hc : IsDev c) : c.BYTE_WIDTH = 8 ∨ c.BYTE_WIDTH = 16 := by
  rcases hc with rfl | rfl <;> simp [pyarith]

/-- `ea` and the operand fetches do not look at the status register. -/
theorem ea_abs (W : Nat) (mo : Mode) (s : St) : ea W mo (abs s) = ea W mo (core s) := by
  cases mo <;> rfl
theorem nextPc_abs (W : Nat) (mo : Mode) (s : St) : nextPc W mo (abs s) = nextPc W mo (core s) := rfl

/-- The status masks of a device are the single bits the specification names. -/
theorem IsDev.masks {c : Cfg} (hc : IsDev c) :
    c.CARRY = 2 ^ bitC ∧ c.ZERO = 2 ^ bitZ ∧ c.INTERRUPT = 2 ^ bitI ∧ c.DECIMAL = 2 ^ bitD ∧
    c.OVERFLOW = 2 ^ bitV c.BYTE_WIDTH ∧ c.NEGATIVE = 2 ^ bitN c.BYTE_WIDTH := by
  rcases hc with rfl | rfl <;> decide

theorem land_test (p : Int) :
    ((land p 1 ≠ 0) = (flag p 0 = true)) ∧ ((land p 2 ≠ 0) = (flag p 1 = true)) ∧
    ((land p 64 ≠ 0) = (flag p 6 = true)) ∧ ((land p 128 ≠ 0) = (flag p 7 = true)) ∧
    ((land p 16384 ≠ 0) = (flag p 14 = true)) ∧ ((land p 32768 ≠ 0) = (flag p 15 = true)) := by
  exact ⟨propext (land_two_pow_ne_zero_iff p 0), propext (land_two_pow_ne_zero_iff p 1),
    propext (land_two_pow_ne_zero_iff p 6), propext (land_two_pow_ne_zero_iff p 7),
    propext (land_two_pow_ne_zero_iff p 14), propext (land_two_pow_ne_zero_iff p 15)⟩

theorem carry_test {c : Cfg} (hc : IsDev c) (p : Int) : land p c.CARRY ≠ 0 ↔ flag p bitC = true := by
  rw [hc.masks.1]; exact land_two_pow_ne_zero_iff p bitC

theorem carry_val {c : Cfg} (hc : IsDev c) (p : Int) :
    land p c.CARRY = if flag p bitC = true then 1 else 0 := by
  rw [hc.masks.1]; exact land_two_pow_eq_ite p bitC

theorem geB_half {c : Cfg} (hc : IsDev c) (d : Int) (hd : 0 ≤ d ∧ d ≤ c.byteMask) :
    geB d (2 ^ (c.BYTE_WIDTH - 1)) = flag d (bitN c.BYTE_WIDTH) := by
  rcases hc with rfl | rfl <;> (constfold at hd ⊢; bool_omega)

theorem top_test {c : Cfg} (hc : IsDev c) (m : Int) (hm : 0 ≤ m ∧ m ≤ c.byteMask) :
    land m c.NEGATIVE ≠ 0 ↔ geB m (2 ^ (c.BYTE_WIDTH - 1)) = true := by
  rw [geB_half hc m hm, hc.masks.2.2.2.2.2]; exact land_two_pow_ne_zero_iff m _

theorem low_test (m : Int) : land m 1 ≠ 0 ↔ eqB (m % 2) 1 = true := by
  have : eqB (m % 2) 1 = flag m 0 := by simp [flag]
  rw [this]; exact land_two_pow_ne_zero_iff m 0

theorem flag_zero (k : Nat) : flag 0 k = false := by
  simp [flag, eqB]

/-- `FlagsNZ` on integers: clear Z and N, then set Z or copy the top bit of `t`. -/
theorem nz_flags {c : Cfg} (hc : IsDev c) (q t : Int) (ht : 0 ≤ t ∧ t ≤ c.byteMask) :
    (if t = 0 then lor (land q (lnot (lor c.ZERO c.NEGATIVE))) c.ZERO
     else lor (land q (lnot (lor c.ZERO c.NEGATIVE))) (land t c.NEGATIVE)) = setNZ c.BYTE_WIDTH q t := by
  rw [setNZ, geB_half hc t ht]
  by_cases h0 : t = 0
  · subst h0
    rcases hc with rfl | rfl <;>
    · simp only [if_true]
      constfold
      simp only [flagalg, flag_zero]
      rfl
  · have hz : eqB t 0 = false := by simp [eqB, h0]
    rcases hc with rfl | rfl <;>
    · simp only [if_false, h0, hz]
      constfold
      simp only [flagalg, Bool.false_or]

theorem FlagsNZ_core (c : Cfg) (hc : IsDev c) (v : Int) (s : St) (hv : 0 ≤ v ∧ v ≤ c.byteMask) :
    core (Mpu6502.FlagsNZ c v s) = { core s with p := setNZ c.BYTE_WIDTH s.p v } := by
  rw [← nz_flags hc s.p v hv]
  by_cases h : v = 0 <;> simp only [Mpu6502.FlagsNZ, core, h, if_true, if_false]

/-- What a handler theorem says: for every well-formed state after the opcode fetch, the
handler's effect (PC reduced modulo the address space, status bits 4/5 forced) is `Spec.exec`. -/
def HandlerOK (c : Cfg) (v : Variant) (h : St → St) (mn : Mn) (mo : Mode) : Prop :=
  ∀ s, WF c s → absH c (h s) = exec c.BYTE_WIDTH v mn mo (abs s)

/-- Handler theorem under a precondition on the state after the opcode fetch (JSR: the pushed
cells are not the instruction's own operand bytes; ADC/SBC: decimal flag clear). -/
def HandlerOKp (c : Cfg) (v : Variant) (h : St → St) (mn : Mn) (mo : Mode) (P : St → Prop) : Prop :=
  ∀ s, WF c s → P s → absH c (h s) = exec c.BYTE_WIDTH v mn mo (abs s)

theorem HandlerOK.toP {c : Cfg} {v : Variant} {h : St → St} {mn : Mn} {mo : Mode}
    (hh : HandlerOK c v h mn mo) (P : St → Prop) : HandlerOKp c v h mn mo P :=
  fun s hs _ => hh s hs

/-- `pc += k` after the operation, as every handler does. -/
def bump (k : Int) (s : St) : St := { s with pc := s.pc + k }

theorem addrMask_succ {c : Cfg} (hc : IsDev c) : c.addrMask + 1 = AM c.BYTE_WIDTH := by
  rcases hc with rfl | rfl <;> simp [AM, pyarith]

section
variable (c : Cfg) (v : Int) (s : St)
@[simp] theorem FlagsNZ_a : (Mpu6502.FlagsNZ c v s).a = s.a := by unfold Mpu6502.FlagsNZ; simp only []; split <;> rfl
@[simp] theorem FlagsNZ_x : (Mpu6502.FlagsNZ c v s).x = s.x := by unfold Mpu6502.FlagsNZ; simp only []; split <;> rfl
@[simp] theorem FlagsNZ_y : (Mpu6502.FlagsNZ c v s).y = s.y := by unfold Mpu6502.FlagsNZ; simp only []; split <;> rfl
@[simp] theorem FlagsNZ_sp : (Mpu6502.FlagsNZ c v s).sp = s.sp := by unfold Mpu6502.FlagsNZ; simp only []; split <;> rfl
@[simp] theorem FlagsNZ_pc : (Mpu6502.FlagsNZ c v s).pc = s.pc := by unfold Mpu6502.FlagsNZ; simp only []; split <;> rfl
@[simp] theorem FlagsNZ_mem : (Mpu6502.FlagsNZ c v s).mem = s.mem := by unfold Mpu6502.FlagsNZ; simp only []; split <;> rfl
@[simp] theorem FlagsNZ_waiting : (Mpu6502.FlagsNZ c v s).waiting = s.waiting := by unfold Mpu6502.FlagsNZ; simp only []; split <;> rfl
theorem FlagsNZ_p (hc : IsDev c) (hv : 0 ≤ v ∧ v ≤ c.byteMask) :
    (Mpu6502.FlagsNZ c v s).p = setNZ c.BYTE_WIDTH s.p v := by
  have := congrArg AState.p (FlagsNZ_core c hc v s hv)
  simpa [core] using this
end

/-- Compute the fields of a helper's final state: unfold the helpers given, project through the
fetches, through `FlagsNZ` and through the code's `if`s on states, then use the hypotheses. -/
syntax (name := projSimpL) "proj_simp" "[" Lean.Parser.Tactic.simpLemma,* "]" : tactic
syntax (name := projSimpN) "proj_simp" : tactic
macro_rules (kind := projSimpL)
  | `(tactic| proj_simp [$ls,*]) =>
    `(tactic| simp only [$ls,*, absH, abs, bump, core, ByteAt_val, ByteAt_a, ByteAt_x, ByteAt_y,
      ByteAt_sp, ByteAt_p, ByteAt_pc, ByteAt_mem, ByteAt_waiting, FlagsNZ_a, FlagsNZ_x, FlagsNZ_y,
      FlagsNZ_sp, FlagsNZ_pc, FlagsNZ_mem, FlagsNZ_waiting, nextPc, apply_ite Prod.fst,
      apply_ite Prod.snd, apply_ite St.a, apply_ite St.x, apply_ite St.y, apply_ite St.sp,
      apply_ite St.p, apply_ite St.pc, apply_ite St.mem, apply_ite St.waiting, ite_self, *])
macro_rules (kind := projSimpN)
  | `(tactic| proj_simp) => `(tactic| proj_simp [core])

/-- LDA, LDX, LDY: the register, then N and Z, from the operand. -/
theorem ld_ok (c : Cfg) (hc : IsDev c) (v : Variant) (x : St → Int × St) (mo : Mode) (hx : ModeSem c x mo) :
    HandlerOK c v (fun s => bump (mo.len - 1) (Mpu6502.opLDA c x s)) .LDA mo ∧
    HandlerOK c v (fun s => bump (mo.len - 1) (Mpu6502.opLDX c x s)) .LDX mo ∧
    HandlerOK c v (fun s => bump (mo.len - 1) (Mpu6502.opLDY c x s)) .LDY mo := by
  refine ⟨?_, ?_, ?_⟩ <;>
  · intro s hs
    obtain ⟨hv, hcore⟩ := hx s hs
    obtain ⟨ha, hxx, hy, hsp, hp, hpc, hmem, hw⟩ := core_fields hcore
    have hm := hs.mem (ea c.BYTE_WIDTH mo (core s))
    simp only [exec, ea_abs, nextPc_abs]
    generalize ea c.BYTE_WIDTH mo (core s) = e at hv hm
    proj_simp [Mpu6502.opLDA, Mpu6502.opLDX, Mpu6502.opLDY]
    rw [FlagsNZ_p c _ _ hc (by simpa [hmem, hv] using hm)]
    simp only [normP_setNZ _ hc.W, addrMask_succ hc]

theorem opLDA_ok (c : Cfg) (hc : IsDev c) (v : Variant) (x : St → Int × St) (mo : Mode)
    (hx : ModeSem c x mo) :
    HandlerOK c v (fun s => bump (mo.len - 1) (Mpu6502.opLDA c x s)) .LDA mo := (ld_ok c hc v x mo hx).1
theorem opLDX_ok (c : Cfg) (hc : IsDev c) (v : Variant) (x : St → Int × St) (mo : Mode)
    (hx : ModeSem c x mo) :
    HandlerOK c v (fun s => bump (mo.len - 1) (Mpu6502.opLDX c x s)) .LDX mo := (ld_ok c hc v x mo hx).2.1
theorem opLDY_ok (c : Cfg) (hc : IsDev c) (v : Variant) (x : St → Int × St) (mo : Mode)
    (hx : ModeSem c x mo) :
    HandlerOK c v (fun s => bump (mo.len - 1) (Mpu6502.opLDY c x s)) .LDY mo := (ld_ok c hc v x mo hx).2.2

theorem logic_byte {c : Cfg} (hc : IsDev c) (x y : Int) (hx : 0 ≤ x ∧ x ≤ c.byteMask)
    (hy : 0 ≤ y ∧ y ≤ c.byteMask) :
    (0 ≤ lor x y ∧ lor x y ≤ c.byteMask) ∧ (0 ≤ land x y ∧ land x y ≤ c.byteMask) ∧
    (0 ≤ lxor x y ∧ lxor x y ≤ c.byteMask) := by
  have h := byte_pow hc
  have h1 := lor_range x y c.BYTE_WIDTH hx.1 (by omega) hy.1 (by omega)
  have h2 := lxor_range x y c.BYTE_WIDTH hx.1 (by omega) hy.1 (by omega)
  have h3 := land_nonneg x y hy.1
  have h4 := land_le_right x y hy.1
  omega

/-- ORA, AND, EOR: the accumulator combined with the operand, then N and Z. -/
theorem logic_ok (c : Cfg) (hc : IsDev c) (v : Variant) (x : St → Int × St) (mo : Mode)
    (hx : ModeSem c x mo) :
    HandlerOK c v (fun s => bump (mo.len - 1) (Mpu6502.opORA c x s)) .ORA mo ∧
    HandlerOK c v (fun s => bump (mo.len - 1) (Mpu6502.opAND c x s)) .AND mo ∧
    HandlerOK c v (fun s => bump (mo.len - 1) (Mpu6502.opEOR c x s)) .EOR mo := by
  refine ⟨?_, ?_, ?_⟩ <;>
  · intro s hs
    obtain ⟨hv, hcore⟩ := hx s hs
    obtain ⟨ha, hxx, hy, hsp, hp, hpc, hmem, hw⟩ := core_fields hcore
    obtain ⟨r1, r2, r3⟩ := logic_byte hc _ _ hs.a (hs.mem (ea c.BYTE_WIDTH mo (core s)))
    simp only [exec, ea_abs, nextPc_abs]
    generalize ea c.BYTE_WIDTH mo (core s) = e at hv r1 r2 r3
    proj_simp [Mpu6502.opORA, Mpu6502.opAND, Mpu6502.opEOR]
    rw [FlagsNZ_p c _ _ hc (by assumption)]
    simp only [normP_setNZ _ hc.W, addrMask_succ hc]

theorem opORA_ok (c : Cfg) (hc : IsDev c) (v : Variant) (x : St → Int × St) (mo : Mode)
    (hx : ModeSem c x mo) :
    HandlerOK c v (fun s => bump (mo.len - 1) (Mpu6502.opORA c x s)) .ORA mo := (logic_ok c hc v x mo hx).1
theorem opAND_ok (c : Cfg) (hc : IsDev c) (v : Variant) (x : St → Int × St) (mo : Mode)
    (hx : ModeSem c x mo) :
    HandlerOK c v (fun s => bump (mo.len - 1) (Mpu6502.opAND c x s)) .AND mo := (logic_ok c hc v x mo hx).2.1
theorem opEOR_ok (c : Cfg) (hc : IsDev c) (v : Variant) (x : St → Int × St) (mo : Mode)
    (hx : ModeSem c x mo) :
    HandlerOK c v (fun s => bump (mo.len - 1) (Mpu6502.opEOR c x s)) .EOR mo := (logic_ok c hc v x mo hx).2.2

theorem st_ok (c : Cfg) (hc : IsDev c) (v : Variant) (x : St → Int × St) (mo : Mode) (hx : ModeSem c x mo) :
    HandlerOK c v (fun s => bump (mo.len - 1) (Mpu6502.opSTA c x s)) .STA mo ∧
    HandlerOK c v (fun s => bump (mo.len - 1) (Mpu6502.opSTX c x s)) .STX mo ∧
    HandlerOK c v (fun s => bump (mo.len - 1) (Mpu6502.opSTY c x s)) .STY mo := by
  refine ⟨?_, ?_, ?_⟩ <;>
  · intro s hs
    obtain ⟨hv, hcore⟩ := hx s hs
    obtain ⟨ha, hxx, hy, hsp, hp, hpc, hmem, hw⟩ := core_fields hcore
    simp only [exec, ea_abs, nextPc_abs]
    generalize ea c.BYTE_WIDTH mo (core s) = e at hv
    proj_simp [Mpu6502.opSTA, Mpu6502.opSTX, Mpu6502.opSTY, memSet, write]
    simp only [addrMask_succ hc]

theorem opSTA_ok (c : Cfg) (hc : IsDev c) (v : Variant) (x : St → Int × St) (mo : Mode)
    (hx : ModeSem c x mo) :
    HandlerOK c v (fun s => bump (mo.len - 1) (Mpu6502.opSTA c x s)) .STA mo := (st_ok c hc v x mo hx).1
theorem opSTX_ok (c : Cfg) (hc : IsDev c) (v : Variant) (x : St → Int × St) (mo : Mode)
    (hx : ModeSem c x mo) :
    HandlerOK c v (fun s => bump (mo.len - 1) (Mpu6502.opSTX c x s)) .STX mo := (st_ok c hc v x mo hx).2.1
theorem opSTY_ok (c : Cfg) (hc : IsDev c) (v : Variant) (x : St → Int × St) (mo : Mode)
    (hx : ModeSem c x mo) :
    HandlerOK c v (fun s => bump (mo.len - 1) (Mpu6502.opSTY c x s)) .STY mo := (st_ok c hc v x mo hx).2.2

theorem opCMPR_core (c : Cfg) (hc : IsDev c) (x : St → Int × St) (mo : Mode) (hx : ModeSem c x mo)
    (r : Int) (hr : 0 ≤ r ∧ r ≤ c.byteMask) (s : St) (hs : WF c s) :
    core (Mpu6502.opCMPR c x r s) =
      { core s with p := cmpFlags c.BYTE_WIDTH s.p r (s.mem (ea c.BYTE_WIDTH mo (core s))) } := by
  obtain ⟨hv, hcore⟩ := hx s hs
  obtain ⟨ha, hxx, hy, hsp, hp, hpc, hmem, hw⟩ := core_fields hcore
  have hm := hs.mem (ea c.BYTE_WIDTH mo (core s))
  generalize ea c.BYTE_WIDTH mo (core s) = e at hv hm
  simp only [Mpu6502.opCMPR, ByteAt_val, ByteAt_p, hp, hmem, hv]
  generalize s.mem e = m at hm
  rcases hc with rfl | rfl <;>
  · constfold [cmpFlags, setNZ] at hr hm ⊢
    simp only [flagalg]
    split_ifs <;> simp [core, flagalg, *] <;> flag_close

theorem normP_cmpFlags (W : Nat) (hW : W = 8 ∨ W = 16) (p r m : Int) :
    normP (cmpFlags W p r m) = cmpFlags W (normP p) r m := by
  rcases hW with rfl | rfl <;>
  · simp only [cmpFlags, normP_setNZ _ (by decide : (8:Nat) = 8 ∨ (8:Nat) = 16),
      normP_setNZ _ (by decide : (16:Nat) = 8 ∨ (16:Nat) = 16), bitC]
    rw [normP_setFlag _ _ _ (by decide)]

/-- CMP, CPX, CPY: `opCMPR` on the register `r`. -/
theorem cmpr_ok (c : Cfg) (hc : IsDev c) (v : Variant) (x : St → Int × St) (mo : Mode) (hx : ModeSem c x mo)
    (mn : Mn) (r : St → Int) (rA : AState → Int) (hr : ∀ s, WF c s → 0 ≤ r s ∧ r s ≤ c.byteMask)
    (hrA : ∀ s, rA (abs s) = r s)
    (hexec : ∀ A, exec c.BYTE_WIDTH v mn mo A =
      { A with p := cmpFlags c.BYTE_WIDTH A.p (rA A) (A.mem (ea c.BYTE_WIDTH mo A)),
               pc := nextPc c.BYTE_WIDTH mo A }) :
    HandlerOK c v (fun s => bump (mo.len - 1) (Mpu6502.opCMPR c x (r s) s)) mn mo := by
  intro s hs
  obtain ⟨ha, hxx, hy, hsp, hp, hpc, hmem, hw⟩ := core_eq (opCMPR_core c hc x mo hx (r s) (hr s hs) s hs)
  rw [hexec, hrA, ea_abs, nextPc_abs]
  simp only [absH, abs, bump, core, nextPc, ha, hxx, hy, hsp, hp, hpc, hmem, hw,
    normP_cmpFlags _ hc.W, addrMask_succ hc]

theorem opCMP_ok (c : Cfg) (hc : IsDev c) (v : Variant) (x : St → Int × St) (mo : Mode)
    (hx : ModeSem c x mo) :
    HandlerOK c v (fun s => bump (mo.len - 1) (Mpu6502.opCMPR c x s.a s)) .CMP mo :=
  cmpr_ok c hc v x mo hx .CMP St.a AState.a (fun _ hs => hs.a) (fun _ => rfl) (fun _ => rfl)

theorem opCPX_ok (c : Cfg) (hc : IsDev c) (v : Variant) (x : St → Int × St) (mo : Mode)
    (hx : ModeSem c x mo) :
    HandlerOK c v (fun s => bump (mo.len - 1) (Mpu6502.opCMPR c x s.x s)) .CPX mo :=
  cmpr_ok c hc v x mo hx .CPX St.x AState.x (fun _ hs => hs.x) (fun _ => rfl) (fun _ => rfl)

theorem opCPY_ok (c : Cfg) (hc : IsDev c) (v : Variant) (x : St → Int × St) (mo : Mode)
    (hx : ModeSem c x mo) :
    HandlerOK c v (fun s => bump (mo.len - 1) (Mpu6502.opCMPR c x s.y s)) .CPY mo :=
  cmpr_ok c hc v x mo hx .CPY St.y AState.y (fun _ hs => hs.y) (fun _ => rfl) (fun _ => rfl)

end Py65.Proofs
