/-
Tie by regeneration, C20: the GENERATED `_shortcuts` table and `_preprocess_line`
(`Py65/Gen/MonPreGen.lean`, translated from py65/monitor.py by `harness/py2lean_mon.py` on every
run) equal the hand-written model `Py65.Model.MonCmd.shortcuts / preprocessL`, for ALL lines.

These equalities are the proof obligations a change of `Monitor._add_shortcuts` /
`Monitor._preprocess_line` breaks; `Py65/Props/C20g.lean` rewrites the property theorems with them.
-/
import Py65.Gen.MonPreGen
import Py65.Proofs.MonCmdLemmas
import Py65.Proofs.PyDataLemmas

namespace Py65.Proofs.MonPreGenEq
open Py65 Py65.Model Py65.Model.PyStr Py65.Model.MonCmd Py65.Model.MonGenRt Py65.Gen Py65.Proofs.MonCmd

theorem shortcuts_eq : MonPreGen._shortcuts = MonCmd.shortcuts := rfl

/-- The generated `for pos, char in enumerate(line)` loop, started at position `|pre|` of the line
`pre ++ cs` with the characters `cs` still to come, leaves `pre` followed by what the model's
`stripComment` keeps of `cs`. -/
theorem for1_eq : ∀ (cs pre : Str) (quoted : Bool),
    (MonPreGen._preprocess_line_for1 (pre.length : Int) cs quoted (pre ++ cs)).2 =
      pre ++ stripComment quoted cs := by
  intro cs
  induction cs with
  | nil => intro pre quoted; simp [MonPreGen._preprocess_line_for1, stripComment]
  | cons c cs ih =>
    intro pre quoted
    have hq : (if c = '"' ∨ c = '\'' then !quoted else quoted) = (if isQuote c = true then !quoted else quoted) := by
      simp [isQuote]
    unfold MonPreGen._preprocess_line_for1
    simp only [stripComment]
    rw [hq]
    generalize (if isQuote c = true then !quoted else quoted) = q
    by_cases hc : (!q) = true ∧ c = ';'
    · obtain ⟨h1, h2⟩ := hc
      simp [h1, h2, pySliceTo_prefix]
    · have hc' : ¬ ((!q && decide (c = ';')) = true) := by
        simpa [Bool.and_eq_true] using hc
      simp only [hc, if_false, hc']
      have e : pre ++ c :: cs = (pre ++ [c]) ++ cs := by simp
      have el : ((pre.length : Int) + 1) = ((pre ++ [c]).length : Int) := by simp
      rw [e, el, ih (pre ++ [c]) q]
      simp

/-- One round: the generated `line == shortcut` / `re.match` / `line[end:]` code is the model's
`applyShortcut`. -/
theorem for2_eq : ∀ (l : List (Str × Str)) (line : Str),
    MonPreGen._preprocess_line_for2 l line = shortcutLoop l line := by
  intro l
  induction l with
  | nil => intro line; rfl
  | cons p rest ih =>
    intro line
    obtain ⟨sc, cmd⟩ := p
    unfold MonPreGen._preprocess_line_for2 shortcutLoop applyShortcut
    by_cases h : line = sc
    · simp only [h, if_true]
    · simp only [h, if_false, reMatchLitSpaces]
      cases hd : dropPrefix? line sc with
      | none => simp only [ih]
      | some r =>
        have hl : line = sc ++ r := dropPrefix?_eq_some.mp hd
        by_cases hw : r.takeWhile isReSpace = []
        · simp only [hw, if_true, ih]
        · simp only [hw, if_false]
          have e1 : sc ++ r = (sc ++ r.takeWhile isReSpace) ++ r.dropWhile isReSpace := by
            rw [List.append_assoc, List.takeWhile_append_dropWhile]
          have e2 : ((sc.length + (r.takeWhile isReSpace).length : Nat) : Int) =
              ((sc ++ r.takeWhile isReSpace).length : Int) := by simp
          rw [hl]
          conv => lhs; rw [e1]
          simp only [e2, pySliceFrom_prefix]
          simp

theorem blank_pred : (fun c => " \t".toList.contains c) = isBlank := by
  funext c
  simp [isBlank, Bool.or_comm]

theorem stripBlank_eq (s : Str) : pyStripChars " \t".toList s = stripBlank s := by
  simp only [pyStripChars, pyRstripChars, pyLstripChars, stripBlank, rstripP, lstripP, blank_pred]

theorem lstripDot_eq (s : Str) : pyLstripChars ".".toList s = lstripP (· = '.') s := by
  simp only [pyLstripChars, lstripP]
  congr 1
  funext c
  simp

theorem tilde_eq (line : Str) :
    (if startsWith line "~".toList = true then ("tilde".toList ++ " ".toList) ++ pySliceFrom line 1 else line) =
      tildeCase line := by
  have ht : "~".toList = ['~'] := rfl
  rw [ht]
  cases line with
  | nil => simp [startsWith, tildeCase]
  | cons c rest =>
    have hsw : startsWith (c :: rest) ['~'] = (c == '~') := by simp [startsWith]
    rw [hsw, pySliceFrom_one]
    by_cases h : c = '~'
    · subst h; simp [tildeCase, tilde]
    · simp [tildeCase, h]

/-- `GenEq` for `_preprocess_line`: the generated function IS the model's `preprocessL`, for
every line (no hypothesis). -/
theorem preprocess_eq : MonPreGen._preprocess_line = preprocessL := by
  funext line
  unfold MonPreGen._preprocess_line preprocessL cleaned
  have h1 := for1_eq line [] false
  simp only [List.length_nil, Nat.cast_zero, List.nil_append] at h1
  simp only [h1, stripBlank_eq, lstripDot_eq, tilde_eq, for2_eq, shortcuts_eq]

end Py65.Proofs.MonPreGenEq
