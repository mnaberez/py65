/-
Tie by regeneration, C19: the GENERATED display functions

* `Py65/Gen/ReprGen.lean`    -- `MPU.__repr__` / `reprformat` of the three device classes
                                (py65/devices/mpu6502.py, mpu65c02.py, mpu65org16.py),
* `Py65/Gen/MonShowGen.lean` -- `Monitor._output_mpu_status`, `do_cycles`, `do_tilde`, `do_disassemble`
                                (py65/monitor.py),

both translated by `harness/py2lean_show.py` on every run, equal the hand-written models
`Py65.Model.Fmt` (`repr`, `status`, `cyclesText`) and `Py65.Model.Show` (`doTilde`, `walk`,
`doDisassemble`), for ALL arguments.  Other translated code enters the generated functions as
parameters (`itoa`, `mpurepr`, `iat`, `fmtdis`); the equalities hold for EVERY value of the parameters
that are only called (`iat`, `fmtdis`: any disassembler, any line formatter), and for every `itoa` /
`mpurepr` that is what `DisasmGenEq.itoa_eq_*` resp. `repr_eq_*` below prove of the generated ones
(`Py65/Props/C19g.lean` does the instantiation).
These are the proof obligations a change of those Python functions breaks.
-/
import Py65.Gen.ReprGen
import Py65.Gen.MonShowGen
import Py65.Model.Show
import Py65.Proofs.FmtLemmas
import Py65.Proofs.MonRunLemmas
import Py65.Proofs.PyDataLemmas

namespace Py65.Proofs.ReprGenEq
open Py65 Py65.Model Py65.Model.PyStr Py65.Model.AddrParser Py65.Model.MonMem Py65.Model.MonGenRt
open Py65.Model.ShowRt Py65.Model.Show Py65.Gen

theorem pyFmtX_nonneg (w : Nat) {v : Int} (h : 0 ≤ v) : pyFmtX w v = fmtHexL w v.toNat := by
  have h' : ¬ (v < 0) := by omega
  simp only [pyFmtX, fmtHexInt, h', if_false]

theorem pyFmtD_nat (n : Nat) : pyFmtD (n : Int) = fmtDecL n := by
  have h : ¬ ((n : Int) < 0) := by omega
  simp only [pyFmtD, h, if_false, Int.toNat_natCast]

theorem pyFmtD_eq (v : Int) : pyFmtD v = digitsInt 10 v := rfl

theorem pyFmtO_eq (w : Nat) (v : Int) : pyFmtO w v = fmtOctInt w v := rfl

theorem pyStrMul_blank (n : Nat) : pyStrMul " ".toList (n : Int) = List.replicate n ' ' := by
  simp only [pyStrMul, Int.toNat_natCast]
  induction n with
  | zero => rfl
  | succ k ih => rw [List.replicate_succ, List.flatten_cons, ih]; rfl

theorem pySplitChar_ne_nil (sep : Char) (s : Str) : pySplitChar sep s ≠ [] := by
  induction s with
  | nil => simp [pySplitChar]
  | cons c cs ih =>
    unfold pySplitChar
    by_cases h : c = sep
    · simp [h]
    · simp only [h, if_false]
      cases hh : pySplitChar sep cs <;> simp

/-- The exception a refusal of `AddressParser.number` is (as in `MonRunGenEq`). -/
def numberExc : Res → Exc
  | .key => .KeyError
  | .overflow => .OverflowError
  | _ => .Other

theorem parseNumber_eq (P : Parser) (s : Str) :
    parseNumber P s = match numberL P s with
      | .ok v => .ok v
      | r => .error (numberExc r) := by
  unfold parseNumber
  cases numberL P s <;> rfl

def regsOf (s : St) : Fmt.Regs :=
  { pc := s.pc.toNat, a := s.a.toNat, x := s.x.toNat, y := s.y.toNat, sp := s.sp.toNat, p := s.p.toNat }

/-- No register attribute is negative (C05: every register stays within its width). -/
def NonNeg (s : St) : Prop := 0 ≤ s.pc ∧ 0 ≤ s.a ∧ 0 ≤ s.x ∧ 0 ≤ s.y ∧ 0 ≤ s.sp ∧ 0 ≤ s.p

/-- What the equalities assume of the parameter `itoa`: base 2 prints the binary digits.  True of the
generated `itoa` (`DisasmGenEq.itoa_eq_bin`). -/
def ItoaBin (itoa : Int → Int → Except Exc Str) : Prop := ∀ n : Nat, itoa (n : Int) 2 = .ok (fmtBinL n)

/-- The class constants the translator resolved along the class statements are those of the display
model's device records, and the two `reprformat` templates are the model's header lines between
the conversion specifiers. -/
theorem repr_consts_eq :
    ReprGen.dev6502.name = Fmt.dev6502.name ∧ ReprGen.dev6502.BYTE_WIDTH = (Fmt.dev6502.byteWidth : Int) ∧
    ReprGen.dev65c02.name = Fmt.dev65c02.name ∧ ReprGen.dev65c02.BYTE_WIDTH = (Fmt.dev65c02.byteWidth : Int) ∧
    ReprGen.dev65org16.name = Fmt.dev65org16.name ∧ ReprGen.dev65org16.BYTE_WIDTH = (Fmt.dev65org16.byteWidth : Int) ∧
    ReprGen.Mpu6502.reprformat =
      "%s".toList ++ Fmt.header8 ++ "\n%s: %04x %02x %02x %02x %02x %s".toList ∧
    ReprGen.Mpu65org16.reprformat =
      "%s".toList ++ Fmt.header16 ++ "\n%s: %08x %04x %04x %04x %04x %s".toList := by
  decide +kernel

/-- The body of `MPU.__repr__` as the translator prints it for a class whose constants are those of the
display device `fd` (`bw` stands for `BYTE_WIDTH`, `hdr` for the text between the first `%s` and the
second): the display model's two lines.  The three generated `__repr__` are instances. -/
theorem repr_shape (fd : Fmt.Dev) (itoa : Int → Int → Except Exc Str) (hit : ItoaBin itoa) (s : St) (hs : NonNeg s)
    (bw : Int) (hbw : bw = (fd.byteWidth : Int)) (hdr : Str) (hhdr : hdr = fd.header ++ ['\n']) :
    (match itoa s.p 2 with
     | .error e => .raise e s
     | .ok t =>
       .ok (pyStrMul " ".toList ((fd.name.length : Int) + 2) ++ hdr ++ fd.name ++ ": ".toList ++
         pyFmtX fd.addrDigits s.pc ++ " ".toList ++ pyFmtX fd.byteDigits s.a ++ " ".toList ++
         pyFmtX fd.byteDigits s.x ++ " ".toList ++ pyFmtX fd.byteDigits s.y ++ " ".toList ++
         pyFmtX fd.byteDigits s.sp ++ " ".toList ++ pyRjust t bw '0') s : Flow St Str) =
      .ok (Fmt.repr fd (regsOf s)) s := by
  obtain ⟨h1, h2, h3, h4, h5, h6⟩ := hs
  have hp := hit s.p.toNat
  rw [Int.toNat_of_nonneg h6] at hp
  have hl : ((fd.name.length : Int) + 2) = ((fd.name.length + 2 : Nat) : Int) := by push_cast; rfl
  rw [hp, hl, pyStrMul_blank, hbw, hhdr]
  simp only [Fmt.repr, Fmt.reprLine1, Fmt.reprLine2, Fmt.indent, Fmt.flags, regsOf, pyFmtX_nonneg, h1, h2, h3, h4, h5,
    pyRjust, Int.toNat_natCast, List.append_assoc]
  rfl

/-- `GenEq` for `__repr__` on a `py65.devices.mpu6502.MPU`: the display model's two lines. -/
theorem repr_eq_6502 (itoa : Int → Int → Except Exc Str) (hit : ItoaBin itoa) (s : St) (hs : NonNeg s) :
    ReprGen.dev6502.__repr__ itoa s = .ok (Fmt.repr Fmt.dev6502 (regsOf s)) s :=
  repr_shape Fmt.dev6502 itoa hit s hs 8 rfl _ (by decide +kernel)

/-- `GenEq` for `__repr__` on a `py65.devices.mpu65c02.MPU` (inherits both methods). -/
theorem repr_eq_65c02 (itoa : Int → Int → Except Exc Str) (hit : ItoaBin itoa) (s : St) (hs : NonNeg s) :
    ReprGen.dev65c02.__repr__ itoa s = .ok (Fmt.repr Fmt.dev65c02 (regsOf s)) s :=
  repr_shape Fmt.dev65c02 itoa hit s hs 8 rfl _ (by decide +kernel)

/-- `GenEq` for `__repr__` on a `py65.devices.mpu65org16.MPU` (inherits `__repr__`, overrides
`reprformat`; `BYTE_WIDTH = 16`). -/
theorem repr_eq_65org16 (itoa : Int → Int → Except Exc Str) (hit : ItoaBin itoa) (s : St) (hs : NonNeg s) :
    ReprGen.dev65org16.__repr__ itoa s = .ok (Fmt.repr Fmt.dev65org16 (regsOf s)) s :=
  repr_shape Fmt.dev65org16 itoa hit s hs 16 rfl _ (by decide +kernel)

/-- `repr(mpu)` as the monitor calls it: the value, or the exception that left `__repr__`. -/
def reprOf (f : St → Flow St Str) (s : St) : Except Exc Str :=
  match f s with
  | .ok v _ => .ok v
  | .raise e _ => .error e
  | .nofuel => .error .Other

/-- `GenEq` for `_output_mpu_status`: for every `mpurepr` that returns the display model's `repr`
(as the three generated `__repr__` do: `repr_eq_*`), one more output "line" `"\n" + repr(mpu)`; with
`_output`'s newline that is `Fmt.status` (`status_text`). -/
theorem output_mpu_status_eq (itoa : Int → Int → Except Exc Str) (mpurepr : St → Except Exc Str)
    (iat : St → Int → Except Exc (Int × Str)) (fmtdis : St → Int → Int → Str → Except Exc Str) (d : Dev) (P : Parser)
    (fd : Fmt.Dev) (σ : ShowSt) (hr : mpurepr σ.mpu = .ok (Fmt.repr fd (regsOf σ.mpu))) :
    MonShowGen._output_mpu_status itoa mpurepr iat fmtdis d P σ =
      .ok () { mpu := σ.mpu, out := σ.out ++ ['\n' :: Fmt.repr fd (regsOf σ.mpu)] } := by
  unfold MonShowGen._output_mpu_status
  rw [hr]
  rfl

theorem output_mpu_status_raise (itoa : Int → Int → Except Exc Str) (mpurepr : St → Except Exc Str)
    (iat : St → Int → Except Exc (Int × Str)) (fmtdis : St → Int → Int → Str → Except Exc Str) (d : Dev) (P : Parser)
    (σ : ShowSt) (e : Exc) (hr : mpurepr σ.mpu = .error e) :
    MonShowGen._output_mpu_status itoa mpurepr iat fmtdis d P σ = .raise e σ := by
  unfold MonShowGen._output_mpu_status
  rw [hr]

theorem status_text (fd : Fmt.Dev) (r : Fmt.Regs) : ('\n' :: Fmt.repr fd r) ++ ['\n'] = Fmt.status fd r := by
  simp [Fmt.status]

/-- `GenEq` for `do_cycles`: one line, `str(processorCycles)` = the display model's `cyclesText`
(no hypothesis on the parameters; the counter is not negative). -/
theorem do_cycles_eq (itoa : Int → Int → Except Exc Str) (mpurepr : St → Except Exc Str)
    (iat : St → Int → Except Exc (Int × Str)) (fmtdis : St → Int → Int → Str → Except Exc Str) (d : Dev) (P : Parser)
    (args : Str) (σ : ShowSt) (hc : 0 ≤ σ.mpu.cycles) :
    MonShowGen.do_cycles itoa mpurepr iat fmtdis d P args σ =
      .ok () { mpu := σ.mpu, out := σ.out ++ [Fmt.cyclesText σ.mpu.cycles.toNat] } := by
  obtain ⟨n, hn⟩ := Int.eq_ofNat_of_zero_le hc
  unfold MonShowGen.do_cycles
  rw [hn, pyFmtD_nat]
  rfl

/-- What the equality assumes of `itoa` here: base 2 prints sign and binary digits of ANY int. -/
def ItoaBinInt (itoa : Int → Int → Except Exc Str) : Prop := ∀ v : Int, itoa v 2 = .ok (digitsInt 2 v)

def tildeFlow (σ : ShowSt) : TildeOut → Flow ShowSt Unit
  | .lines l => .ok () { mpu := σ.mpu, out := σ.out ++ l }
  | .raised r => .raise (numberExc r) σ

/-- `GenEq` for `do_tilde`, for ALL argument strings, parsers and monitor states: the usage text for
an empty argument; the four lines of the model for a number; "Bad label" / "Overflow error" for the
two exceptions the command catches; any other exception of the parser leaves the command. -/
theorem do_tilde_eq (itoa : Int → Int → Except Exc Str) (hit : ItoaBinInt itoa) (mpurepr : St → Except Exc Str)
    (iat : St → Int → Except Exc (Int × Str)) (fmtdis : St → Int → Int → Str → Except Exc Str) (d : Dev) (P : Parser)
    (args : Str) (σ : ShowSt) :
    MonShowGen.do_tilde itoa mpurepr iat fmtdis d P args σ = tildeFlow σ (doTilde d.byteFmtW P args) := by
  unfold MonShowGen.do_tilde doTilde
  have hnil : "".toList = ([] : Str) := rfl
  rw [hnil]
  by_cases h : args = []
  · simp only [h, if_true, MonShowGen.help_tilde, tildeFlow, helpTilde, List.append_assoc, List.cons_append,
      List.nil_append]
  · simp only [h, if_false, parseNumber_eq]
    cases hn : numberL P args with
    | ok n =>
      simp only [hit n, tildeFlow, tildeLines, pyFmtD_eq, pyFmtO_eq, pyFmtX, pyZfill, List.append_assoc,
        List.cons_append, List.nil_append]
      rfl
    | key | overflow | other => simp [numberExc, tildeFlow]

section Disassemble
variable (itoa : Int → Int → Except Exc Str) (mpurepr : St → Except Exc Str)
  (iat : St → Int → Except Exc (Int × Str)) (fmtdis : St → Int → Int → Str → Except Exc Str) (d : Dev) (P : Parser)

/-- The inner loop `while remaining:` ends iff the length is not negative and fits into the fuel (a negative
length never reaches 0: Python does not terminate); it then makes that many increments of the address,
exactly the model's `advance`, and does not touch the monitor state. -/
theorem while2_eq (start end_ maxA : Int) :
    ∀ (fuel : Nat) (r cur : Int) (nw : Bool) (σ : ShowSt),
      MonShowGen.do_disassemble_while2 itoa mpurepr iat fmtdis d P start end_ maxA fuel r cur nw σ =
        if 0 ≤ r ∧ r < fuel then
          .ok (0, (advance maxA (decide (start > end_)) r.toNat cur nw).1,
                  (advance maxA (decide (start > end_)) r.toNat cur nw).2) σ
        else .nofuel := by
  intro fuel
  induction fuel with
  | zero =>
    intro r cur nw σ
    have h : ¬ (0 ≤ r ∧ r < ((0 : Nat) : Int)) := by omega
    rw [if_neg h]
    rfl
  | succ f ih =>
    intro r cur nw σ
    unfold MonShowGen.do_disassemble_while2
    by_cases hr : r = 0
    · subst hr
      have h : (0 : Int) ≤ 0 ∧ (0 : Int) < ((f + 1 : Nat) : Int) := by omega
      simp only [ne_eq, not_true_eq_false, if_false, h, and_self, if_true, Int.toNat_zero, advance]
    · have hcond : (0 ≤ r - 1 ∧ r - 1 < (f : Int)) ↔ (0 ≤ r ∧ r < ((f + 1 : Nat) : Int)) := by omega
      simp only [hr, ne_eq, not_false_eq_true, if_true, ih, hcond]
      by_cases h : 0 ≤ r ∧ r < ((f + 1 : Nat) : Int)
      · obtain ⟨n, hn⟩ : ∃ n : Nat, r.toNat = n + 1 := ⟨r.toNat - 1, by omega⟩
        have hn' : (r - 1).toNat = n := by omega
        simp only [h, and_self, if_true, hn, hn', advance, decide_eq_true_eq]
        by_cases hc : start > end_ ∧ cur + 1 > maxA
        · simp only [hc, and_self, if_true]
        · simp only [hc, if_false]
      · simp only [h, if_false]

def walkFlow (σ : ShowSt) (r : List Str × WalkEnd Exc) : Flow ShowSt Unit :=
  match r.2 with
  | .done => .ok () { mpu := σ.mpu, out := σ.out ++ r.1 }
  | .raised e => .raise e { mpu := σ.mpu, out := σ.out ++ r.1 }
  | .nofuel => .nofuel

theorem walkFlow_cons (σ : ShowSt) (line : Str) (r : List Str × WalkEnd Exc) :
    walkFlow σ (line :: r.1, r.2) = walkFlow { mpu := σ.mpu, out := σ.out ++ [line] } r := by
  unfold walkFlow
  cases r.2 <;> simp

/-- The outer loop `while needs_wrap or cur_address <= end:` (its final loop variables dropped, as
`do_disassemble` does) is the model's `walk`, for every fuel, address, flag, state, disassembler and
line formatter. -/
theorem while1_eq (start end_ maxA : Int) :
    ∀ (fuel : Nat) (cur : Int) (nw : Bool) (σ : ShowSt),
      (MonShowGen.do_disassemble_while1 itoa mpurepr iat fmtdis d P end_ start maxA fuel cur nw σ).bind
          (fun _ σ => Flow.ok () σ) =
        walkFlow σ (walk (iat σ.mpu) (fmtdis σ.mpu) maxA start end_ fuel cur nw) := by
  intro fuel
  induction fuel with
  | zero => intro cur nw σ; rfl
  | succ f ih =>
    intro cur nw σ
    unfold MonShowGen.do_disassemble_while1 walk
    by_cases hc : nw = true ∨ cur ≤ end_
    · simp only [hc, if_true]
      cases hi : iat σ.mpu cur with
      | error e => simp [walkFlow]
      | ok t =>
        obtain ⟨len, text⟩ := t
        simp only []
        cases hf : fmtdis σ.mpu cur len text with
        | error e => simp [walkFlow]
        | ok line =>
          simp only []
          rw [while2_eq itoa mpurepr iat fmtdis d P start end_ maxA f len cur nw]
          by_cases hl : 0 ≤ len ∧ len < (f : Int)
          · simp only [hl, and_self, if_true, Flow.bind_ok]
            rw [ih]
            exact (walkFlow_cons σ line _).symm
          · simp [hl, walkFlow]
    · simp [hc, walkFlow]

def helpDis : List Str := helpDisassemble

def disFlow (σ : ShowSt) : DisOut Exc → Flow ShowSt Unit
  | .help => .ok () { mpu := σ.mpu, out := σ.out ++ helpDisassemble }
  | .shlexError => .raise .ValueError σ
  | .refused r => .raise (numberExc r) σ
  | .walked lines e => walkFlow σ (lines, e)

/-- `GenEq` for `do_disassemble`, for ALL argument strings, parsers, monitor states, fuels and for every
disassembler `iat` and line formatter `fmtdis`: `shlex.split` raising is the `ValueError`; anything but
one token is the usage text; a start or end the address parser refuses is that exception (nothing
printed); otherwise the model's walk from `start`. -/
theorem do_disassemble_eq (fuel : Nat) (args : Str) (σ : ShowSt) :
    MonShowGen.do_disassemble itoa mpurepr iat fmtdis d P fuel args σ =
      disFlow σ (doDisassemble (iat σ.mpu) (fmtdis σ.mpu) d.AW P fuel args) := by
  unfold MonShowGen.do_disassemble doDisassemble disRange
  cases hs : MonCmd.shlexSplit args with
  | none => rfl
  | some toks =>
    simp only []
    match toks with
    | [] | _ :: _ :: _ =>
      refine (if_pos (by simp only [List.length_cons, List.length_nil]; omega)).trans ?_
      simp only [disFlow, MonShowGen.help_disassemble, helpDisassemble, List.append_assoc, List.cons_append,
        List.nil_append]
    | [tok] =>
      simp only [List.length_singleton, Nat.cast_one, ne_eq, not_true_eq_false, if_false, pyGetItem_zero]
      cases hp : pySplitChar ':' tok with
      | nil => exact absurd hp (pySplitChar_ne_nil _ _)
      | cons s0 rest =>
        simp only [pyGetItem_zero, parseNumber_eq]
        cases h0 : numberL P s0 with
        | key | overflow | other => rfl
        | ok start =>
          simp only []
          match rest with
          | [] =>
            have hlen : ¬ ((([s0] : List Str).length : Int) > 1) := by simp
            simp only [hlen, if_false, Flow.bind_ok]
            exact while1_eq itoa mpurepr iat fmtdis d P start start ((2 : Int) ^ d.AW - 1) fuel start
              (decide (start > start)) σ
          | s1 :: more =>
            have hlen : (((s0 :: s1 :: more : List Str).length : Int) > 1) := by
              simp only [List.length_cons]; omega
            simp only [hlen, if_true, pyGetItem_one]
            cases h1 : numberL P s1 with
            | key | overflow | other => rfl
            | ok end_ =>
              simp only [Flow.bind_ok]
              exact while1_eq itoa mpurepr iat fmtdis d P start end_ ((2 : Int) ^ d.AW - 1) fuel start
                (decide (start > end_)) σ

end Disassemble

end Py65.Proofs.ReprGenEq
