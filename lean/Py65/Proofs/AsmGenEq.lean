/-
The assembler GENERATED from `py65/assembler.py` (`Py65/Gen/AsmGen.lean`, written by
`harness/py2lean_asm.py`) equals the hand model `Py65.Model.Asm` for all arguments:
`normalize_and_split_eq`, `assemble_eq`.  Both proofs follow the branches of the Python function; at a
leaf the two sides differ only by the embedding's monad and run-time helpers, which `rt_simp` unfolds.
-/
import Py65.Proofs.AsmLemmas
import Py65.Gen.AsmGen

namespace Py65.Proofs.AsmGenEq
open Py65.Model Py65.Model.PyStr Py65.Model.AddrParser Py65.Model.Asm Py65.Model.AsmRt
open Py65.Gen

theorem join_sp (l : List Str) : AsmRt.join " ".toList l = joinSp l := by
  have e : " ".toList = [' '] := rfl
  rw [e]
  induction l with
  | nil => rfl
  | cons a rest ih =>
    cases rest with
    | nil => rfl
    | cons b r => simp only [AsmRt.join, joinSp, ih, List.append_assoc, List.singleton_append]

theorem join_nil (l : List Str) : AsmRt.join "".toList l = l.flatten := by
  have e : "".toList = [] := rfl
  rw [e]
  induction l with
  | nil => rfl
  | cons a rest ih =>
    cases rest with
    | nil => simp [AsmRt.join]
    | cons b r => simp only [AsmRt.join, ih, List.append_nil, List.flatten_cons]

theorem flatten_pySplitAux (s cur : Str) : (pySplitAux s cur).flatten = cur.reverse ++ removeWs s := by
  induction s generalizing cur with
  | nil => by_cases h : cur = [] <;> simp [pySplitAux, h, removeWs]
  | cons c cs ih =>
    by_cases hc : isReSpace c = true
    · by_cases h : cur = [] <;> simp [pySplitAux, hc, h, ih, removeWs]
    · simp [pySplitAux, hc, ih, removeWs]

theorem join_nil_split (s : Str) : AsmRt.join "".toList (pySplit s) = removeWs s := by
  rw [join_nil, pySplit, flatten_pySplitAux]; rfl

/-- the definitions of the embedding's monad and helpers, for `simp` -/
macro "rt_simp" " [" ts:Lean.Parser.Tactic.simpLemma,* "]" : tactic =>
  `(tactic| simp [bind, Except.bind, pure, Except.pure, runFn, return_, raise, continue_, tryExcept, call,
      strGet, sliceFrom, listGet, ord, len, unpack2, splitSp1L, startswith, startsWith, AsmRt.number,
      AsmRt.int, AsmRt.index, Exc.isIndexError, Exc.isValueError, nresOf, aresOf, retarget, TRes.ofRes,
      $ts,*])

/-- `number` of the address word, then `'$' + ADDR_FORMAT % address`: closes a leaf of
`normalize_and_split_eq` whose operand word `T` is an address, by cases on `numberL P T` (bound as `hn`),
the sign of its value (`h0`) and the outcome of the format (`hp`); `hs` are further facts for `rt_simp`. -/
macro "addr_leaf" d:term:max P:term:max T:term:max hs:(ppSpace colGt ident)* : tactic =>
  `(tactic| (
    cases hn : numberL $P $T with
    | ok n =>
      by_cases h0 : n < 0
      · rt_simp [hn, addrText, fmt, h0, $[$hs:ident],*]
      · cases hp : pctFmt (Dev.addrFmt $d) n.toNat <;> rt_simp [hn, addrText, fmt, h0, hp, $[$hs:ident],*]
    | _ => rt_simp [hn, $[$hs:ident],*]))

/-- the byte range check, then `'#$' + BYTE_FORMAT % number`: closes a leaf whose operand is the
immediate value `n`, by cases on the two range tests (bound as `hr1`, `hr2`) and the outcome of the
format; `hs` are further facts for `rt_simp`. -/
macro "imm_leaf" d:term:max n:term:max hs:(ppSpace colGt ident)* : tactic =>
  `(tactic| (
    by_cases hr1 : $n < 0
    · rt_simp [immText, hr1, $[$hs:ident],*]
    · by_cases hr2 : Dev.byteMask $d < $n
      · rt_simp [immText, hr1, hr2, $[$hs:ident],*]
      · rt_simp [immText, fmt, hr1, hr2, $[$hs:ident],*]
        generalize pctFmt (Dev.byteFmt $d) _ = o
        cases o <;> simp [hr2]))

theorem Statement_eq : AsmGen.Statement = matchStatement := rfl

theorem Addressing_eq : AsmGen.Addressing = addressing := rfl

theorem normalize_and_split_eq (d : Dev) (P : Parser) (s : Str) :
    nresOf (AsmGen.normalize_and_split d P s) = normalizeAndSplit d P s := by
  unfold AsmGen.normalize_and_split normalizeAndSplit
  simp only [join_sp, AsmRt.split, Statement_eq, ← normWs.eq_1, join_nil_split]
  cases matchStatement (normWs s) with
  | none =>
    rcases h : splitSp1 (normWs s) with ⟨a, _ | b⟩
    · simp [h, bind, Except.bind, pure, Except.pure, runFn, return_, listGet, splitSp1L, len, nresOf]; rfl
    · simp [h, bind, Except.bind, pure, Except.pure, runFn, return_, listGet, splitSp1L, len, nresOf]
  | some m =>
    obtain ⟨before, target, after⟩ := m
    have hsp : "#".toList = ['#'] := rfl
    have hq1 : "'".toList = ['\''] := rfl
    have hq2 : "\"".toList = ['"'] := rfl
    have hnil : "".toList = [] := rfl
    have ha1 : "a".toList = ['a'] := rfl
    have ha2 : "A".toList = ['A'] := rfl
    have hhd : "#$".toList = ['#', '$'] := rfl
    have hd1 : "$".toList = ['$'] := rfl
    simp only [hsp, hq1, hq2, hnil, ha1, ha2, hhd, hd1]
    rcases hb : splitSp1 before with ⟨oc, _ | lead⟩ <;>
    (rcases target with _ | ⟨c, rest⟩
     · addr_leaf d P ([] : Str) hb
     · by_cases hc : c = '#'
       · subst hc
         rcases rest with _ | ⟨q, rest2⟩
         · rt_simp [hb]
         · by_cases hq : q = '\'' ∨ q = '"'
           · rcases rest2 with _ | ⟨ch, rest3⟩
             · rt_simp [hb, hq]
             · by_cases h3 : rest3 = [] ∨ rest3 = [q]
               · imm_leaf d (ch.toNat : Int) hb hq h3
               · rt_simp [hb, hq, h3]
           · cases hn : numberL P (q :: rest2) with
             | ok n => imm_leaf d n hb hq hn
             | _ => rt_simp [hn, hb, hq]
       · by_cases hacc : (c = 'a' ∧ rest = []) ∨ (c = 'A' ∧ rest = [])
         · rt_simp [hb, hc, hacc]
         · addr_leaf d P (c :: rest) hb hc hacc)

theorem foldl_append_map {α β : Type} (f : α → β) (l : List α) (init : List β) :
    l.foldl (fun acc x => acc ++ [f x]) init = init ++ l.map f := by
  induction l generalizing init with
  | nil => simp
  | cons a r ih => simp [ih]

/-- `self._addressing` as built by the generated `__init__` is the hand model's `compiled`, each
compiled template read as a matcher -/
theorem init_addressing_eq (d : Dev) :
    AsmGen.init_addressing d = compiled.map (fun p => (p.1, matchItems d.numchars p.2)) := by
  unfold AsmGen.init_addressing compiled
  rw [Addressing_eq]
  have hf : (fun (acc : List (Str × (Str → Option (List Str)))) (x : Str × Str) =>
      match x with
      | (mode, format) => acc ++ [(mode, templatePattern (truedivD d.byteWidth 4) format)]) =
      fun acc x => acc ++ [(fun p : Str × Str => (p.1, matchItems d.numchars (compileTemplate p.2))) x] := by
    funext acc x
    obtain ⟨mode, format⟩ := x
    rfl
  simp only [hf, foldl_append_map, List.nil_append, List.map_map]
  rfl

/-- `[int(hex, 16) for hex in operands]` is the hand model's `hexInts` -/
theorem listComp_int {ρ : Type} (l : List Str) :
    (listComp (fun hex => AsmRt.int hex 16) l : PyM ρ (List Int)) =
      match hexInts l with
      | some vs => .ok vs
      | none => .error (.exc (.valueError "int")) := by
  induction l with
  | nil => rfl
  | cons h rest ih =>
    rw [listComp, ih]
    simp only [hexInts, AsmRt.int, raise]
    cases pyIntL h 16 <;> cases hexInts rest <;> rfl

/-- What one iteration of the generated loop body means for the hand model's `tryMode`: `none` = go
on with the next template (fell through or `continue`), `some r` = the loop ends with `r`. -/
def sigARes : PyM (List Int) Unit → Option ARes
  | .ok () => none
  | .error .cont => none
  | .error (.ret bs) => some (.ok bs)
  | .error (.exc e) => some (aresOf (.error e))

/-- A `for` loop over the templates whose body agrees with `tryMode` on every template, followed by
`raise SyntaxError`, is `tryModes`. -/
theorem forEach_tryModes (d : Dev) (opcode operand : Str) (pc : Int)
    (B : Str × (Str → Option (List Str)) → PyM (List Int) Unit)
    (hB : ∀ mode items, sigARes (B (mode, matchItems d.numchars items)) = tryMode d opcode operand pc mode items)
    (l : List (Str × List TItem)) :
    aresOf (runFn (do
      forEach (l.map (fun p => (p.1, matchItems d.numchars p.2))) B
      raise .syntaxError)) = tryModes d opcode operand pc l := by
  induction l with
  | nil => rfl
  | cons x rest ih =>
    obtain ⟨mode, items⟩ := x
    have h := hB mode items
    simp only [List.map_cons, forEach, tryModes]
    rw [← h]
    generalize B (mode, matchItems d.numchars items) = r at *
    rcases r with (e | _ | bs) | ⟨⟩
    · cases e <;> rfl
    · exact ih
    · rfl
    · exact ih

theorem byteMask_nonneg (d : Dev) : 0 ≤ d.byteMask := by
  unfold Dev.byteMask Py.shl
  have : (0 : Int) < 2 ^ d.byteWidth := by positivity
  omega

/-- `[int(hex, 16) …]`, `bytes.extend`, the top-of-memory check, `return bytes`: closes a leaf of
`assemble_eq` after the opcode byte is known, by cases on `hexInts` of the groups and on the
top-of-memory test (bound as `hc`). -/
macro "hex_tail" d:term:max pc:term:max : tactic =>
  `(tactic| (
    generalize hexInts _ = o
    cases o with
    | none => simp
    | some ops => by_cases hc : 2 ^ Dev.addrWidth $d < $pc + ((ops.length : Int) + 1) <;> simp [hc]))

theorem assemble_eq (d : Dev) (P : Parser) (s : Str) (pc : Int) :
    aresOf (AsmGen.assemble d P s pc) = assembleL d P s pc := by
  unfold AsmGen.assemble assembleL
  rw [← normalize_and_split_eq]
  cases AsmGen.normalize_and_split d P s with
  | error e => cases e <;> rfl
  | ok r =>
    obtain ⟨opcode, operand⟩ := r
    simp only [call, nresOf, backend, init_addressing_eq]
    refine forEach_tryModes d opcode operand pc _ ?_ compiled
    intro mode items
    have e1 : "???".toList = ['?', '?', '?'] := rfl
    have e2 : "rel".toList = ['r', 'e', 'l'] := rfl
    have e3 : "".toList = [] := rfl
    simp only [e1, e2, e3]
    unfold tryMode
    cases hm : matchItems d.numchars items operand with
    | none => rfl
    | some g =>
      simp only []
      unfold emit
      simp only [e1, e2]
      by_cases hq : opcode = ['?', '?', '?']
      · rt_simp [hq, sigARes]
      · cases hi : indexOf d.table (opcode, mode) with
        | none => rt_simp [hq, hi, sigARes]
        | some op =>
          by_cases hrel : mode = ['r', 'e', 'l']
          · subst hrel
            have hj : AsmRt.join [] g = g.flatten := join_nil g
            simp only [listComp_int, hj]
            cases hv : pyIntL g.flatten 16 with
            | none => rt_simp [hq, hi, sigARes, hv]
            | some absolute =>
              unfold relOperand
              have hnn : ∀ x : Int, ¬ Py.land x d.byteMask < 0 := fun x =>
                Int.not_lt.mpr (Py.land_nonneg x _ (byteMask_nonneg d))
              by_cases c1 : Py.shr d.addrMask 1 < Py.land (absolute - pc - 2) d.addrMask
              · by_cases c2 : Py.land (absolute - pc - 2) d.addrMask - (d.addrMask + 1) < -Py.shr (d.byteMask + 1) 1 ∨
                    Py.shr (d.byteMask + 1) 1 ≤ Py.land (absolute - pc - 2) d.addrMask - (d.addrMask + 1)
                · rt_simp [hq, hi, sigARes, hv, c1, c2]
                · rt_simp [hq, hi, sigARes, hv, c1, c2, fmt, hnn, finish]
                  generalize pctFmt d.byteFmt _ = o
                  cases o with
                  | none => simp
                  | some t => simp only []; hex_tail d pc
              · by_cases c2 : Py.land (absolute - pc - 2) d.addrMask < -Py.shr (d.byteMask + 1) 1 ∨
                    Py.shr (d.byteMask + 1) 1 ≤ Py.land (absolute - pc - 2) d.addrMask
                · rt_simp [hq, hi, sigARes, hv, c1, c2]
                · rt_simp [hq, hi, sigARes, hv, c1, c2, fmt, hnn, finish]
                  generalize pctFmt d.byteFmt _ = o
                  cases o with
                  | none => simp
                  | some t => simp only []; hex_tail d pc
          · simp only [listComp_int]
            rcases g with _ | ⟨a, _ | ⟨b, _ | ⟨c, r⟩⟩⟩
            · rt_simp [hq, hi, hrel, sigARes, finish]; hex_tail d pc
            · rt_simp [hq, hi, hrel, sigARes, finish]; hex_tail d pc
            · rt_simp [hq, hi, hrel, sigARes, finish]; hex_tail d pc
            · have h3 : ¬ ((r.length : Int) + 1 + 1 + 1 = 2) := by omega
              rt_simp [hq, hi, hrel, sigARes, finish, h3]; hex_tail d pc

/-- `Assembler(mpu, parser).assemble(statement, pc)` as GENERATED from the source -/
def assembleG (d : Dev) (P : Parser) (s : Str) (pc : Int) : ARes := aresOf (AsmGen.assemble d P s pc)

/-- `Assembler(mpu, parser).normalize_and_split(statement)` as GENERATED from the source -/
def splitG (d : Dev) (P : Parser) (s : Str) : NRes := nresOf (AsmGen.normalize_and_split d P s)

theorem assembleG_eq (d : Dev) (P : Parser) (s : Str) (pc : Int) : assembleG d P s pc = assembleL d P s pc :=
  assemble_eq d P s pc

theorem splitG_eq (d : Dev) (P : Parser) (s : Str) : splitG d P s = normalizeAndSplit d P s :=
  normalize_and_split_eq d P s

/-- once `normalize_and_split` has produced `(opcode, operand)`, `assemble` is the template loop on them -/
theorem assembleG_of_split (d : Dev) (P : Parser) (s opcode operand : Str) (pc : Int)
    (hs : splitG d P s = .ok opcode operand) : assembleG d P s pc = backend d opcode operand pc := by
  rw [assembleG_eq, assembleL, ← splitG_eq, hs]

open Py65.Proofs.Asm in
/-- ... and on the canonical operand text of an in-range `(shape, value)` it is the value-level
assembler of Proofs/AsmLemmas -/
theorem assembleG_val {d : Dev} {v : Py65.Spec.Variant} {W : Nat} (h : DevOK d v W) (P : Parser) (s m : Str)
    (sh : Py65.Spec.Asm.Shape) (x pc : Int) (hin : Py65.Spec.Asm.Shape.inRange W sh x = true)
    (hs : splitG d P s = .ok m (canonText W sh x)) : assembleG d P s pc = assembleVal d m sh x pc := by
  rw [assembleG_of_split d P s _ _ pc hs, assembleVal_canon h m sh x pc hin]

end Py65.Proofs.AsmGenEq
