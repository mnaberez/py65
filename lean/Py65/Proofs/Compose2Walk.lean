/-
The walk of `disassemble start:end` (`Model.Show.Visits`, C19) against the iteration of an arbitrary
step function: if, between two listed instructions, one step takes the "program counter" from the listed
address to that address plus the listed length (modulo the size of the address space), then the `k`-th
state's program counter is the `k`-th listed address.  Generic in the state type, the step function and
the invariant; `Props/C09h.lean` instantiates it with the generated device step and the generated
`Disassembler.instruction_at`.  Ordinary ranges and ranges that wrap past the top of memory.
-/
import Py65.Proofs.ShowLemmas
import Py65.Proofs.DisasmGenEq
import Py65.Proofs.AsmTables

namespace Py65.Proofs.Compose2
open Py65.Model.PyStr Py65.Model.Show Py65.Proofs.Show

theorem visits_mem {ε : Type} (iat : Int → Except ε (Int × Str)) (maxA start end_ : Int) :
    ∀ (vs : List (Int × Int × Str)) (cur : Int) (nw : Bool), Visits iat maxA start end_ cur nw vs →
      ∀ v ∈ vs, iat v.1 = .ok (v.2.1, v.2.2) := by
  intro vs
  induction vs with
  | nil => intro _ _ _ v hv; cases hv
  | cons v0 rest ih =>
    intro cur nw h v hv
    cases h with
    | step _ hi _ hr =>
      rcases List.mem_cons.1 hv with rfl | hv
      · exact hi
      · exact ih _ _ hr v hv

/-- `Visits` looks at the successful results of the disassembler only: two disassemblers with the same
successful results (e.g. the generated `instruction_at` and the same behind a renaming of its exception
classes, as the monitor model `C19g.iatG` calls it) list the same. -/
theorem visits_congr_ok {ε ε' : Type} (iat : Int → Except ε (Int × Str)) (iat' : Int → Except ε' (Int × Str))
    (h : ∀ a r, iat' a = .ok r → iat a = .ok r) (maxA start end_ : Int) :
    ∀ (vs : List (Int × Int × Str)) (cur : Int) (nw : Bool), Visits iat' maxA start end_ cur nw vs →
      Visits iat maxA start end_ cur nw vs := by
  intro vs
  induction vs with
  | nil => intro _ _ hv; cases hv with | stop hc => exact Visits.stop hc
  | cons v0 rest ih =>
    intro cur nw hv
    cases hv with
    | step hc hi hl hr => exact Visits.step hc (h _ _ hi) hl (ih _ _ hr)

theorem emod_top (maxA x : Int) (h0 : 0 ≤ x) (h1 : x ≤ maxA) : x % (maxA + 1) = x :=
  Int.emod_eq_of_lt h0 (by omega)

theorem emod_wrap (maxA x : Int) (h0 : maxA < x) (h1 : x ≤ maxA + (maxA + 1)) :
    x % (maxA + 1) = x - (maxA + 1) := by
  rw [← Int.sub_emod_right]; exact Int.emod_eq_of_lt (by omega) (by omega)

/-- The listed instructions as a computed value (for the non-vacuity examples: `decide +kernel` runs the
generated `instruction_at` through it); `none`: the walk raises, meets a negative length or needs more fuel. -/
def visitList {ε : Type} (iat : Int → Except ε (Int × Str)) (maxA start end_ : Int) :
    Nat → Int → Bool → Option (List (Int × Int × Str))
  | 0, _, _ => none
  | fuel + 1, cur, nw =>
    if nw = true ∨ cur ≤ end_ then
      match iat cur with
      | .error _ => none
      | .ok (len, text) =>
        if 0 ≤ len then
          let a := advance maxA (decide (start > end_)) len.toNat cur nw
          (visitList iat maxA start end_ fuel a.1 a.2).map fun r => (cur, len, text) :: r
        else none
    else some []

theorem visitList_sound {ε : Type} (iat : Int → Except ε (Int × Str)) (maxA start end_ : Int) :
    ∀ (fuel : Nat) (cur : Int) (nw : Bool) (vs : List (Int × Int × Str)),
      visitList iat maxA start end_ fuel cur nw = some vs → Visits iat maxA start end_ cur nw vs := by
  intro fuel
  induction fuel with
  | zero => intro _ _ _ h; cases h
  | succ f ih =>
    intro cur nw vs h
    unfold visitList at h
    split at h
    · rename_i hc
      split at h
      · cases h
      · rename_i len text hi
        split at h
        · rename_i hl
          obtain ⟨rest, hr, rfl⟩ := Option.map_eq_some_iff.1 h
          exact Visits.step hc hi hl (ih _ _ _ hr)
        · cases h
    · rename_i hc
      obtain rfl := Option.some.inj h
      exact Visits.stop hc

/-- The cells of the range `start:end`: `start … end`, or - when `start > end`, a range that wraps past the
top of memory - `start … top` and `0 … end`. -/
def InRange (start end_ c : Int) : Prop :=
  if start > end_ then (start ≤ c ∨ c ≤ end_) else (start ≤ c ∧ c ≤ end_)

/-- What the walk keeps true of its position `(cur, nw)`: inside the address space; `nw` ("has yet to
wrap") only in a wrapping range; not below `start` before the wrap and in an ordinary range. -/
structure Pos (maxA start end_ cur : Int) (nw : Bool) : Prop where
  lo : 0 ≤ cur
  hi : cur ≤ maxA
  nw_wrap : ¬ start > end_ → nw = false
  ge : nw = true ∨ ¬ start > end_ → start ≤ cur

theorem Pos.start {maxA start end_ : Int} (h0 : 0 ≤ start) (h1 : start ≤ maxA) :
    Pos maxA start end_ start (decide (start > end_)) :=
  ⟨h0, h1, fun h => decide_eq_false h, fun _ => Int.le_refl _⟩

/-- One move of the walk by a length of at most the size of the address space, when the walk goes on
afterwards (`hc`, the loop condition at the new position): the new address is address + length modulo the
size of the address space, and `Pos` holds again.  In an ordinary range `hc` is what keeps the new address
below the top of memory. -/
theorem Pos.advance {maxA start end_ cur : Int} {nw : Bool} (hp : Pos maxA start end_ cur nw)
    (he : end_ ≤ maxA) (n : Nat) (hn : (n : Int) ≤ maxA + 1)
    (hc : (advance maxA (decide (start > end_)) n cur nw).2 = true ∨
      (advance maxA (decide (start > end_)) n cur nw).1 ≤ end_) :
    (advance maxA (decide (start > end_)) n cur nw).1 = (cur + n) % (maxA + 1) ∧
    Pos maxA start end_ (advance maxA (decide (start > end_)) n cur nw).1
      (advance maxA (decide (start > end_)) n cur nw).2 := by
  obtain ⟨h0, h1, hnw, hge⟩ := hp
  by_cases hw : start > end_
  · rw [decide_eq_true hw, advance_wrap maxA n cur nw h0 h1 hn]
    by_cases hcn : cur + n > maxA
    · rw [if_pos hcn]
      exact ⟨(emod_wrap maxA _ hcn (by omega)).symm, by show 0 ≤ cur + n - (maxA + 1); omega,
        by show cur + n - (maxA + 1) ≤ maxA; omega, fun h => absurd hw h,
        fun h => h.elim (fun h => Bool.noConfusion h) (fun h => absurd hw h)⟩
    · rw [if_neg hcn]
      exact ⟨(emod_top maxA _ (by omega) (by omega)).symm, by show 0 ≤ cur + (n : Int); omega,
        by show cur + (n : Int) ≤ maxA; omega, fun h => absurd hw h,
        fun h => by have := hge h; show start ≤ cur + (n : Int); omega⟩
  · obtain rfl := hnw hw
    rw [decide_eq_false hw, advance_plain] at hc ⊢
    have hle : cur + (n : Int) ≤ end_ := hc.resolve_left (fun h => Bool.noConfusion h)
    have := hge (Or.inr hw)
    exact ⟨(emod_top maxA _ (by omega) (by omega)).symm, by show 0 ≤ cur + (n : Int); omega,
      by show cur + (n : Int) ≤ maxA; omega, fun _ => rfl, fun _ => by show start ≤ cur + (n : Int); omega⟩

theorem visits_cond {ε : Type} {iat : Int → Except ε (Int × Str)} {maxA start end_ cur : Int} {nw : Bool}
    {v : Int × Int × Str} {rest : List (Int × Int × Str)} (h : Visits iat maxA start end_ cur nw (v :: rest)) :
    nw = true ∨ cur ≤ end_ := by
  cases h with | step hc _ _ _ => exact hc

/-- Every listed address lies in the range (lengths not negative and at most the size of the address space). -/
theorem visits_in_range {ε : Type} (iat : Int → Except ε (Int × Str)) (maxA start end_ : Int) (he : end_ ≤ maxA) :
    ∀ (vs : List (Int × Int × Str)) (cur : Int) (nw : Bool), Visits iat maxA start end_ cur nw vs →
      Pos maxA start end_ cur nw → (∀ v ∈ vs, v.2.1 ≤ maxA + 1) →
      ∀ v ∈ vs, InRange start end_ v.1 := by
  intro vs
  induction vs with
  | nil => intro _ _ _ _ _ v hv; cases hv
  | cons v0 rest ih =>
    intro cur nw hv hp hlen v hmem
    cases hv with
    | @step _ _ len text _ hcond hi hl hr =>
      rcases List.mem_cons.1 hmem with rfl | hm'
      · show InRange start end_ cur
        unfold InRange
        split
        · exact hcond.imp (fun h => hp.ge (Or.inl h)) id
        · rename_i hw
          refine ⟨hp.ge (Or.inr hw), hcond.resolve_left ?_⟩
          rw [hp.nw_wrap hw]; exact fun h => Bool.noConfusion h
      · obtain ⟨n, rfl⟩ := Int.eq_ofNat_of_zero_le hl
        simp only [Int.toNat_natCast] at hr
        obtain ⟨w, rest', rfl⟩ := List.exists_cons_of_ne_nil (List.ne_nil_of_mem hm')
        exact ih _ _ hr (hp.advance he n (hlen _ List.mem_cons_self) (visits_cond hr)).2
          (fun v hv => hlen v (List.mem_cons_of_mem _ hv)) v hm'

/-- The walk against an iteration.  `f` is the step function, `pc` the observed counter, `Good` an
invariant.  If the walk started at `pc s` lists `vs`, and whenever the `k`-th state is at the `k`-th listed
address (and good) and there IS a next listed instruction (`k + 1 < vs.length`), one step leads to address + length modulo
`maxA + 1` (and a good state), then every listed address is the counter of the corresponding state. -/
theorem visits_follow {ε σ : Type} (iat : Int → Except ε (Int × Str)) (maxA start end_ : Int)
    (he : end_ ≤ maxA) (f : σ → σ) (pc : σ → Int) (Good : σ → Prop) :
    ∀ (vs : List (Int × Int × Str)) (cur : Int) (nw : Bool) (s : σ),
      Visits iat maxA start end_ cur nw vs → Pos maxA start end_ cur nw →
      pc s = cur → Good s →
      (∀ k (hk : k < vs.length), k + 1 < vs.length → pc (f^[k] s) = (vs[k]).1 → Good (f^[k] s) →
        1 ≤ (vs[k]).2.1 ∧ (vs[k]).2.1 ≤ maxA + 1 ∧
        pc (f^[k + 1] s) = ((vs[k]).1 + (vs[k]).2.1) % (maxA + 1) ∧ Good (f^[k + 1] s)) →
      ∀ k (hk : k < vs.length), pc (f^[k] s) = (vs[k]).1 ∧ Good (f^[k] s) := by
  intro vs
  induction vs with
  | nil => intro _ _ _ _ _ _ _ _ k hk; cases hk
  | cons v0 rest ih =>
    intro cur nw s hv hp hpc hg hstep k hk
    cases hv with
    | @step _ _ len text _ hcond hi hlen hr =>
      cases k with
      | zero => exact ⟨hpc, hg⟩
      | succ k =>
        have hk' : k < rest.length := by simpa using hk
        obtain ⟨w, rest', rfl⟩ := List.exists_cons_of_ne_nil (List.ne_nil_of_length_pos (l := rest) (by omega))
        obtain ⟨_, l2, hnext, hg'⟩ := hstep 0 (by simp) (by simp) hpc hg
        simp only [List.getElem_cons_zero] at l2 hnext
        obtain ⟨n, rfl⟩ := Int.eq_ofNat_of_zero_le hlen
        simp only [Int.toNat_natCast] at hr
        -- the address the walk goes to is the address the step goes to
        obtain ⟨ha, hp'⟩ := hp.advance he n l2 (visits_cond hr)
        exact ih _ _ (f s) hr hp' (hnext.trans ha.symm) hg' (fun j hj hj1 => hstep (j + 1) (by simpa using hj) (by simpa using hj1)) k hk'

end Py65.Proofs.Compose2
