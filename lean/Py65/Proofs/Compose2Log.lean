/-
"Memory changes only where the access log shows a write", for a step at a declared opcode that does not
transfer control - the form in which `Props/C09h.lean` states "the executed code does not store into the
listed range" as a hypothesis on the RUN (the generated model logs every `memory[a] = v`).

Nothing is re-derived from the generated handlers:
  * C12 (`accesses_nmos6502 / _cmos / _org16`): the events a step appends to the log are the opcode fetch
    and `Spec.instrAccesses`, as a multiset - no side condition, decimal mode included;
  * C01 / C02 / C03 through `Hist.step_spec`: the memory after the step is the programming model's;
    ADC / SBC (whose C01 - C03 statements are binary mode only) write no memory in either mode
    (`Compose2.step_adcsbc`);
  * here: the programming model changes a cell only if `Spec.dataAccesses` has a write to it
    (`exec_mem_cases`, `writes_logged`).
-/
import Py65.Proofs.Compose2Follow

namespace Py65.Proofs.Compose2
open Py65 Py65.Gen Py65.Spec Py65.Proofs Py65.Proofs.Hist
open Py65.Model.PyStr Py65.Model.AddrParser Py65.Model.Show
open Py65.Props.C09 (isControl)

/-- The access log shows a write to the cell `a` (with whatever value). -/
def WritesTo (l : List MemEv) (a : Int) : Prop := ∃ v, MemEv.w a v ∈ l

theorem writesTo_iff_acl (s : St) (a : Int) : WritesTo s.log a ↔ Acc.w a ∈ acl s := by
  simp only [WritesTo, acl, List.mem_map]
  constructor
  · rintro ⟨v, hv⟩; exact ⟨_, hv, rfl⟩
  · rintro ⟨ev, hev, he⟩
    cases ev with
    | r b => cases he
    | w b v => simp only [accOf, Acc.w.injEq] at he; subst he; exact ⟨v, hev⟩

def noWriteIn (l : List MemEv) (p : Int → Bool) : Bool :=
  l.all fun ev => match ev with
    | .w a _ => !(p a)
    | .r _ => true

theorem noWrite_of_check {l : List MemEv} {p : Int → Bool} (h : noWriteIn l p = true) (c : Int)
    (hc : p c = true) : ¬ WritesTo l c := by
  rintro ⟨v, hv⟩
  have := List.all_eq_true.1 h _ hv
  simp [hc] at this

def isPush : Mn → Bool
  | .PHA | .PHX | .PHY | .PHP => true
  | _ => false

/-- the instruction writes the cell at its effective address -/
def writesEa : Mn → Mode → Bool
  | .STA, _ | .STX, _ | .STY, _ | .STZ, _ | .TSB, _ | .TRB, _ | .RMB _, _ | .SMB _, _ => true
  | .ASL, mo | .LSR, mo | .ROL, mo | .ROR, mo | .INC, mo | .DEC, mo => !(mo == .acc)
  | _, _ => false

/-- An instruction that does not transfer control changes at most the cell at its effective address
(stores, read-modify-write on memory) or the cell the stack pointer points at (pushes). -/
theorem exec_mem_cases (W : Nat) (v : Variant) (mn : Mn) (mo : Mode) (A : AState) (c : Int)
    (hnc : isControl mn = false) :
    (exec W v mn mo A).mem c = A.mem c ∨ (c = ea W mo A ∧ writesEa mn mo = true) ∨
      (c = BM W + A.sp ∧ isPush mn = true) := by
  by_cases hp : c = BM W + A.sp ∧ isPush mn = true
  · exact Or.inr (Or.inr hp)
  by_cases hw : c = ea W mo A ∧ writesEa mn mo = true
  · exact Or.inr (Or.inl hw)
  left
  -- what is left after unfolding is a `write` at `ea` or at the stack cell, or (BIT, the shifts) a
  -- case distinction on the mode
  cases mn <;> dsimp only [exec, push, pull, write] <;> first
    | exact Bool.noConfusion hnc
    | exact if_neg (fun h => hw ⟨h, rfl⟩)
    | exact if_neg (fun h => hp ⟨h, rfl⟩)
    | (split <;> first
        | rfl
        | (rename_i hx; exact if_neg (fun h => hw ⟨h, by simpa [writesEa] using hx⟩)))

def hasData : Mode → Bool
  | .imm | .imp | .acc | .rel => false
  | _ => true

/-- in the documented tables, an instruction that writes its effective address has a data cell -/
theorem writers_have_data : ∀ r ∈ cmosExtTable ++ nmosTable, writesEa r.2.1 r.2.2 = true → hasData r.2.2 = true := by
  decide +kernel

/-- An instruction that writes its effective address is a store or a read-modify-write, not a read. -/
theorem writer_kind {mn : Mn} {mo : Mode} (h : writesEa mn mo = true) :
    mn.isRead = false ∧ (mn.isStore = true ∨ mn.isStore = false ∧ mn.isRmw = true) := by
  cases mn <;> first
    | exact Bool.noConfusion h
    | exact ⟨rfl, Or.inl rfl⟩
    | exact ⟨rfl, Or.inr ⟨rfl, rfl⟩⟩

/-- ... and then `Spec.dataAccesses` (C12's oracle) has the write. -/
theorem writes_logged (W : Nat) (v : Variant) (mn : Mn) (mo : Mode) (A : AState)
    (hsp : 0 ≤ A.sp ∧ A.sp < BM W) (c : Int)
    (h : (c = ea W mo A ∧ writesEa mn mo = true ∧ hasData mo = true) ∨ (c = BM W + A.sp ∧ isPush mn = true)) :
    Acc.w c ∈ dataAccesses W v mn mo A := by
  rcases h with ⟨rfl, hw, hd⟩ | ⟨rfl, hp⟩
  · obtain ⟨h1, h2⟩ := writer_kind hw
    -- the stack and JMP rows of the oracle are not writers; the general row lists the data access last
    unfold dataAccesses
    split <;> try (exact Bool.noConfusion hw)
    split <;> first
      | exact Bool.noConfusion hd
      | (apply List.mem_append_right; rw [h1]; rcases h2 with h2 | h2 <;> simp [h2])
  · have e : A.sp % BM W = A.sp := Int.emod_eq_of_lt hsp.1 hsp.2
    cases mn <;> first
      | (exact Bool.noConfusion hp)
      | (simp [dataAccesses, stackAddr, e])

theorem ea_p (W : Nat) (mo : Mode) (A : AState) (p : Int) : ea W mo { A with p := p } = ea W mo A := by
  cases mo <;> rfl

/-- A running device at a declared opcode that does not transfer control:
writes already in the log stay in the log, and a cell to which the log shows no write afterwards has
kept its value. -/
theorem step_frame (d : Dev) (s : St) (hr : Running d s) (mn : Mn) (mo : Mode)
    (hd : decode d.variant (s.mem s.pc) = some (mn, mo)) (hnc : isControl mn = false) (c : Int) :
    (WritesTo s.log c → WritesTo (d.step s).log c) ∧
    (¬ WritesTo (d.step s).log c → (d.step s).mem c = s.mem c) := by
  obtain ⟨T, hT, hperm⟩ := step_accesses d s hr.1.1 hr.2 mn mo hd
  refine ⟨fun h => ?_, fun hno => ?_⟩
  · rw [writesTo_iff_acl] at h ⊢
    rw [hT]; exact List.mem_append_right _ h
  · by_cases ha : isAdcSbc mn = true
    · rw [(step_adcsbc d s hr.1 hr.2 mn mo hd ha).2.1]
    · have hna := not_arith_of hnc ha
      have h := step_spec d s hr.1.1 hr.2 mn mo hd hna
      have hmem : (d.step s).mem = (exec d.W d.variant mn mo { abs s with pc := (s.pc + 1) % AM d.W }).mem :=
        congrArg AState.mem h
      rw [hmem]
      have hsp : InB d.W s.sp := (d.inB_iff _).2 hr.1.1.sp
      have hlogged : ∀ (_ : (c = ea d.W mo { abs s with pc := (s.pc + 1) % AM d.W } ∧ writesEa mn mo = true) ∨
          (c = BM d.W + s.sp ∧ isPush mn = true)), False := by
        intro hc
        apply hno
        rw [writesTo_iff_acl, hT]
        apply List.mem_append_left
        rw [List.mem_reverse]
        apply hperm.symm.subset
        apply List.mem_cons_of_mem
        simp only [instrAccesses]
        apply List.mem_append_right
        apply writes_logged d.W d.variant mn mo { core s with pc := (s.pc + 1) % AM d.W } hsp c
        rcases hc with ⟨h1, h2⟩ | hc
        · left
          refine ⟨?_, h2, writers_have_data _ (decode_mem hd) h2⟩
          rw [h1]
          exact ea_p d.W mo { core s with pc := (s.pc + 1) % AM d.W } (normP s.p)
        · right; exact hc
      rcases exec_mem_cases d.W d.variant mn mo { abs s with pc := (s.pc + 1) % AM d.W } c hnc with h1 | h1 | h1
      · exact h1
      · exact (hlogged (Or.inl h1)).elim
      · exact (hlogged (Or.inr h1)).elim

/-- `follow_core` in access-log form.  `Prot` is a set of protected cells containing the opcode cell of
every listed instruction except possibly the last.  If, in the states the device passes through, the access
log never shows a write to a protected cell, then - besides the conclusion of `follow_core` - every
protected cell still holds its initial value in each of these states. -/
theorem follow_log (d : Dev) (P : Parser) (s0 : St) (start end_ : Int) (vs : List (Int × Int × Str))
    (Prot : Int → Prop) (hr : Running d s0) (hpc : s0.pc = start) (he : end_ ≤ topAddr d)
    (hv : Listing d P s0.mem start end_ vs)
    (hst : ∀ k (hk : k < vs.length), k + 1 < vs.length → Straight d (s0.mem (vs[k]).1))
    (hprot : ∀ k (hk : k < vs.length), k + 1 < vs.length → Prot (vs[k]).1)
    (hlog : ∀ i, i < vs.length → ∀ c, Prot c → ¬ WritesTo (d.step^[i] s0).log c) :
    ∀ k (hk : k < vs.length), (d.step^[k] s0).pc = (vs[k]).1 ∧ Running d (d.step^[k] s0) ∧
      ∀ c, Prot c → (d.step^[k] s0).mem c = s0.mem c := by
  have hrange := hr.pc_range
  rw [hpc] at hrange
  have key := visits_follow (iat d P s0.mem) (topAddr d) start end_ he d.step St.pc
    (fun s => Running d s ∧ ∀ c, Prot c → s.mem c = s0.mem c) vs start _ s0 hv
    (Pos.start hrange.1 hrange.2) hpc ⟨hr, fun _ _ => rfl⟩ ?_
  · intro k hk; exact ⟨(key k hk).1, (key k hk).2.1, (key k hk).2.2⟩
  intro k hk hk1 hp hg
  obtain ⟨hg1, hg2⟩ := hg
  have hi := visits_mem _ _ _ _ vs _ _ hv vs[k] (List.getElem_mem _)
  have hfx := hg2 _ (hprot k hk hk1)
  obtain ⟨l1, l2, l3, l4⟩ := at_listed d P s0.mem _ _ _ _ hg1 hp hi (hst k hk hk1) hfx
  obtain ⟨mn, mo, hdec, hnc, _⟩ := hst k hk hk1
  have hdec' : decode d.variant ((d.step^[k] s0).mem (d.step^[k] s0).pc) = some (mn, mo) := by
    rw [hp, hfx]; exact hdec
  rw [Function.iterate_succ_apply']
  refine ⟨l1, l2, l3, l4, fun c hc => ?_⟩
  have hno := hlog (k + 1) hk1 c hc
  rw [Function.iterate_succ_apply'] at hno
  rw [(step_frame d _ hg1 mn mo hdec' hnc c).2 hno]
  exact hg2 c hc

end Py65.Proofs.Compose2
